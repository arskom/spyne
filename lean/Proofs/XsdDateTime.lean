/-
  xs:date, xs:time, xs:dateTime: what `isoformat()` writes is a literal, and a literal is read by the
  implementation's patterns field by field.
-/
import Proofs.Numeral
namespace SpyneModel

theorem xsd_zone_nil : XsdLex.zone [] = some none := by simp [XsdLex.zone]

theorem xsd_zone_fmtOffset (m : Int) (h1 : -840 ≤ m) (h2 : m ≤ 840) : XsdLex.zone (fmtOffset m) = some (some m) := by
  have hf := parseOffsetFields_fmtOffset m (by omega) []
  simp only [List.append_nil] at hf
  have hform : fmtOffset m = (if m < 0 then '-' else '+') :: (pad2 (m.natAbs / 60) ++ ':' :: pad2 (m.natAbs % 60)) := rfl
  have hZ : (if m < 0 then '-' else '+') ≠ 'Z' := by split <;> decide
  unfold XsdLex.zone
  rw [hform] at hf ⊢
  simp only [hZ, if_false, hf]
  have hb : (decide (m.natAbs / 60 < 14) && decide (m.natAbs % 60 < 60) || decide (m.natAbs / 60 = 14) && decide (m.natAbs % 60 = 0)) = true := by
    by_cases h14 : m.natAbs / 60 < 14
    · simp [h14]; omega
    · have : m.natAbs / 60 = 14 := by omega
      have : m.natAbs % 60 = 0 := by omega
      simp [*]
  simp only [List.isEmpty_nil, Bool.true_and, hb, if_true]
  by_cases hm : m < 0 <;> simp [hm] <;> omega

theorem xsd_zone_zoneText (tz : Option Int) (h : ∀ m, tz = some m → -840 ≤ m ∧ m ≤ 840) :
    XsdLex.zone (zoneText tz) = some tz := by
  cases tz with
  | none => exact xsd_zone_nil
  | some m => exact xsd_zone_fmtOffset m (h m rfl).1 (h m rfl).2

theorem xsd_dateHead_isoDate (x : Date) (hv : x.valid = true) (rest : Text) :
    XsdLex.dateHead (isoDate x ++ rest) = some (false, pad4 x.y, x.m, x.d, rest) := by
  obtain ⟨hy1, hy2, hm1, hm2, hd1, hd2⟩ := (Date.valid_iff x).1 hv
  have hd3 : x.d ≤ 31 := Nat.le_trans hd2 (daysInMonth_le _ _)
  have hp := pad4_padded x.y (by omega)
  have hform : isoDate x ++ rest = pad4 x.y ++ ('-' :: (pad2 x.m ++ '-' :: (pad2 x.d ++ rest))) := by
    simp [isoDate, List.append_assoc]
  have hc := (digit_not_sign _ (isDigit_digitChar (x.y / 1000) (by omega))).1
  have hsm : splitMinus (pad4 x.y ++ ('-' :: (pad2 x.m ++ '-' :: (pad2 x.d ++ rest)))) =
      (false, pad4 x.y ++ ('-' :: (pad2 x.m ++ '-' :: (pad2 x.d ++ rest)))) := by
    simp [splitMinus, pad4, hc]
  have hsp := spanDigits_all (pad4 x.y) hp.digits ('-' :: (pad2 x.m ++ '-' :: (pad2 x.d ++ rest)))
    (by intro c r h; simp at h; rw [← h.1]; decide)
  unfold XsdLex.dateHead
  rw [hform, hsm]
  simp only [hsp, hp.length, hp.value]
  have h0 : ¬ (x.y = 0) := by omega
  simp [h0, expect, take2_pad2 x.m (by omega), take2_pad2 x.d (by omega), hm1, hm2, hd1, hd2]

theorem xsd_timeHead_isoTime (t : Time) (hv : t.valid = true) (rest : Text) (hr : zoneStart rest) :
    XsdLex.timeHead (isoTime t ++ rest) = some (t.h, t.mi, t.s, (if t.us = 0 then [] else pad6 t.us), rest) := by
  obtain ⟨hh, hmi, hs, hus⟩ := (Time.valid_iff t).1 hv
  unfold XsdLex.timeHead isoTime
  simp only [List.append_assoc, List.cons_append, take2_pad2 t.h (by omega), expect, take2_pad2 t.mi (by omega),
    take2_pad2 t.s (by omega), if_true]
  by_cases hz : t.us = 0
  · simp only [hz, if_true, List.nil_append]
    cases rest with
    | nil => simp [XsdLex.fracDigits, hh, hmi, hs]
    | cons c r =>
      have := (hr c r rfl).2
      simp [XsdLex.fracDigits, this, hh, hmi, hs]
  · simp only [hz, if_false, List.cons_append]
    have hsp : spanDigits (pad6 t.us ++ rest) = (pad6 t.us, rest) :=
      spanDigits_all _ (pad6_all_digits _ hus) rest (fun c r h => (hr c r h).1)
    have hne := (pad6_padded _ hus).isEmpty
    simp [XsdLex.fracDigits, hsp, hne, hh, hmi, hs]

theorem xsdDateTimeLit_isoDateTime (x : DateTime) (hv : x.valid = true)
    (htz : ∀ m, x.tz = some m → -840 ≤ m ∧ m ≤ 840) :
    XsdLex.dateTimeLit (isoDateTime x) = some ⟨false, pad4 x.date.y, x.date.m, x.date.d, x.time.h, x.time.mi, x.time.s,
      (if x.time.us = 0 then [] else pad6 x.time.us), x.tz⟩ := by
  obtain ⟨hd, ht, _⟩ := (DateTime.valid_iff x).1 hv
  rw [isoDateTime_eq]
  unfold XsdLex.dateTimeLit
  rw [xsd_dateHead_isoDate x.date hd]
  simp only [expect, if_true]
  rw [xsd_timeHead_isoTime x.time ht _ (zoneStart_zoneText x.tz)]
  simp only [xsd_zone_zoneText x.tz htz]

theorem fracToMicros_lt (fs : Text) (hd : fs.all isDigit = true) : fracToMicros fs < 1000000 := by
  unfold fracToMicros
  simp only []
  by_cases hk : fs.length ≤ 6
  · simp only [hk, if_true]
    have hlt := valNat_lt_pow fs hd
    have hp : 10 ^ fs.length * 10 ^ (6 - fs.length) = 1000000 := by
      rw [← Nat.pow_add]
      have : fs.length + (6 - fs.length) = 6 := by omega
      rw [this]
    have hpos : 0 < 10 ^ (6 - fs.length) := Nat.pow_pos (by decide)
    have := Nat.mul_lt_mul_of_pos_right hlt hpos
    omega
  · simp only [hk, if_false]
    exact Nat.lt_succ_of_le (Nat.min_le_left _ _)

theorem expect_some (c : Char) (s r : Text) (h : expect c s = some r) : s = c :: r := by
  cases s with
  | nil => simp [expect] at h
  | cons x t =>
    by_cases hx : x = c
    · simp [expect, hx] at h; rw [hx, h]
    · simp [expect, hx] at h

theorem take4_of_span (s yd r : Text) (h : spanDigits s = (yd, r)) (hl : yd.length = 4) :
    take4 s = some (valNat yd, r) := by
  obtain ⟨hs, hd, _⟩ := spanDigits_eq s yd r h
  rw [hs]
  exact take4_padded ⟨hl, hd, rfl⟩ r

/-- the date part: an XSD date head with a four-digit year is what the implementation's pattern reads -/
theorem parseDateFields_of_xsd (s yd r : Text) (mo d : Nat)
    (h : XsdLex.dateHead s = some (false, yd, mo, d, r)) (hl : yd.length = 4) :
    parseDateFields s = some (⟨valNat yd, mo, d⟩, r) ∧ Date.valid ⟨valNat yd, mo, d⟩ = true := by
  unfold XsdLex.dateHead at h
  generalize hsm : splitMinus s = p at h
  obtain ⟨neg, s1⟩ := p
  simp only at h
  generalize hsd : spanDigits s1 = q at h
  obtain ⟨yd', r1⟩ := q
  simp only at h
  split at h
  · simp at h
  split at h
  · simp at h
  split at h
  · simp at h
  rename_i c1 c2 c3
  cases he1 : expect '-' r1 with
  | none => simp [he1] at h
  | some r2 =>
    simp only [he1] at h
    cases ht1 : take2 r2 with
    | none => simp [ht1] at h
    | some p1 =>
      obtain ⟨mo', r3⟩ := p1
      simp only [ht1] at h
      cases he2 : expect '-' r3 with
      | none => simp [he2] at h
      | some r4 =>
        simp only [he2] at h
        cases ht2 : take2 r4 with
        | none => simp [ht2] at h
        | some p2 =>
          obtain ⟨d', r5⟩ := p2
          simp only [ht2] at h
          split at h
          · rename_i c4
            simp only [Option.some.injEq, Prod.mk.injEq] at h
            obtain ⟨hn, hyd, hmo, hd, hr⟩ := h
            subst hn; subst hyd; subst hmo; subst hd; subst hr
            have hs1 : s1 = s := (splitMinus_eq s s1 false hsm).symm
            subst hs1
            have ht4 := take4_of_span s1 yd' r1 hsd hl
            have hlt := valNat_lt_pow yd' (spanDigits_eq s1 yd' r1 hsd).2.1
            rw [hl] at hlt
            constructor
            · simp [parseDateFields, ht4, he1, ht1, he2, ht2]
            · simp at c4
              simp [Date.valid, c4]
              omega
          · simp at h

theorem parseTimeFields_frac (s r5 fs rest : Text) (h' mi' sec' : Nat) (r1 r2 r3 r4 : Text)
    (ht1 : take2 s = some (h', r1)) (he1 : expect ':' r1 = some r2) (ht2 : take2 r2 = some (mi', r3))
    (he2 : expect ':' r3 = some r4) (ht3 : take2 r4 = some (sec', r5))
    (hm : XsdLex.fracDigits r5 = some (fs, rest)) :
    fs.all isDigit = true ∧ parseTimeFields s = some (⟨h', mi', sec', fracToMicros fs⟩, rest) := by
  cases r5 with
  | nil =>
    simp [XsdLex.fracDigits] at hm
    obtain ⟨rfl, rfl⟩ := hm
    refine ⟨by simp, ?_⟩
    simp [parseTimeFields, ht1, he1, ht2, he2, ht3, fracToMicros, valNat]
  | cons c r6 =>
    by_cases hc : c = '.'
    · subst hc
      simp only [XsdLex.fracDigits, if_true] at hm
      obtain ⟨hr6, hfd, _⟩ := spanDigits_spec r6
      by_cases hem : (spanDigits r6).1.isEmpty = true
      · simp [hem] at hm
      · simp [hem] at hm
        obtain ⟨rfl, rfl⟩ := hm
        refine ⟨hfd, ?_⟩
        simp [parseTimeFields, ht1, he1, ht2, he2, ht3, hem]
    · simp only [XsdLex.fracDigits, hc, if_false, Option.some.injEq, Prod.mk.injEq] at hm
      obtain ⟨rfl, rfl⟩ := hm
      refine ⟨by simp, ?_⟩
      have : fracToMicros [] = 0 := by simp [fracToMicros, valNat]
      rw [this]
      unfold parseTimeFields
      simp only [ht1, he1, ht2, he2, ht3]
      split
      · rename_i heq; simp at heq; exact absurd heq.1 hc
      · rfl

theorem timeHead_some (s fs r : Text) (hh mi sec : Nat) (h : XsdLex.timeHead s = some (hh, mi, sec, fs, r)) :
    ∃ r1 r2 r3 r4 r5, take2 s = some (hh, r1) ∧ expect ':' r1 = some r2 ∧ take2 r2 = some (mi, r3) ∧
      expect ':' r3 = some r4 ∧ take2 r4 = some (sec, r5) ∧ XsdLex.fracDigits r5 = some (fs, r) ∧
      ((decide (hh < 24) && decide (mi < 60) && decide (sec < 60)) ||
        (decide (hh = 24) && decide (mi = 0) && decide (sec = 0) && fs.all (fun c => decide (c = '0')))) = true := by
  unfold XsdLex.timeHead at h
  -- every branch of the recogniser that fails contradicts `h`; the one left carries the equations
  repeat' (split at h <;> try cases h)
  exact ⟨_, _, _, _, _, by assumption, by assumption, by assumption, by assumption, by assumption, by assumption,
    by assumption⟩

theorem parseTimeFields_of_xsd (s fs r : Text) (hh mi sec : Nat)
    (h : XsdLex.timeHead s = some (hh, mi, sec, fs, r)) (h24 : hh < 24) :
    parseTimeFields s = some (⟨hh, mi, sec, fracToMicros fs⟩, r) ∧ Time.valid ⟨hh, mi, sec, fracToMicros fs⟩ = true := by
  obtain ⟨r1, r2, r3, r4, r5, ht1, he1, ht2, he2, ht3, hfr, cv⟩ := timeHead_some s fs r hh mi sec h
  obtain ⟨hfd, hparse⟩ := parseTimeFields_frac s r5 fs r hh mi sec r1 r2 r3 r4 ht1 he1 ht2 he2 ht3 hfr
  refine ⟨hparse, ?_⟩
  have hus := fracToMicros_lt fs hfd
  have h24' : ¬ (hh = 24) := by omega
  simp [h24'] at cv
  simp [Time.valid, cv, hus]

theorem dateTimeLit_some (s : Text) (l : XsdLex.DtLit) (h : XsdLex.dateTimeLit s = some l) :
    ∃ r1 r2 r3, XsdLex.dateHead s = some (l.neg, l.year, l.month, l.day, r1) ∧ expect 'T' r1 = some r2 ∧
      XsdLex.timeHead r2 = some (l.hour, l.minute, l.second, l.frac, r3) ∧ XsdLex.zone r3 = some l.tz := by
  unfold XsdLex.dateTimeLit at h
  repeat' (split at h <;> try cases h)
  exact ⟨_, _, _, by assumption, by assumption, by assumption, by assumption⟩

/-- an XSD zone (up to ±14:00, at the end of the literal) is a zone the implementation's patterns read, with the same offset -/
theorem zoneEnd_of_xsd (F : Facts08) (hO : F.offsetRule = .signMagnitude) (r : Text) (tz : Option Int)
    (h : XsdLex.zone r = some tz) : zoneEnd F r = some tz := by
  cases r with
  | nil => exact h
  | cons c r =>
    rw [zoneEnd]
    simp only [XsdLex.zone] at h
    by_cases hc : c = 'Z'
    · rw [if_pos hc] at h ⊢
      split at h
      · rename_i he; rw [he, Bool.or_true, if_pos rfl]; exact h
      · cases h
    · rw [if_neg hc] at h ⊢
      cases hpo : parseOffsetFields (c :: r) with
      | none => rw [hpo] at h; cases h
      | some o =>
        obtain ⟨neg, hh, mm, r4⟩ := o
        rw [hpo] at h
        simp only at h ⊢
        split at h
        · rename_i hcond
          simp only [Bool.and_eq_true, Bool.or_eq_true, decide_eq_true_eq] at hcond
          have hb : (decide (hh > 23) || decide (mm > 59)) = false := by
            simp only [Bool.or_eq_false_iff, decide_eq_false_iff_not]; omega
          rw [hcond.1, Bool.or_true, if_pos rfl, hb, ← h, offsetValue_sm F hO]
          rfl
        · cases h

/-- an xs:dateTime literal with a four-digit year A.D. and an hour below 24 is read field by field;
    the fraction goes through `fracToMicros` (exact up to six digits) -/
theorem dateTimeFromText_xsd (F : Facts08) (hO : F.offsetRule = .signMagnitude)
    (s : Text) (l : XsdLex.DtLit) (h : XsdLex.dateTimeLit s = some l) (hneg : l.neg = false)
    (hy : l.year.length = 4) (h24 : l.hour < 24) :
    dateTimeFromText F s =
      .ok ⟨⟨valNat l.year, l.month, l.day⟩, ⟨l.hour, l.minute, l.second, fracToMicros l.frac⟩, l.tz⟩ := by
  obtain ⟨r1, r2, r3, hd, he, hth, hz⟩ := dateTimeLit_some s l h
  rw [hneg] at hd
  obtain ⟨hpd, hdv⟩ := parseDateFields_of_xsd s l.year r1 l.month l.day hd hy
  obtain ⟨hpt, htv⟩ := parseTimeFields_of_xsd r2 l.frac r3 l.hour l.minute l.second hth h24
  rw [expect_some 'T' r1 r2 he] at hpd
  rw [dateTimeFromText_stages, hpd]
  simp only [decide_true, Bool.true_or, if_true, hpt, zoneEnd_of_xsd F hO r3 l.tz hz, dtBuild, hdv, htv, Bool.and_self]

theorem exactMicros_eq (fs : Text) (hd : fs.all isDigit = true) (us : Nat) (h : XsdLex.exactMicros? fs = some us) :
    fracToMicros fs = us := by
  unfold XsdLex.exactMicros? at h
  unfold fracToMicros
  simp only []
  by_cases hk : fs.length ≤ 6
  · simp only [hk, if_true, Option.some.injEq] at h ⊢; exact h
  · simp only [hk, if_false] at h ⊢
    split at h
    · rename_i hz
      simp only [Option.some.injEq] at h
      have hpos : 0 < 10 ^ (fs.length - 6) := Nat.pow_pos (by decide)
      have h1 : 2 * (valNat fs % 10 ^ (fs.length - 6)) < 10 ^ (fs.length - 6) := by rw [hz]; omega
      simp only [h1, if_true]
      -- the quotient is below 10^6
      have hlt := valNat_lt_pow fs hd
      have hp : 10 ^ (fs.length - 6) * 1000000 = 10 ^ fs.length := by
        have : fs.length = (fs.length - 6) + 6 := by omega
        conv => rhs; rw [this, Nat.pow_add]
      have hq : valNat fs / 10 ^ (fs.length - 6) < 1000000 := by
        apply Nat.div_lt_of_lt_mul
        rw [hp]; exact hlt
      rw [← h]
      omega
    · simp at h

theorem dateTimeLit_frac_digits (s : Text) (l : XsdLex.DtLit) (h : XsdLex.dateTimeLit s = some l) :
    l.frac.all isDigit = true := by
  obtain ⟨_, r2, r3, _, _, hth, _⟩ := dateTimeLit_some s l h
  obtain ⟨r1', r2', r3', r4', r5', ht1, he1, ht2, he2, ht3, hfr, _⟩ := timeHead_some r2 _ r3 _ _ _ hth
  exact (parseTimeFields_frac r2 r5' _ r3 _ _ _ r1' r2' r3' r4' ht1 he1 ht2 he2 ht3 hfr).1

/-- every xs:dateTime literal that denotes a value a `datetime` can hold is read as that value -/
theorem dateTimeFromText_xsd_value (F : Facts08) (hO : F.offsetRule = .signMagnitude)
    (s : Text) (l : XsdLex.DtLit) (x : DateTime) (h : XsdLex.dateTimeLit s = some l) (hv : l.value? = some x) :
    dateTimeFromText F s = .ok x := by
  unfold XsdLex.DtLit.value? at hv
  split at hv
  · rename_i hc
    simp only [Bool.and_eq_true, Bool.not_eq_true', decide_eq_true_eq] at hc
    obtain ⟨⟨hneg, hy⟩, h24⟩ := hc
    cases hem : XsdLex.exactMicros? l.frac with
    | none => simp [hem] at hv
    | some us =>
      simp only [hem, Option.some.injEq] at hv
      rw [dateTimeFromText_xsd F hO s l h hneg hy h24,
        exactMicros_eq l.frac (dateTimeLit_frac_digits s l h) us hem, ← hv]
  · simp at hv

end SpyneModel
