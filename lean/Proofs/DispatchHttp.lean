/-
  Lemmas for the HTTP front end of the C11 model (SpyneModel/DispatchHttp.lean). `choosePattern` sorts the patterns by
  descending address and takes the first full match (`choose_some`), so the choice does not depend on the order in which
  the patterns were collected as long as no two matching patterns share an address (`choose_perm`); a chosen pattern runs the function it was attached to (`pattern_runs`);
  a plain-text address answers exactly that path (`matches_plain`); the `?wsdl` test (`isWsdlRequest_good`) and what a
  request that is neither is served as (`serveHttp_path`).
-/
import SpyneModel.DispatchHttp
import Proofs.Dispatch
import Proofs.InsertionSort
namespace SpyneModel.Dispatch
open SpyneModel InsertionSort

theorem insertDesc_cons (p q : Pat) (qs : List Pat) :
    insertDesc p (q :: qs) = if decide (q.addr ≤ p.addr) = true then p :: q :: qs else q :: insertDesc p qs := by
  simp only [insertDesc, decide_eq_true_eq]

theorem sortDesc_perm (l : List Pat) : (sortDesc l).Perm l :=
  sort_perm (sort := sortDesc) rfl (fun _ _ => rfl) (fun p => insert_perm (ins := insertDesc p) rfl (insertDesc_cons p)) l

def SortedDesc (l : List Pat) : Prop := l.Pairwise (fun a b => b.addr ≤ a.addr)

theorem sortDesc_sorted (l : List Pat) : SortedDesc (sortDesc l) :=
  sort_pairwise (sort := sortDesc) rfl (fun _ _ => rfl)
    (fun p => insert_pairwise (ins := insertDesc p) (S := fun a b : Pat => b.addr ≤ a.addr) rfl (insertDesc_cons p)
      (fun _ h => of_decide_eq_true h)
      (fun q h => (List.le_total q.addr p.addr).resolve_left fun h' => h (decide_eq_true h'))
      fun _ _ h1 h2 => List.le_trans h2 h1) l

/-- the chosen pattern matches the request completely and no matching pattern has a greater address -/
theorem choose_some {ps : List Pat} {verb path : Text} {p : Pat}
    (h : choosePattern ps verb path = some p) :
    p ∈ ps ∧ p.matches verb path = true ∧ ∀ q ∈ ps, q.matches verb path = true → q.addr ≤ p.addr := by
  have ⟨hm, l1, l2, hl, hno⟩ := List.find?_eq_some_iff_append.mp h
  have hs := sortDesc_sorted ps
  unfold SortedDesc at hs
  rw [hl, List.pairwise_append] at hs
  refine ⟨(sortDesc_perm ps).mem_iff.mp (by rw [hl]; simp), hm, ?_⟩
  intro q hq hqm
  have hq' : q ∈ l1 ++ p :: l2 := by rw [← hl]; exact (sortDesc_perm ps).mem_iff.mpr hq
  rcases List.mem_append.mp hq' with h1 | h1
  · have := hno q h1; simp [hqm] at this
  · rcases List.mem_cons.mp h1 with rfl | h2
    · exact List.le_refl _
    · exact (List.pairwise_cons.mp hs.2.1).1 q h2

theorem choose_none_iff {ps : List Pat} {verb path : Text} :
    choosePattern ps verb path = none ↔ ∀ p ∈ ps, p.matches verb path = false := by
  unfold choosePattern
  rw [List.find?_eq_none]
  constructor
  · intro h p hp; simpa using h p ((sortDesc_perm ps).mem_iff.mpr hp)
  · intro h p hp; simpa using h p ((sortDesc_perm ps).mem_iff.mp hp)

/-- which pattern is chosen does not depend on the order in which the patterns were collected,
    provided no two patterns that match the request share an address -/
theorem choose_perm {ps ps' : List Pat} (hp : ps.Perm ps') (verb path : Text)
    (hu : ∀ p ∈ ps, ∀ q ∈ ps, p.matches verb path = true → q.matches verb path = true →
      p.addr = q.addr → p = q) :
    choosePattern ps verb path = choosePattern ps' verb path := by
  cases h1 : choosePattern ps verb path with
  | none =>
    have := choose_none_iff.mp h1
    exact (choose_none_iff.mpr (fun p hp' => this p (hp.mem_iff.mpr hp'))).symm
  | some p =>
    cases h2 : choosePattern ps' verb path with
    | none =>
      have := choose_none_iff.mp h2 p (hp.mem_iff.mp (choose_some h1).1)
      rw [(choose_some h1).2.1] at this; cases this
    | some q =>
      have ⟨a1, a2, a3⟩ := choose_some h1
      have ⟨b1, b2, b3⟩ := choose_some h2
      have hq : q ∈ ps := hp.mem_iff.mpr b1
      have e : p.addr = q.addr := List.le_antisymm (b3 p (hp.mem_iff.mp a1) a2) (a3 q hq b2)
      rw [hu p a1 q hq a2 b2 e]

theorem matchToks_lits (s rest : Text) : matchToks (lits s) (s ++ rest) = some rest := by
  induction s with
  | nil => simp [lits, matchToks]
  | cons c s ih => simp [lits, matchToks] at ih ⊢; exact ih

theorem addrMatches_lits (s path : Text) : addrMatches (lits s) path = true ↔ path = s := by
  unfold addrMatches
  induction s generalizing path with
  | nil => cases path <;> simp [lits, matchToks]
  | cons c s ih =>
    cases path with
    | nil => simp [lits, matchToks]
    | cons x r =>
      simp only [lits, List.map_cons, matchToks]
      by_cases hx : x = c
      · subst hx; simp only [if_true]; have := ih r; simp only [lits] at this; rw [this]; simp
      · simp [hx]

theorem compileAddr_plain (s : Text) (h : ∀ c ∈ s, isOpener c = false) : compileAddr s = lits s := by
  unfold compileAddr
  induction s with
  | nil => rfl
  | cons c r ih =>
    have hc := h c (by simp)
    simp only [compileGo, hc, Bool.false_eq_true, if_false, lits, List.map_cons]
    have := ih (fun x hx => h x (by simp [hx]))
    simp only [lits] at this
    rw [this]

/-- a pattern whose address is a plain text (no placeholder) answers exactly that path -/
theorem matches_plain {p : Pat} {verb path : Text} (hp : ∀ c ∈ p.addr, isOpener c = false)
    (hm : p.matches verb path = true) : withSlash path = p.addr := by
  unfold Pat.matches at hm
  rw [Bool.and_eq_true] at hm
  rw [compileAddr_plain _ hp] at hm
  exact (addrMatches_lits _ _).mp hm.2

theorem mem_httpPatterns {r : Routes} {p : Pat} (h : p ∈ httpPatterns r) :
    ∃ k hd tl, (k, hd :: tl) ∈ r ∧ p.endpoint = hd.msgName ∧ p.efid = hd.fid := by
  unfold httpPatterns at h
  rw [List.mem_flatMap] at h
  obtain ⟨⟨k, v⟩, hkv, hp⟩ := h
  cases v with
  | nil => simp at hp
  | cons hd tl =>
    simp only [List.mem_map] at hp
    obtain ⟨va, _, e⟩ := hp
    exact ⟨k, hd, tl, hkv, by rw [← e], by rw [← e]⟩

/-- a request line that an HttpPattern answers runs the function the pattern was attached to first,
    followed by the other functions registered under that function's public name -/
theorem pattern_runs (F : Facts11) (hA : F.auxFirst = .insertFront) (hI : F.ifaceDup = .reject)
    (hQ : F.qualify = .unlessBrace) (hE : F.emptyIsNotFound = true)
    (tns : Text) (ms : List Method) (r : Routes) (hb : build F tns ms = .ok r)
    (hn : ∀ m ∈ ms, m.name.head? ≠ some '{') (hmsg : ∀ m ∈ ms, m.msgName = m.name) (verb path : Text) (p : Pat)
    (hc : choosePattern (httpPatterns r) verb path = some p) :
    httpRequest r verb path = .endpoint p.endpoint ∧
    ∃ hd tl, hd ∈ ms ∧ hd.fid = p.efid ∧ hd.name = p.endpoint ∧
      rget r (qname tns p.endpoint) = hd :: tl ∧
      serve F r tns (httpRequest r verb path) = .ran (p.efid :: tl.map (·.fid)) := by
  have hreq : httpRequest r verb path = .endpoint p.endpoint := by simp [httpRequest, hc]
  obtain ⟨k, hd, tl, hmem, he, hf⟩ := mem_httpPatterns (choose_some hc).1
  have hget := rget_of_mem r (build_keys_nodup F hA hI tns ms r hb) k (hd :: tl) hmem
  have hspec := build_routes F hA hI tns ms r hb k
  rw [hget] at hspec
  have hin : hd ∈ prims tns ms k ++ auxs tns ms k := by rw [← hspec]; simp
  have ⟨hdms, hk⟩ := mem_route.mp hin
  have he : p.endpoint = hd.name := by rw [he, hmsg hd hdms]
  have hkey : requestKey F tns (.endpoint p.endpoint) = k := by
    simp only [requestKey, requestString, qualify_good F hQ, he, hn hd hdms, if_false]
    exact hk
  refine ⟨hreq, hd, tl, hdms, hf.symm, he.symm, ?_, ?_⟩
  · rw [he]; show rget r (routeKey tns hd) = hd :: tl; rw [hk]; exact hget
  · rw [hreq, serve_eq F hE, hkey, hget]; simp [hf]

theorem isPrefix_eq (a s : Text) : isPrefix a s = a.isPrefixOf s := by
  induction a generalizing s <;> cases s <;> simp [isPrefix, List.isPrefixOf, *]

theorem isPrefix_iff (a s : Text) : isPrefix a s = true ↔ ∃ t, s = a ++ t := by
  rw [isPrefix_eq, List.isPrefixOf_iff_prefix]
  exact exists_congr fun _ => eq_comm

/-- `endsWith` is `str.endswith` -/
theorem endsWith_iff (s suf : Text) : endsWith s suf = true ↔ ∃ p, s = p ++ suf := by
  unfold endsWith
  rw [isPrefix_iff]
  constructor
  · rintro ⟨t, h⟩
    refine ⟨t.reverse, ?_⟩
    have := congrArg List.reverse h
    simpa using this
  · rintro ⟨p, rfl⟩
    exact ⟨p.reverse, by simp⟩

theorem isWsdlRequest_good (F : Facts11) (hP : F.wsdlPath = .dotWsdlSuffix) (hQ : F.wsdlQuery = .firstName)
    (hG : F.wsdlGetOnly = true) (verb path query : Text) :
    isWsdlRequest F verb path query = true ↔
      verb.map asciiUpper = "GET".toList ∧
      ((qsFirstName query).map asciiLower = "wsdl".toList ∨ ∃ p, path = p ++ ".wsdl".toList) := by
  simp only [isWsdlRequest, hP, hQ, hG, if_true, Bool.and_eq_true, Bool.or_eq_true, beq_iff_eq, endsWith_iff]

theorem serveHttp_path (F : Facts11) (r : Routes) (tns verb path query : Text)
    (hw : isWsdlRequest F verb path query = false) (hp : ∀ p ∈ httpPatterns r, p.matches verb path = false) :
    serveHttp F r tns verb path query = serve F r tns (.path path) := by
  simp [serveHttp, hw, httpRequest, choose_none_iff.mpr hp]

theorem serve_ne_wsdl (F : Facts11) (r : Routes) (tns : Text) (q : Request) : serve F r tns q ≠ .wsdl := by
  unfold serve
  split
  · split <;> simp
  · simp

end SpyneModel.Dispatch
