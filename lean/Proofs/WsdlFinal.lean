/- C07: the schema-level closure theorem. What the schema phase leaves (`SchemaFacts`, from the invariants of
   Proofs.WsdlClosed) meets what `gen … = .ok d` says of the document (`Built`, Proofs.WsdlTop). -/
import Proofs.WsdlTop
import Proofs.WsdlClosed
namespace SpyneModel.Wsdl
open SpyneModel
variable (F : Facts07) (I : IState)

theorem wfCls_all (h : ∀ i, i < I.classes.length → I.wfCls i = true) (i : Nat) : I.wfCls i = true := by
  by_cases hi : i < I.classes.length
  · exact h i hi
  · have : I.cls i = default := by
      rw [IState.cls, List.getD_eq_getElem?_getD, List.getElem?_eq_none (by omega)]
      rfl
    rw [IState.wfCls, this]
    rfl

structure ClsParts (I : IState) (i : Nat) : Prop where
  ext : ∀ b, (I.cls i).ext = some b → b < i ∧ I.typeKeyOk b = true
  attr : ∀ f ∈ (I.cls i).fields, f.isAttr = true → f.inner < i ∧ I.typeKeyOk f.inner = true
  elem : ∀ f ∈ (I.cls i).fields, f.isAttr = false → f.isData = false → f.ty < i ∧ I.refOk f.ty = true
  data : ∀ f ∈ (I.cls i).fields, f.isAttr = false → f.isData = true → f.inner < i ∧ I.refOk f.inner = true

theorem wfCls_unpack (i : Nat) (h : I.wfCls i = true) : ClsParts I i := by
  simp only [IState.wfCls, Bool.and_eq_true, List.all_eq_true] at h
  obtain ⟨⟨⟨h1, h2⟩, _⟩, _⟩ := h
  refine ⟨?_, ?_, ?_, ?_⟩
  · intro b hb
    rw [hb] at h1
    simpa using h1
  · intro f hf ha
    have := h2 f hf
    simpa [ha] using this
  · intro f hf ha hd
    have := h2 f hf
    simpa [ha, hd] using this
  · intro f hf ha hd
    have := h2 f hf
    simpa [ha, hd] using this

/-- the situation after `build_schema_nodes`, as the closure argument needs it -/
structure SchemaFacts (I : IState) (S : List Schema) (tags : List Nat) (trace : List String) : Prop where
  /-- a rendered class has its type in the schema of its namespace, whose prefix was requested -/
  typeOf : ∀ j ∈ tags, (I.cls j).kind ≠ .builtin →
    (I.cls j).ns ∈ trace ∧ ∃ s ∈ S, s.tns = (I.cls j).ns ∧ ∃ t ∈ s.types, t.name = (I.cls j).tn
  /-- a rendered complex class has its element -/
  elemOf : ∀ j ∈ tags, (I.cls j).kind = .complex →
    (I.cls j).elemNs I.tns ∈ trace ∧ ∃ s ∈ S, s.tns = (I.cls j).elemNs I.tns ∧ ∃ t ∈ s.elements, t.name = (I.cls j).elemName
  members : ∀ j ∈ tags, (I.cls j).kind = .complex → ∀ f ∈ (I.cls j).fields, f.isAttr = false → f.isData = false → f.ty ∈ tags
  dataMembers : ∀ j ∈ tags, (I.cls j).kind = .complex → ∀ f ∈ (I.cls j).fields, f.isData = true → f.inner ∈ tags
  graph : ∀ g ∈ I.graph, g ∈ tags
  /-- every type node is the node of a rendered class -/
  typesFrom : ∀ s ∈ S, ∀ t ∈ s.types, ∃ j ∈ tags, (I.cls j).kind ≠ .builtin ∧ t = nodeOf I (I.cls j)
  /-- every element node belongs to a rendered complex class or to a message -/
  elemsFrom : ∀ s ∈ S, ∀ t ∈ s.elements,
    (∃ j ∈ tags, (I.cls j).kind = .complex ∧ t = ⟨(I.cls j).elemName, typeQN (I.cls j)⟩) ∨
    (s.tns = I.tns ∧ ∃ p ∈ missingPairs I, t = ⟨p.1, typeQN (I.cls p.2)⟩)
  /-- the element of every message exists in the target namespace -/
  missing : ∀ p ∈ missingPairs I, ∃ s ∈ S, s.tns = I.tns ∧ ∃ t ∈ s.elements, t.name = p.1
  /-- one schema per namespace, one definition per type / element name in it -/
  uniqTns : (S.map (·.tns)).Nodup
  uniqTypes : ∀ s ∈ S, (s.types.map (·.name)).Nodup
  uniqElems : ∀ s ∈ S, (s.elements.map (·.name)).Nodup

theorem any_of_exists {β : Type} (items : Schema → List β) (name : β → String) (S : List Schema) (ns n : String)
    (h : ∃ s ∈ S, s.tns = ns ∧ ∃ t ∈ items s, name t = n) :
    S.any (fun s => s.tns == ns && (items s).any (fun t => name t == n)) = true := by
  obtain ⟨s, hs, h1, t, ht, h2⟩ := h
  refine List.any_eq_true.mpr ⟨s, hs, ?_⟩
  simp only [Bool.and_eq_true, beq_iff_eq, List.any_eq_true]
  exact ⟨h1, t, ht, h2⟩


section closure
variable (I : IState) (d : Doc) (tags : List Nat) (trace : List String)
variable (hdecl : ∀ ns loc, (ns ∈ trace ∨ ns = nsXsd ∨ ns = I.tns) → d.declared ⟨ns, loc⟩ = true)
include hdecl

theorem typeDefined_of_builtin (j : Nat) (h1 : (I.cls j).ns = nsXsd) (h2 : xsdBuiltins.contains (I.cls j).tn = true) :
    d.typeDefined (typeQN (I.cls j)) = true := by
  simp only [Doc.typeDefined, typeQN, h1, hdecl _ _ (Or.inr (Or.inl rfl)), Bool.true_and, Bool.or_eq_true,
    beq_self_eq_true]
  exact Or.inl h2

variable (hf : SchemaFacts I d.schemas tags trace)
include hf

theorem typeDefined_of_tagged (j : Nat) (hj : j ∈ tags) (hk : (I.cls j).kind ≠ .builtin) :
    d.typeDefined (typeQN (I.cls j)) = true := by
  obtain ⟨h1, h2⟩ := hf.typeOf j hj hk
  simp only [Doc.typeDefined, typeQN, hdecl _ _ (Or.inl h1), Bool.true_and, Bool.or_eq_true]
  exact Or.inr (any_of_exists Schema.types TypeDef.name _ _ _ h2)

theorem typeDefined_of_keyOk (b : Nat) (h : I.typeKeyOk b = true) : d.typeDefined (typeQN (I.cls b)) = true := by
  simp only [IState.typeKeyOk, Bool.or_eq_true, Bool.and_eq_true, beq_iff_eq, List.any_eq_true, bne_iff_ne, ne_eq] at h
  rcases h with ⟨⟨_, h2⟩, h3⟩ | ⟨g, hg, ⟨h1, h2⟩, h3⟩
  · exact typeDefined_of_builtin I d trace hdecl b h2 h3
  · have := typeDefined_of_tagged I d tags trace hdecl hf g (hf.graph g hg) h3
    simpa [typeQN, h1, h2] using this

theorem typeDefined_of_refOk (k : Nat) (hk : k ∈ tags) (h : I.refOk k = true) : d.typeDefined (typeQN (I.cls k)) = true := by
  by_cases hb : (I.cls k).kind = .builtin
  · simp only [IState.refOk, hb, bne_self_eq_false, Bool.false_or, Bool.and_eq_true, beq_iff_eq] at h
    exact typeDefined_of_builtin I d trace hdecl k h.1 h.2
  · exact typeDefined_of_tagged I d tags trace hdecl hf k hk hb

theorem elemDefined_of_complex (j : Nat) (hj : j ∈ tags) (hk : (I.cls j).kind = .complex) :
    d.elemDefined (elemQN I.tns (I.cls j)) = true := by
  obtain ⟨h1, h2⟩ := hf.elemOf j hj hk
  simp only [Doc.elemDefined, elemQN, hdecl _ _ (Or.inl h1), Bool.true_and]
  exact any_of_exists Schema.elements ElemDecl.name _ _ _ h2

theorem elemDefined_of_message (m : Meth) (hm : m ∈ allMethods I) (i : Nat)
    (hi : i = m.inMsg ∨ i = m.outMsg) (hns : (I.cls i).elemNs I.tns = I.tns) :
    d.elemDefined (elemQN I.tns (I.cls i)) = true := by
  have hp : ((I.cls i).elemName, i) ∈ missingPairs I := by
    simp only [missingPairs, List.mem_flatMap, List.mem_cons, List.not_mem_nil, or_false]
    refine ⟨m, hm, ?_⟩
    rcases hi with rfl | rfl
    · exact Or.inl rfl
    · exact Or.inr rfl
  have h2 := hf.missing _ hp
  simp only [Doc.elemDefined, elemQN, hns, hdecl _ _ (Or.inr (Or.inr rfl)), Bool.true_and]
  exact any_of_exists Schema.elements ElemDecl.name _ _ _ h2

variable (hw : WfParts I)
include hw

theorem node_refs_defined (j : Nat) (hj : j ∈ tags) (hk : (I.cls j).kind ≠ .builtin) (q : QN)
    (hq : q ∈ (nodeOf I (I.cls j)).refs) : d.typeDefined q = true := by
  have cp := wfCls_unpack I j (wfCls_all I hw.cls j)
  have hext : ∀ b, (I.cls j).ext = some b → d.typeDefined (typeQN (I.cls b)) = true := fun b hb =>
    typeDefined_of_keyOk I d tags trace hdecl hf b (cp.ext b hb).2
  unfold nodeOf at hq
  cases hkind : (I.cls j).kind with
  | builtin => exact absurd hkind hk
  | simple =>
    rw [hkind] at hq
    simp only [TypeDef.refs, List.map_nil, List.append_nil, Option.mem_toList] at hq
    cases he : (I.cls j).ext with
    | none => rw [he] at hq; simp at hq
    | some b => rw [he] at hq; simp only [Option.map_some, Option.some.injEq] at hq; rw [← hq]; exact hext b he
  | enum =>
    rw [hkind] at hq
    simp only [TypeDef.refs, List.map_nil, List.append_nil, Option.mem_toList, Option.some.injEq] at hq
    rw [← hq]
    have hd := hdecl nsXsd "string" (Or.inr (Or.inl rfl))
    have e : (⟨"http://www.w3.org/2001/XMLSchema", "string"⟩ : QN) = ⟨nsXsd, "string"⟩ := rfl
    rw [e]
    simp only [Doc.typeDefined, hd, Bool.true_and, Bool.or_eq_true]
    left
    decide
  | complex =>
    rw [hkind] at hq
    simp only [TypeDef.refs, List.mem_append, Option.mem_toList, List.mem_map] at hq
    rcases hq with ((hq | ⟨p, hp, rfl⟩) | ⟨a, ha, rfl⟩) | hq
    · cases he : (I.cls j).ext with
      | none => rw [he] at hq; simp at hq
      | some b => rw [he] at hq; simp only [Option.map_some, Option.some.injEq] at hq; rw [← hq]; exact hext b he
    · simp only [particlesOf, List.mem_map, List.mem_filter] at hp
      obtain ⟨f, ⟨hf', hfa⟩, rfl⟩ := hp
      have hfa' : f.isAttr = false ∧ f.isData = false := by simpa using hfa
      exact typeDefined_of_refOk I d tags trace hdecl hf f.ty (hf.members j hj hkind f hf' hfa'.1 hfa'.2)
        (cp.elem f hf' hfa'.1 hfa'.2).2
    · simp only [attrDecls, attrFields, List.mem_map, List.mem_filter] at ha
      obtain ⟨f, ⟨hf', hfa⟩, rfl⟩ := ha
      exact typeDefined_of_keyOk I d tags trace hdecl hf f.inner (cp.attr f hf' hfa).2
    · simp only [dataBasesOf, List.mem_map, List.mem_filter] at hq
      obtain ⟨f, ⟨hf', hfd⟩, rfl⟩ := hq
      by_cases hfa : f.isAttr = true
      · exact typeDefined_of_keyOk I d tags trace hdecl hf f.inner (cp.attr f hf' hfa).2
      · have hfa' : f.isAttr = false := by simpa using hfa
        exact typeDefined_of_refOk I d tags trace hdecl hf f.inner (hf.dataMembers j hj hkind f hf' hfd)
          (cp.data f hf' hfa' hfd).2

/-- **every `type=` and `base=` of the embedded schemas resolves** -/
theorem typeRefs_defined (hm : ∀ m ∈ allMethods I, MethParts I m) (q : QN) (hq : q ∈ d.typeRefs) :
    d.typeDefined q = true := by
  simp only [Doc.typeRefs, List.mem_flatMap, Schema.refs, List.mem_append, List.mem_map] at hq
  obtain ⟨s, hs, hq⟩ := hq
  rcases hq with ⟨t, ht, hq⟩ | ⟨el, hel, rfl⟩
  · obtain ⟨j, hj, hk, rfl⟩ := hf.typesFrom s hs t ht
    exact node_refs_defined I d tags trace hdecl hf hw j hj hk q hq
  · rcases hf.elemsFrom s hs el hel with ⟨j, hj, hk, rfl⟩ | ⟨_, p, hp, rfl⟩
    · exact typeDefined_of_tagged I d tags trace hdecl hf j hj (by rw [hk]; intro hc; cases hc)
    · simp only [missingPairs, List.mem_flatMap, List.mem_cons, List.not_mem_nil, or_false] at hp
      obtain ⟨m, hm', hp⟩ := hp
      have mp := hm m hm'
      rcases hp with rfl | rfl
      · rcases mp.inOk with ⟨h1, h2⟩ | h
        · exact typeDefined_of_tagged I d tags trace hdecl hf _ (hf.graph _ h1) (by rw [h2]; intro hc; cases hc)
        · exact typeDefined_of_keyOk I d tags trace hdecl hf _ h
      · rcases mp.outOk with ⟨h1, h2⟩ | h
        · exact typeDefined_of_tagged I d tags trace hdecl hf _ (hf.graph _ h1) (by rw [h2]; intro hc; cases hc)
        · exact typeDefined_of_keyOk I d tags trace hdecl hf _ h

end closure


theorem ranked_of_wf (hw : WfParts I) : Ranked I := by
  intro i hi f hf
  have cp := wfCls_unpack I i (hw.cls i hi)
  refine ⟨fun ha hd => (cp.elem f hf ha hd).1, fun hd => ?_⟩
  by_cases ha : f.isAttr = true
  · exact (cp.attr f hf ha).1
  · exact (cp.data f hf (by simpa using ha) hd).1

theorem map_name_eq_keys {β : Type} (l : List (String × β)) (name : β → String) (h : ∀ kv ∈ l, name kv.2 = kv.1) :
    (l.map (·.2)).map name = l.map (·.1) := by
  induction l with
  | nil => rfl
  | cons x r ih =>
    simp only [List.map_cons, List.cons.injEq]
    exact ⟨h x List.mem_cons_self, ih (fun kv hkv => h kv (List.mem_cons_of_mem _ hkv))⟩

/-- schemas that render a table of named entries per namespace (the types, or the elements): every entry of the
    table is in the schema of its namespace under its name, and a schema holds the entries of one row -/
theorem table_corr {β ρ : Type} (proj : Schema → List β) (name : β → String) (key : ρ → String)
    (row : ρ → List (String × β)) (schemas : List Schema) (tab : List ρ)
    (hcorr : schemas.map (fun s => (s.tns, proj s)) = tab.map (fun r => (key r, (row r).map (·.2))))
    (hname : ∀ r ∈ tab, ∀ t ∈ row r, name t.2 = t.1) :
    (∀ r ∈ tab, ∀ n ∈ (row r).map (·.1), ∃ s ∈ schemas, s.tns = key r ∧ ∃ t ∈ proj s, name t = n) ∧
    (∀ s ∈ schemas, ∃ r ∈ tab, s.tns = key r ∧ proj s = (row r).map (·.2)) := by
  constructor
  · intro r hr n hn
    have : (key r, (row r).map (·.2)) ∈ schemas.map (fun s => (s.tns, proj s)) := by
      rw [hcorr]; exact List.mem_map.mpr ⟨_, hr, rfl⟩
    obtain ⟨s, hs, he⟩ := List.mem_map.mp this
    obtain ⟨e, he', rfl⟩ := List.mem_map.mp hn
    injection he with e1 e2
    exact ⟨s, hs, e1, e.2, by rw [e2]; exact List.mem_map.mpr ⟨e, he', rfl⟩, hname _ hr e he'⟩
  · intro s hs
    have : (s.tns, proj s) ∈ tab.map (fun r => (key r, (row r).map (·.2))) := by
      rw [← hcorr]; exact List.mem_map.mpr ⟨s, hs, rfl⟩
    obtain ⟨r, hr, he⟩ := List.mem_map.mp this
    injection he with e1 e2
    exact ⟨r, hr, e1.symm, e2.symm⟩

/-- the correspondence of `schemaLoop_ok`, types and elements apart -/
theorem corr_split : ∀ (ss : List Schema) (infos : List (String × SInfo)), ss.map projS = infos.map projI →
    ss.map (fun s => (s.tns, s.types)) = infos.map (fun kv => (kv.1, kv.2.types.map (·.2))) ∧
    ss.map (fun s => (s.tns, s.elements)) = infos.map (fun kv => (kv.1, kv.2.elements.map (·.2)))
  | [], [], _ => ⟨rfl, rfl⟩
  | [], _ :: _, h => by cases h
  | _ :: _, [], h => by cases h
  | s :: ss, kv :: infos, h => by
    simp only [List.map_cons, List.cons.injEq] at h ⊢
    obtain ⟨t, e⟩ := corr_split ss infos h.2
    exact ⟨⟨congrArg (fun p => (p.1, p.2.1)) h.1, t⟩, ⟨congrArg (fun p => (p.1, p.2.2)) h.1, e⟩⟩

theorem schemaFacts_of_build (e : Enum) (he : e.Valid) (I : IState) (hw : WfParts I)
    (schemas : List Schema) (tr : List String) (hb : buildSchemas F e I = .ok (schemas, tr)) :
    ∃ tags trace, SchemaFacts I schemas tags trace ∧ ∀ x ∈ trace, x ∈ tr := by
  obtain ⟨tiers, ss, tr', s0, rest, ht, hs, hss, hsch, htr⟩ := buildSchemas_ok F e I schemas tr hb
  have hord := topo_complete F e he I.reprKey I.deps tiers ht
  obtain ⟨hnew, _, htags⟩ : New I ⟨[], [(I.tns, ⟨[], []⟩)], []⟩ (schemaState I tiers) ∧ _ ∧
      ∀ i ∈ tiers.flatten, i ∈ (schemaState I tiers).tags :=
    mainLoop_new I (ranked_of_wf I hw) tiers.flatten (fun i hi => hw.graph i ((hord i).mp hi)) _
  obtain ⟨hTF, hEF⟩ := from_schemaState I tiers
  obtain ⟨info0, irest, hinfos⟩ := headTns_schemaState I tiers
  have hkn := keysNodup_schemaState I tiers
  generalize schemaState I tiers = st at hnew htags hTF hEF hinfos hkn hs hsch htr
  obtain ⟨cT, cE⟩ := corr_split ss st.infos (schemaLoop_ok F e I st.infos ss tr' hs)
  have hlook : st.infos.lookup I.tns = some info0 := by rw [hinfos]; simp [List.lookup]
  rw [hlook] at hsch htr
  simp only [Option.getD_some] at hsch htr
  generalize hE : missingLoop I (missingPairs I) (info0.elements, []) = E at hsch htr
  have h0mem : (I.tns, info0) ∈ st.infos := by rw [hinfos]; exact List.mem_cons_self
  have hrest : ∀ kv ∈ irest, kv ∈ st.infos := fun kv h => by rw [hinfos]; exact List.mem_cons_of_mem _ h
  obtain ⟨typeS, typeR⟩ := table_corr Schema.types TypeDef.name (·.1) (·.2.types) schemas st.infos
    (by rw [hsch]; rw [hss] at cT; exact cT)
    (fun kv hkv t ht' => by obtain ⟨j, _, _, _, rfl⟩ := hTF kv hkv t ht'; exact nodeOf_name I _)
  -- the elements are those of the table, with the message elements added to the target namespace
  have hc0t : s0.tns = I.tns := by
    rw [hss, hinfos] at cE
    exact congrArg Prod.fst (List.cons.inj cE).1
  have hEl : ∀ kv ∈ (I.tns, (⟨info0.types, E.1⟩ : SInfo)) :: irest, ∀ t ∈ kv.2.elements,
      ElemR I st.tags kv.1 t ∨ (kv.1 = I.tns ∧ ∃ p ∈ missingPairs I, t = (p.1, ⟨p.1, typeQN (I.cls p.2)⟩)) := by
    intro kv hkv t ht'
    rcases List.mem_cons.mp hkv with rfl | hkv
    · rw [← hE] at ht'
      rcases (missingLoop_spec I _ _).2.1 t ht' with h | ⟨p, hp, rfl⟩
      · exact Or.inl (hEF _ h0mem t h)
      · exact Or.inr ⟨rfl, p, hp, rfl⟩
    · exact Or.inl (hEF kv (hrest kv hkv) t ht')
  obtain ⟨elemS, elemR⟩ := table_corr Schema.elements ElemDecl.name (·.1) (·.2.elements) schemas
    ((I.tns, (⟨info0.types, E.1⟩ : SInfo)) :: irest)
    (by
      rw [hss, hinfos] at cE
      rw [hsch, List.map_cons, List.map_cons, hc0t]
      exact congrArg _ (List.cons.inj cE).2)
    (fun kv hkv t ht' => by
      rcases hEl kv hkv t ht' with ⟨j, _, _, _, rfl⟩ | ⟨_, p, _, rfl⟩ <;> rfl)
  -- a type or element name of the tables is a name in the schema of its namespace
  have hT : ∀ ns tn, HasType st.infos ns tn → ∃ s ∈ schemas, s.tns = ns ∧ ∃ t ∈ s.types, t.name = tn :=
    fun ns tn ⟨info, hi, hn⟩ => typeS (ns, info) hi tn hn
  have hE' : ∀ ns n, HasElem st.infos ns n → ∃ s ∈ schemas, s.tns = ns ∧ ∃ t ∈ s.elements, t.name = n := by
    intro ns n ⟨info, hi, hn⟩
    rw [hinfos] at hi
    rcases List.mem_cons.mp hi with hi | hi
    · injection hi with e1 e2
      subst e1; subst e2
      obtain ⟨kv, hkv, hk1⟩ := List.mem_map.mp hn
      exact elemS _ List.mem_cons_self n
        (List.mem_map.mpr ⟨kv, by rw [← hE]; exact (missingLoop_spec I _ _).2.2.1 kv hkv, hk1⟩)
    · exact elemS _ (List.mem_cons_of_mem _ hi) n hn
  -- every tagged class is complete; a complex one gives the three facts about its element and members
  have done : ∀ j ∈ st.tags, Done I st j := fun j hj => (hnew j hj).elim (fun h => nomatch h) id
  have cplx := fun j hj (hk : (I.cls j).kind = .complex) =>
    ((done j hj).resolve_left (by rw [hk]; nofun)).2.2 hk
  refine ⟨st.tags, st.trace,
    ⟨fun j hj hk => ((done j hj).resolve_left hk).elim fun h1 h => ⟨h.1, hT _ _ h1⟩,
      fun j hj hk => ⟨(cplx j hj hk).2.1, hE' _ _ (cplx j hj hk).1⟩, fun j hj hk => (cplx j hj hk).2.2.1,
      fun j hj hk => (cplx j hj hk).2.2.2, fun g hg => htags g ((hord g).mpr hg), ?_, ?_, ?_, ?_, ?_, ?_⟩, ?_⟩
  · intro s hs' t ht'
    obtain ⟨kv, hkv, _, e2⟩ := typeR s hs'
    rw [e2] at ht'
    obtain ⟨kt, hkt, rfl⟩ := List.mem_map.mp ht'
    obtain ⟨j, hj, hk, _, rfl⟩ := hTF kv hkv kt hkt
    exact ⟨j, hj, hk, rfl⟩
  · intro s hs' t ht'
    obtain ⟨kv, hkv, e1, e2⟩ := elemR s hs'
    rw [e2] at ht'
    obtain ⟨kt, hkt, rfl⟩ := List.mem_map.mp ht'
    rcases hEl kv hkv kt hkt with ⟨j, hj, hk, _, rfl⟩ | ⟨h1, p, hp, rfl⟩
    · exact Or.inl ⟨j, hj, hk, rfl⟩
    · exact Or.inr ⟨e1.trans h1, p, hp, rfl⟩
  · intro p hp
    have := ((missingLoop_spec I (missingPairs I) (info0.elements, [])).2.2.2 p.1).mpr (Or.inr ⟨p, hp, rfl⟩)
    rw [hE] at this
    exact elemS _ List.mem_cons_self p.1 this
  · have := congrArg (List.map Prod.fst) cT
    simp only [List.map_map, Function.comp_def] at this
    rw [hss] at this
    rw [hsch]
    exact this ▸ hkn.1
  · intro s hs'
    obtain ⟨kv, hkv, _, e2⟩ := typeR s hs'
    rw [e2, map_name_eq_keys _ _ (fun t ht' => by obtain ⟨j, _, _, _, rfl⟩ := hTF kv hkv t ht'; exact nodeOf_name I _)]
    exact (hkn.2 _ hkv).1
  · intro s hs'
    obtain ⟨kv, hkv, _, e2⟩ := elemR s hs'
    rw [e2, map_name_eq_keys _ _ (fun t ht' => by
      rcases hEl kv hkv t ht' with ⟨j, _, _, _, rfl⟩ | ⟨_, p, _, rfl⟩ <;> rfl)]
    rcases List.mem_cons.mp hkv with rfl | h
    · rw [← hE]
      exact (missingLoop_spec I _ _).1 (hkn.2 _ h0mem).2
    · exact (hkn.2 _ (hrest kv h)).2
  · intro x hx
    rw [htr]
    exact List.mem_append_left _ (List.mem_append_left _ hx)


/-- **every `type=`, `base=` and `element=` reference resolves** to a definition in the document or an XSD builtin,
    and is written with a declared prefix -/
theorem schema_refs_closed_general (hM : F.messageDedup = .perDocument) (e : Enum) (he : e.Valid) (I : IState) (url : String) (d : Doc)
    (h : gen F e I url = .ok d) (hwf : I.wf = true) :
    (∀ q ∈ d.typeRefs, d.typeDefined q = true) ∧ (∀ q ∈ d.elemRefs, d.elemDefined q = true) := by
  obtain ⟨tr, hd⟩ := gen_built F hM e I url d h
  have hw := wf_unpack I hwf
  obtain ⟨tags, trace, hf, htr⟩ := schemaFacts_of_build F e he I hw d.schemas tr hd.schemas
  have hdecl : ∀ ns loc, (ns ∈ trace ∨ ns = nsXsd ∨ ns = I.tns) → d.declared ⟨ns, loc⟩ = true :=
    fun ns loc hk => hd.declared hw ns loc (hk.imp_left (htr ns))
  have hm : ∀ m ∈ allMethods I, MethParts I m := fun m hm => wfMeth_unpack I m (hw.meth m hm)
  refine ⟨fun q hq => typeRefs_defined I d tags trace hdecl hf hw hm q hq, ?_⟩
  intro q hq
  simp only [Doc.elemRefs, hd.messages, List.mem_flatMap, List.mem_map] at hq
  obtain ⟨msg, hmsg, p, hp, rfl⟩ := hq
  obtain ⟨r, hr, rfl⟩ := (messagesOf_spec I).1 msg hmsg
  obtain ⟨m, hmm, hrm⟩ := List.mem_flatMap.mp hr
  simp only [partsOf, List.mem_map] at hp
  obtain ⟨i, hi, rfl⟩ := hp
  have mp := hm m hmm
  rcases request_obj I m r hrm i hi with rfl | rfl | hi
  · exact elemDefined_of_message I d tags trace hdecl hf m hmm _ (Or.inl rfl) mp.inNs
  · exact elemDefined_of_message I d tags trace hdecl hf m hmm _ (Or.inr rfl) mp.outNs
  · obtain ⟨hg, hk⟩ := mp.hdrs i hi
    exact elemDefined_of_complex I d tags trace hdecl hf i (hf.graph i hg) hk

end SpyneModel.Wsdl
