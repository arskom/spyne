/-
  Double: the wrapper around `repr(float)` / `float(str)`; numeric xs:double literals are none of `float()`'s special spellings.
-/
import Proofs.Numeral
namespace SpyneModel

/-- `float()` reads the three special literals of xs:double as the special values -/
theorem pyFloatSpecial_literals {α : Type} :
    pyFloatSpecial (α := α) "NaN".toList = some .nan ∧ pyFloatSpecial (α := α) "INF".toList = some (.inf false) ∧
    pyFloatSpecial (α := α) "-INF".toList = some (.inf true) :=
  ⟨rfl, rfl, rfl⟩

theorem doubleFromText_doubleToText {α : Type} (reprF : α → Text) (parseF : Text → Option (Dbl α))
    (hbij : ∀ x, parseF (reprF x) = some (.fin x)) (hns : ∀ x, pyFloatSpecial (α := α) (reprF x) = none)
    (v : Dbl α) : doubleFromText parseF (doubleToText reprF v) = .ok v := by
  cases v with
  | nan => rw [doubleToText, doubleFromText, pyFloatSpecial_literals.1]
  | inf neg =>
    cases neg
    · rw [doubleToText, doubleFromText, pyFloatSpecial_literals.2.1]
    · rw [doubleToText, doubleFromText, pyFloatSpecial_literals.2.2]
  | fin x => rw [doubleToText, doubleFromText, hns x, hbij x]

/-- first character of the unsigned part of a numeric literal -/
def numHead (c : Char) : Bool := isDigit c || c = '.'

theorem numHead_props (c : Char) (h : numHead c = true) :
    isPyAsciiSpace c = false ∧ asciiLower c = c ∧ c ≠ 'i' ∧ c ≠ 'n' ∧ c ≠ '-' ∧ c ≠ '+' := by
  simp only [numHead, Bool.or_eq_true, decide_eq_true_eq] at h
  rcases h with h | h
  · refine ⟨not_space_of_digit c h, ?_, ?_, ?_, ?_, ?_⟩
    · simp [isDigit] at h
      have : ¬ (65 ≤ c.toNat ∧ c.toNat ≤ 90) := by omega
      simp [asciiLower, this]
    all_goals (intro e; subst e; simp [isDigit] at h)
  · subst h; decide

theorem doubleNumeric_head (s : Text) (h : XsdLex.doubleNumeric s = true) :
    ∃ c r, (splitSign s).2 = c :: r ∧ numHead c = true := by
  unfold XsdLex.doubleNumeric at h
  obtain ⟨hb, hipd, _⟩ := spanDigits_spec (splitSign s).2
  generalize hsd : spanDigits (splitSign s).2 = p at h hb hipd
  obtain ⟨ip, r1⟩ := p
  simp only at h hb hipd
  generalize hof : optFrac r1 = q at h
  obtain ⟨fp, r2⟩ := q
  simp only [Bool.and_eq_true] at h
  cases ip with
  | cons c t =>
    rw [List.all_cons, Bool.and_eq_true] at hipd
    exact ⟨c, t ++ r1, by rw [hb]; simp, by simp [numHead, hipd.1]⟩
  | nil =>
    simp only [List.nil_append] at hb
    cases r1 with
    | nil => simp [optFrac] at hof; simp [← hof.1] at h
    | cons c r =>
      by_cases hc : c = '.'
      · exact ⟨c, r, hb, by simp [numHead, hc]⟩
      · simp [optFrac, hc] at hof
        simp [← hof.1] at h

/-- a numeric xs:double literal starts (after its sign) with a digit or the point, so it is none of `float()`'s
    special spellings -/
theorem pyFloatSpecial_numeric {α : Type} (s : Text) (h : XsdLex.doubleNumeric s = true) :
    pyFloatSpecial (α := α) s = none := by
  obtain ⟨c, r, hs, hc⟩ := doubleNumeric_head s h
  obtain ⟨hsp, hlow, hi, hn, hm, hp⟩ := numHead_props c hc
  obtain ⟨a, neg, body, hsa, hsplit, ha⟩ := splitSign_form s
  rw [hsplit] at hs
  simp only at hs
  subst hs
  have hstrip : ∃ r', stripSpace s = a ++ c :: r' := by
    have hdw : s.dropWhile isPyAsciiSpace = s := by
      rw [hsa]
      cases ha
      · exact dropWhile_head_false c r hsp
      · exact dropWhile_head_false '-' _ (by decide)
      · exact dropWhile_head_false '+' _ (by decide)
    unfold stripSpace
    rw [hdw, hsa]
    exact rstrip_keep a c r hsp
  obtain ⟨r', hst⟩ := hstrip
  unfold pyFloatSpecial
  rw [hst]
  have hmap : (a ++ c :: r').map asciiLower = a ++ c :: r'.map asciiLower := by
    have l1 : asciiLower '-' = '-' := by decide
    have l2 : asciiLower '+' = '+' := by decide
    cases ha <;> simp [hlow, l1, l2]
  rw [hmap, splitSign_append a neg ha c _ ⟨hm, hp⟩]
  have n1 : (c :: r'.map asciiLower) ≠ "inf".toList := by intro e; simp at e; exact hi e.1
  have n2 : (c :: r'.map asciiLower) ≠ "infinity".toList := by intro e; simp at e; exact hi e.1
  have n3 : (c :: r'.map asciiLower) ≠ "nan".toList := by intro e; simp at e; exact hn e.1
  simp only [n1, n2, n3, decide_false, Bool.or_false, Bool.false_eq_true, if_false]

end SpyneModel
