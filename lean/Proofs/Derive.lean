/-
  C15 proofs: the frame relation and the heap updates read back.
  `Ext n na T h h'`: going from heap `h` to `h'`, no class with id below `n` outside `T` changed, and no
  `Attributes` record below `na` changed its public part (own writes, parent).
  The model programs are reasoned about through the triples of Proofs/DeriveLogic (`Run`); the `_ok` equivalences at
  the end only say what each primitive of the monad `M` does on a run that returns.
-/
import SpyneModel.DeriveApply
namespace SpyneModel.Derive

/-- what identifies a class for the variants discipline -/
def Cls.core (cl : Cls) : Kind × Nat × Option Nat := (cl.kind, cl.attrs, cl.orig)

theorem lt_of_getElem? {β : Type} {l : List β} {i : Nat} {x : β} (e : l[i]? = some x) : i < l.length :=
  (List.getElem?_eq_some_iff.mp e).1

theorem Heap.updCls_cls (h : Heap) (c : Nat) (f : Cls → Cls) (j : Nat) :
    (h.updCls c f).cls[j]? = if j = c then (h.cls[j]?).map f else h.cls[j]? := by
  unfold Heap.updCls
  cases hcl : h.cls[c]? with
  | none => by_cases e : j = c <;> simp [e, hcl]
  | some cl =>
    by_cases e : j = c
    · simp [e, hcl, List.getElem?_set_self (lt_of_getElem? hcl)]
    · simp [e, List.getElem?_set_ne (Ne.symm e)]

theorem Heap.updCls_rest (h : Heap) (c : Nat) (f : Cls → Cls) :
    (h.updCls c f).attrs = h.attrs ∧ (h.updCls c f).prots = h.prots ∧ (h.updCls c f).cls.length = h.cls.length := by
  unfold Heap.updCls
  split <;> simp

/-- `updCells` writes the cells of one record and leaves its public part alone -/
theorem Heap.updCells_attrs (h : Heap) (a : Nat) (f : AttrRec → AttrRec) (j : Nat) :
    (h.updCells a f).attrs[j]? = if j = a then (h.attrs[j]?).map (fun r =>
      { f r with own := r.own, parent := r.parent, colArgs := r.colArgs, colRef := r.colRef }) else h.attrs[j]? := by
  unfold Heap.updCells
  cases hr : h.attrs[a]? with
  | none => by_cases e : j = a <;> simp [e, hr]
  | some r =>
    by_cases e : j = a
    · simp [e, hr, List.getElem?_set_self (lt_of_getElem? hr)]
    · simp [e, List.getElem?_set_ne (Ne.symm e)]

theorem Heap.updCells_rest (h : Heap) (a : Nat) (f : AttrRec → AttrRec) :
    (h.updCells a f).cls = h.cls ∧ (h.updCells a f).prots = h.prots
      ∧ (h.updCells a f).attrs.length = h.attrs.length := by
  unfold Heap.updCells
  split <;> simp

structure Ext (n na : Nat) (T : List Nat) (h h' : Heap) : Prop where
  clsLen : h.cls.length ≤ h'.cls.length
  attrsLen : h.attrs.length ≤ h'.attrs.length
  cls : ∀ c, c < n → c ∉ T → h'.cls[c]? = h.cls[c]?
  attrs : ∀ a, a < na → (h'.attrs[a]?).map AttrRec.pub = (h.attrs[a]?).map AttrRec.pub
  /-- family, `Attributes` record and original of a class never change, not even for the classes in `T` -/
  core : ∀ c, c < n → (h'.cls[c]?).map Cls.core = (h.cls[c]?).map Cls.core
  /-- the `type_attrs` dicts of the protocol objects are never written -/
  prots : h'.prots = h.prots

theorem Ext.refl (n na : Nat) (T : List Nat) (h : Heap) : Ext n na T h h :=
  ⟨Nat.le_refl _, Nat.le_refl _, fun _ _ _ => rfl, fun _ _ => rfl, fun _ _ => rfl, rfl⟩

theorem Ext.trans {n na : Nat} {T : List Nat} {h h' h'' : Heap}
    (a : Ext n na T h h') (b : Ext n na T h' h'') : Ext n na T h h'' :=
  ⟨Nat.le_trans a.clsLen b.clsLen, Nat.le_trans a.attrsLen b.attrsLen,
   fun c hc ht => (b.cls c hc ht).trans (a.cls c hc ht),
   fun x hx => (b.attrs x hx).trans (a.attrs x hx),
   fun c hc => (b.core c hc).trans (a.core c hc),
   b.prots.trans a.prots⟩

variable {n na : Nat} {T : List Nat}

/-- the measured fact that a derived class gets its own deep copy of `sqla_column_args` -/
class DeepCopy (F : Facts15) : Prop where
  deep : F.colCopy = .deep
  /-- ... and that `customize(prot=p)` merges the keywords into a copy of the protocol's `type_attrs` -/
  protCopied : F.protCopy = .copied
  /-- ... and that only class statements register with the class they extend -/
  subsClasses : F.subsRule = .classStatementsOnly

theorem Ext.cls_core {h h' : Heap} (e : Ext n na T h h') {c : Nat} {cl : Cls} (hc : h.cls[c]? = some cl) (hn : c < n) :
    ∃ cl', h'.cls[c]? = some cl' ∧ cl'.kind = cl.kind ∧ cl'.attrs = cl.attrs ∧ cl'.orig = cl.orig := by
  have hcore := e.core c hn
  rw [hc] at hcore
  cases hc' : h'.cls[c]? with
  | none => simp [hc'] at hcore
  | some cl' =>
    simp only [hc', Option.map_some, Option.some.injEq, Cls.core, Prod.mk.injEq] at hcore
    exact ⟨cl', rfl, hcore⟩

theorem Ext.mono {n' na' : Nat} {h h' : Heap} (e : Ext n na T h h') (hn : n' ≤ n) (hna : na' ≤ na) :
    Ext n' na' T h h' :=
  ⟨e.clsLen, e.attrsLen, fun c hc => e.cls c (by omega), fun a ha => e.attrs a (by omega),
   fun c hc => e.core c (by omega), e.prots⟩

theorem ext_append (h : Heap) (cs : List Cls) (rs : List AttrRec) :
    Ext h.cls.length h.attrs.length T h { h with cls := h.cls ++ cs, attrs := h.attrs ++ rs } :=
  ⟨by simp, by simp, fun _ hc _ => List.getElem?_append_left hc,
   fun _ ha => congrArg _ (List.getElem?_append_left ha), fun _ hc => congrArg _ (List.getElem?_append_left hc), rfl⟩

theorem ext_updCls (h : Heap) (c : Nat) (f : Cls → Cls) (hc : n ≤ c ∨ c ∈ T)
    (hf : ∀ cl, (f cl).kind = cl.kind ∧ (f cl).attrs = cl.attrs ∧ (f cl).orig = cl.orig) :
    Ext n na T h (h.updCls c f) := by
  obtain ⟨ha, hp, hl⟩ := h.updCls_rest c f
  refine ⟨Nat.le_of_eq hl.symm, by rw [ha]; exact Nat.le_refl _, ?_, fun _ _ => by rw [ha], ?_, hp⟩
  · intro x hx ht
    rw [h.updCls_cls, if_neg]
    rintro rfl
    exact hc.elim (by omega) ht
  · intro x _
    rw [h.updCls_cls]
    split
    · cases h.cls[x]? <;> simp [Cls.core, hf]
    · rfl

theorem ext_updCells (h : Heap) (a : Nat) (f : AttrRec → AttrRec) : Ext n na T h (h.updCells a f) := by
  obtain ⟨hc, hp, hl⟩ := h.updCells_rest a f
  refine ⟨by rw [hc]; exact Nat.le_refl _, Nat.le_of_eq hl.symm, fun _ _ _ => by rw [hc], ?_, fun _ _ => by rw [hc], hp⟩
  intro x _
  rw [h.updCells_attrs]
  split
  · cases h.attrs[x]? <;> simp [AttrRec.pub]
  · rfl

/-! the primitives of `M` on a run that returns: one equivalence each (`simp only` with them turns `prog h = .ok h' a`
    into the equations between the heaps and values on the way) -/
section ok
variable {α β : Type} {h g : Heap}

theorem bind_ok {m : M α} {f : α → M β} {b : β} :
    (m >>= f) h = .ok g b ↔ ∃ h1 a, m h = .ok h1 a ∧ f a h1 = .ok g b := by
  simp only [Bind.bind, M.bind]
  cases m h with
  | ok h1 a => exact ⟨fun e => ⟨h1, a, rfl, e⟩, fun ⟨_, _, e1, e2⟩ => (Res.ok.inj e1).1 ▸ (Res.ok.inj e1).2 ▸ e2⟩
  | err h1 e => exact ⟨nofun, nofun⟩

theorem pure_ok {a b : α} : (pure a : M α) h = .ok g b ↔ h = g ∧ a = b := by
  simp [Pure.pure, M.pure]

theorem fail_ok {e : String} {b : α} : (fail e : M α) h = .ok g b ↔ False := by simp [fail]

theorem getHeap_ok {x : Heap} : getHeap h = .ok g x ↔ h = g ∧ h = x := by simp [getHeap]

theorem getCls_ok {c : Nat} {cl : Cls} : getCls c h = .ok g cl ↔ h = g ∧ h.cls[c]? = some cl := by
  unfold getCls
  cases h.cls[c]? <;> simp [and_comm]

theorem guardNone_ok {e : Option String} {u : Unit} : guardNone e h = .ok g u ↔ h = g ∧ e = none := by
  cases e <;> simp [guardNone, fail_ok, pure_ok]

theorem liftExcept_ok {x : Except String α} {a : α} : liftExcept x h = .ok g a ↔ h = g ∧ x = .ok a := by
  cases x <;> simp [liftExcept, fail_ok, pure_ok]

theorem allocAttrs_ok {r : AttrRec} {a : Nat} :
    allocAttrs r h = .ok g a ↔ { h with attrs := h.attrs ++ [r] } = g ∧ h.attrs.length = a := by simp [allocAttrs]

theorem allocCls_ok {c : Cls} {n : Nat} :
    allocCls c h = .ok g n ↔ { h with cls := h.cls ++ [c] } = g ∧ h.cls.length = n := by simp [allocCls]

theorem updCls_ok {c : Nat} {f : Cls → Cls} {u : Unit} : updCls c f h = .ok g u ↔ h.updCls c f = g := by
  simp [updCls]

end ok

end SpyneModel.Derive
