/-
  `leafLaws_good`: the leaf laws hold for every `F` whose switches have their good values.  `roundtrip` collects the
  write/read lemmas of Proofs/Prim and Proofs/Binary, case by case over `PrimTy.valueOk_cases`.  `sound`, `soft` and
  `nocrash` come from one walk through each parser: `Outcome.Sat P` says "no crash, and a value, if any, has `P`", so
  a single `…_sat` lemma per parser (with `P` the facet the parser guarantees) yields all three in `leaf_sat`.
-/
import Proofs.Leaf
import Proofs.Prim
import Proofs.Binary
import Proofs.Types
namespace SpyneModel

/-- a parser outcome that is not a crash and whose value, if there is one, has the property `P` -/
def Outcome.Sat {α} (P : α → Prop) : Outcome α → Prop
  | .ok a => P a
  | .fault => True
  | .crash _ => False

theorem Outcome.Sat.nocrash {α} {P : α → Prop} {o : Outcome α} (h : o.Sat P) (e : String) : o ≠ .crash e := by
  intro he; rw [he] at h; exact h

theorem Outcome.Sat.of_ok {α} {P : α → Prop} {o : Outcome α} {a : α} (h : o.Sat P) (he : o = .ok a) : P a := by
  rw [he] at h; exact h

theorem Outcome.Sat.map {α β} {P : α → Prop} {Q : β → Prop} {o : Outcome α} (f : α → β) (h : o.Sat P)
    (hf : ∀ a, P a → Q (f a)) : (o.map f).Sat Q := by
  cases o with
  | ok a => exact hf a h
  | fault => trivial
  | crash e => exact h

theorem optToOutcome_sat {α} {P : α → Prop} (o : Option α) (h : ∀ a, o = some a → P a) : (optToOutcome o).Sat P := by
  cases o with
  | none => trivial
  | some a => exact h a rfl

theorem intFromText_sat (F : Facts08) (k : IntKind) (s : Text) :
    (intFromText F k s).Sat (fun _ => s.length ≤ F.intMaxStrLen k) := by
  unfold intFromText
  split
  · trivial
  · split
    · show _ ≤ _; omega
    · trivial

theorem boolFromText_sat (F : Facts08) (hB : F.boolLex = .strict) (s : Text) : (boolFromText F s).Sat (fun _ => True) := by
  unfold boolFromText; rw [hB]; dsimp only
  split
  · trivial
  · split <;> trivial

theorem timeCtor_sat (F : Facts08) (hR : F.rangeErrorsAreFaults = true) (t : Time) :
    (timeCtor F t).Sat (·.valid = true) := by
  unfold timeCtor; rw [hR]
  split
  · assumption
  · trivial

theorem timeFromText_sat (F : Facts08) (hR : F.rangeErrorsAreFaults = true) (s : Text) :
    (timeFromText F s).Sat (·.valid = true) := by
  unfold timeFromText
  split
  · trivial
  · split
    · split
      · exact timeCtor_sat F hR _
      · split
        · exact timeCtor_sat F hR _
        · trivial
    · exact timeCtor_sat F hR _

theorem strptimeDate_valid (s : Text) (x : Date) (h : strptimeDate s = some x) : x.valid = true := by
  unfold strptimeDate at h
  repeat (split at h <;> try cases h)
  assumption

theorem dateFromText_sat (F : Facts08) (hR : F.rangeErrorsAreFaults = true) (s : Text) :
    (dateFromText F s).Sat (·.valid = true) := by
  unfold dateFromText; rw [hR]
  split
  · exact strptimeDate_valid s _ (by assumption)
  · split
    · trivial
    · split
      · split
        · trivial
        · split
          · assumption
          · trivial
      · trivial

theorem offsetValue_bound (F : Facts08) (hF : F.offsetRule = .signMagnitude) (neg : Bool) (hh mm : Nat)
    (h1 : hh ≤ 23) (h2 : mm ≤ 59) : -1440 < offsetValue F neg hh mm ∧ offsetValue F neg hh mm < 1440 := by
  rw [offsetValue_sm F hF]; cases neg <;> simp <;> omega

/-- an offset the patterns accept is one a `datetime` can carry -/
theorem zoneEnd_bound (F : Facts08) (hF : F.offsetRule = .signMagnitude) (r : Text) (m : Int)
    (h : zoneEnd F r = some (some m)) : -1440 < m ∧ m < 1440 := by
  unfold zoneEnd at h
  split at h
  · cases h
  · split at h
    · split at h
      · cases h; omega
      · cases h
    · split at h
      · split at h
        · split at h
          · cases h
          · rename_i neg hh mm _ _ _ hb
            cases h
            simp at hb
            exact offsetValue_bound F hF neg hh mm (by omega) (by omega)
        · cases h
      · split at h <;> cases h

theorem dtBuild_sat (F : Facts08) (hR : F.rangeErrorsAreFaults = true) (d : Date) (t : Time) (tz : Option Int)
    (htz : ∀ m, tz = some m → -1440 < m ∧ m < 1440) : (dtBuild F d t tz).Sat (·.valid = true) := by
  unfold dtBuild; rw [hR]
  split
  · rename_i hv
    rw [Bool.and_eq_true] at hv
    exact (DateTime.valid_iff _).2 ⟨hv.1, hv.2, htz⟩
  · trivial

/-- every stage that fails is a fault; when all succeed the constructor checks the fields, and the zone stage
    only yields offsets within a day -/
theorem dateTimeFromText_sat (F : Facts08) (hF : F.offsetRule = .signMagnitude)
    (hR : F.rangeErrorsAreFaults = true) (s : Text) : (dateTimeFromText F s).Sat (·.valid = true) := by
  rw [dateTimeFromText_stages]
  split
  · split
    · split
      · cases hz : zoneEnd F _ with
        | none => trivial
        | some tz => exact dtBuild_sat F hR _ _ tz (fun m e => zoneEnd_bound F hF _ m (by rw [hz, e]))
      · trivial
    · trivial
  · trivial

/-- the bounds are `timedelta.min` and `timedelta.max` in microseconds (`-(999999999 * usPerDay)`, `maxDurUs`) -/
theorem durFromText_sat (F : Facts08) (hD : F.durParse = .exactDecimal) (s : Text) :
    (durFromText F s).Sat (fun us => -86399999913600000000 ≤ us ∧ us ≤ 86399999999999999999) := by
  unfold durFromText; rw [hD]; dsimp only
  split
  · trivial
  · split
    · trivial
    · split
      · trivial
      · rename_i l h1 h2
        simp [maxDurUs, usPerDay] at h1 h2
        show _ ∧ _
        split
        · rename_i hn; simp [hn] at h2; omega
        · omega

theorem bytesOk_of_all (bs : List Nat) (h : bs.all (fun b => decide (b < 256)) = true) : bytesOk bs := by
  intro b hb; simp at h; exact h b hb

theorem leaf_roundtrip (F : Facts08) (G : F.Good) (p : PrimTy) (v : Val)
    (h : p.valueOk v = true) (hf : leafFits F p v = true) :
    ∃ s, leafToText F p v = some s ∧ leafFromText F p s = .ok v := by
  induction p, v, h using PrimTy.valueOk_cases with
  | int k r i hlo hhi _ _ =>
    refine ⟨intToText i, rfl, ?_⟩
    have : intFromText F k (intToText i) = .ok i := by
      cases k
      case unbounded => exact intFromText_intToText F _ i (by simpa [leafFits] using hf)
      all_goals
        exact intFromText_intToText F _ i
          (Nat.le_trans (intText_length_bounded _ i _ _ rfl rfl (hlo _ rfl) (hhi _ rfl)) (G.msl _))
    simp [leafFromText, this, Outcome.map]
  | bool b _ => exact ⟨_, rfl, by simp [leafFromText, boolFromText_boolToText, Outcome.map]⟩
  | str a b c d s _ => exact ⟨_, rfl, rfl⟩
  | date d hd => exact ⟨_, rfl, by simp [leafFromText, dateFromText_isoDate F _ hd, Outcome.map]⟩
  | time t ht => exact ⟨_, rfl, by simp [leafFromText, timeFromText_isoTime F _ ht, Outcome.map]⟩
  | dt x hx => exact ⟨_, rfl, by simp [leafFromText, dateTimeFromText_isoDateTime F G.offset _ hx, Outcome.map]⟩
  | dur us hlo hhi _ => exact ⟨_, rfl, by simp [leafFromText, durFromText_durToText F G.frac G.dur _ hlo hhi, Outcome.map]⟩
  | bytes enc bs hb _ =>
    cases enc
    · exact ⟨_, rfl, by simp [leafFromText, b64dec_b64enc false bs hb, optToOutcome, Outcome.map]⟩
    · exact ⟨_, rfl, by simp [leafFromText, hexdec_hexenc bs hb, optToOutcome, Outcome.map]⟩
    · exact ⟨_, rfl, by simp [leafFromText, b64dec_b64enc true bs hb, optToOutcome, Outcome.map]⟩
  | enum names n hn => exact ⟨_, rfl, by simp only [leafFromText, hn, if_true]⟩

theorem intFromText_len (F : Facts08) (k : IntKind) (s : Text) (i : Int) (h : intFromText F k s = .ok i) :
    s.length ≤ F.intMaxStrLen k :=
  (intFromText_sat F k s).of_ok h

/-- every leaf parser at once: no crash, a value of the declared kind, and on it the code's two-stage validation
    decides exactly the declared facets -/
theorem leaf_sat (F : Facts08) (G : F.Good) (p : PrimTy) (s : Text) :
    (leafFromText F p s).Sat
      (fun v => p.kindOk v = true ∧ (validateString F p s && validateNative p v) = p.valueOk v) := by
  cases p with
  | integer k r =>
    refine (intFromText_sat F k s).map _ (fun i hi => ⟨rfl, ?_⟩)
    simp only [validateString, validateNative, PrimTy.valueOk, hi, decide_true, Bool.true_and]
    cases r.holds i <;> simp <;> rfl
  | boolean => exact (boolFromText_sat F G.bool s).map _ (fun _ _ => ⟨rfl, rfl⟩)
  | unicode a b c d =>
    refine ⟨rfl, ?_⟩
    simp only [validateString, validateNative, PrimTy.valueOk, Bool.and_assoc]
    rfl
  | date =>
    exact (dateFromText_sat F G.range s).map _
      (fun d hd => ⟨rfl, by simp [validateString, validateNative, PrimTy.valueOk, hd]⟩)
  | time =>
    exact (timeFromText_sat F G.range s).map _
      (fun d hd => ⟨rfl, by simp [validateString, validateNative, PrimTy.valueOk, hd]⟩)
  | dateTime =>
    exact (dateTimeFromText_sat F G.offset G.range s).map _
      (fun d hd => ⟨rfl, by simp [validateString, validateNative, PrimTy.valueOk, hd]⟩)
  | duration =>
    exact (durFromText_sat F G.dur s).map _
      (fun d hd => ⟨rfl, by simp [validateString, validateNative, PrimTy.valueOk, hd.1, hd.2]⟩)
  | bytes enc =>
    cases enc
    · exact (optToOutcome_sat _ (b64dec_bytes false s)).map _
        (fun bs hb => ⟨rfl, by simpa [validateString, validateNative, PrimTy.valueOk] using (by simpa using hb)⟩)
    · exact (optToOutcome_sat _ (hexdec_bytes s)).map _
        (fun bs hb => ⟨rfl, by simpa [validateString, validateNative, PrimTy.valueOk] using (by simpa using hb)⟩)
    · exact (optToOutcome_sat _ (b64dec_bytes true s)).map _
        (fun bs hb => ⟨rfl, by simpa [validateString, validateNative, PrimTy.valueOk] using (by simpa using hb)⟩)
  | enum names =>
    show Outcome.Sat _ (if names.contains s then Outcome.ok (Val.enum s) else Outcome.fault)
    split
    · simp_all [Outcome.Sat, PrimTy.kindOk, validateString, validateNative, PrimTy.valueOk]
    · trivial

theorem natText_ne_nil' (n : Nat) : natText n ≠ [] := natText_ne_nil n

theorem leaf_emptyText (F : Facts08) (p : PrimTy) (v : Val) (h : p.valueOk v = true)
    (he : leafToText F p v = some []) : v = .str [] ∨ v = .bytes [] ∨ v = .enum [] := by
  induction p, v, h using PrimTy.valueOk_cases with
  | int k r i _ _ _ _ =>
    simp [leafToText, intToText, intText] at he
    split at he
    · cases he
    · exact absurd he (natText_ne_nil _)
  | bool b _ => cases b <;> simp [leafToText, boolToText] at he
  | str a b c d s _ => simp [leafToText] at he; simp [he]
  | date d _ => simp [leafToText, isoDate, pad4] at he
  | time t _ => simp [leafToText, isoTime, pad2] at he
  | dt x _ => simp [leafToText, isoDateTime, isoDate, pad4] at he
  | dur us _ _ _ =>
    simp only [leafToText, Option.some.injEq] at he
    unfold durToText at he
    dsimp only at he
    split at he
    · split at he <;> simp at he
    · split at he
      · split at he <;> simp at he
      · split at he <;> simp at he
  | bytes enc bs _ _ =>
    cases bs with
    | nil => simp
    | cons b bs =>
      cases enc <;> simp [leafToText, hexenc] at he
      all_goals (cases bs with
        | nil => simp [b64enc] at he
        | cons c cs => cases cs <;> simp [b64enc] at he)
  | enum names n _ => simp [leafToText] at he; simp [he]

theorem leafLaws_good (F : Facts08) (G : F.Good) : LeafLaws F where
  roundtrip := leaf_roundtrip F G
  sound := fun p s _ h => ((leaf_sat F G p s).of_ok h).1
  soft := fun p s _ h => ((leaf_sat F G p s).of_ok h).2
  nocrash := fun p s e => (leaf_sat F G p s).nocrash e
  emptyText := leaf_emptyText F

end SpyneModel
