/-
  The layers above the tree codec — dispatch on the request tag (XmlDocument), the SOAP envelope — stated
  without any property of the codec. Forward: on the request written for a method they hand the request
  element to `from_element` at the method's in-message class (`xmlServerDecode_request`,
  `soapServerDecode_request`). Backward: on every document, whatever they answer beyond a Client fault is
  what `from_element` answered on some element of it (`*_ok`, `*_crash`). Round trip, type soundness, soft
  acceptance and crash freedom of the servers are these composed with the theorem about `from_element`.
-/
import Proofs.XmlBasic
import SpyneModel.Soap
namespace SpyneModel

theorem Outcome.map_eq_ok {α β} {f : α → β} {o : Outcome α} {b : β} (h : o.map f = .ok b) :
    ∃ a, o = .ok a ∧ f a = b := by
  cases o with
  | ok a => exact ⟨a, rfl, Outcome.ok.inj h⟩
  | fault => cases h
  | crash e => cases h

theorem Outcome.map_eq_crash {α β} {f : α → β} {o : Outcome α} {e : String} (h : o.map f = .crash e) :
    o = .crash e := by
  cases o with
  | ok a => cases h
  | fault => cases h
  | crash e' => exact congrArg _ (Outcome.crash.inj h)

namespace Xml
open Soap

variable (F : Facts08) (X : FactsXml) (S : FactsSoap) (cfg : Cfg) (I : Iface) (ver : Version) (ms : Methods)

/-- dispatch: no method for the tag is a Client fault; otherwise the outcome is `from_element`'s at the
    in-message class of the method the tag names, paired with that method's key -/
theorem xmlServerDecode_eq (doc : Node) :
    xmlServerDecode F X cfg I ms doc =
      match ms.lookup (methodKey I doc) with
      | none => .fault
      | some t => (fromElement F X cfg I t doc).map (Prod.mk (methodKey I doc)) := by
  unfold xmlServerDecode
  cases ms.lookup (methodKey I doc) with
  | none => rfl
  | some t => dsimp only; cases fromElement F X cfg I t doc <;> rfl

theorem methodKey_of {e : Node} {name : Text} (hns : e.ns = I.tns) (hn : e.name = name) :
    methodKey I e = clark I.tns name := by
  unfold methodKey
  rw [hns, hn]
  split <;> rfl

theorem toParent_tag {ns name : Text} {t : Ty} {v : Val} {e : Node} (he : e ∈ toParent F cfg I ns name t v) :
    e.ns = ns ∧ e.name = name :=
  ⟨(toParent_shape F cfg I ns name t v e he).1, (toParent_shape F cfg I ns name t v e he).2.1⟩

/-- XmlDocument server: the element written for method `name` is read at the in-message class of `name` -/
theorem xmlServerDecode_request {name : Text} {t t' : Ty} {v : Val} {e : Node}
    (he : toParent F cfg I I.tns name t' v = [e]) (hm : ms.lookup (clark I.tns name) = some t) :
    xmlServerDecode F X cfg I ms e = (fromElement F X cfg I t e).map (Prod.mk (clark I.tns name)) := by
  obtain ⟨hns, hn⟩ := toParent_tag F cfg I (he ▸ List.mem_singleton_self e)
  rw [xmlServerDecode_eq, methodKey_of I hns hn, hm]

/-- an envelope whose first Body element starts with a request element is dispatched on that element -/
theorem soapServerDecode_body (doc b e : Node) (bs es : List Node)
    (hd : doc.ns = envNs ver ∧ doc.name = "Envelope".toList)
    (hb : childrenNamed (envNs ver) "Body".toList doc = b :: bs) (hc : b.children = e :: es)
    (hf : ¬ (e.ns = envNs ver ∧ e.name = "Fault".toList)) :
    soapServerDecode F X S cfg I ver ms doc = xmlServerDecode F X cfg I ms e := by
  have hf' : (decide (e.ns = envNs ver) && decide (e.name = "Fault".toList)) = false := by
    cases h1 : decide (e.ns = envNs ver) <;> cases h2 : decide (e.name = "Fault".toList) <;>
      first | rfl | exact absurd ⟨of_decide_eq_true h1, of_decide_eq_true h2⟩ hf
  unfold soapServerDecode
  simp only [hd.1, hd.2, hb, hc, hf', decide_true, Bool.and_self, Bool.not_true, Bool.false_eq_true, if_false,
    List.isEmpty_cons, Bool.and_false]

/-- with or without a Header (`envelopeH ver none` is `envelope ver`) -/
theorem soapServerDecode_envelopeH (hdr : Option (List Node)) (e : Node)
    (hf : ¬ (e.ns = envNs ver ∧ e.name = "Fault".toList)) :
    soapServerDecode F X S cfg I ver ms (envelopeH ver hdr [e]) = xmlServerDecode F X cfg I ms e := by
  refine soapServerDecode_body F X S cfg I ver ms _ (.elem (envNs ver) "Body".toList [] none [e]) e [] []
    (by cases hdr <;> exact ⟨rfl, rfl⟩) ?_ rfl hf
  cases hdr <;> simp [childrenNamed, envelopeH, envelope, Node.children, Node.ns, Node.name]

/-- Soap11 / Soap12 server: the same through Envelope / Body -/
theorem soapServerDecode_request {name : Text} {t t' : Ty} {v : Val} {e : Node} (hdr : Option (List Node))
    (he : toParent F cfg I I.tns name t' v = [e]) (hm : ms.lookup (clark I.tns name) = some t)
    (hnf : ¬ (I.tns = envNs ver ∧ name = "Fault".toList)) :
    soapServerDecode F X S cfg I ver ms (envelopeH ver hdr [e]) =
      (fromElement F X cfg I t e).map (Prod.mk (clark I.tns name)) := by
  obtain ⟨hns, hn⟩ := toParent_tag F cfg I (he ▸ List.mem_singleton_self e)
  rw [soapServerDecode_envelopeH F X S cfg I ver ms hdr e (by rw [hns, hn]; exact hnf),
    xmlServerDecode_request F X cfg I ms he hm]

/-- the layers are transparent for the round trip: whatever value `w` the request element is read back as,
    the server hands `w` to the method the request was written for -/
theorem xmlServerDecode_rt {name : Text} {t t' : Ty} {v w : Val} (hm : ms.lookup (clark I.tns name) = some t)
    (h : ∃ e, toParent F cfg I I.tns name t' v = [e] ∧ fromElement F X cfg I t e = .ok w) :
    ∃ e, toParent F cfg I I.tns name t' v = [e] ∧ xmlServerDecode F X cfg I ms e = .ok (clark I.tns name, w) :=
  let ⟨e, he, hd⟩ := h
  ⟨e, he, (xmlServerDecode_request F X cfg I ms he hm).trans (congrArg _ hd)⟩

theorem soapServerDecode_rt {name : Text} {t t' : Ty} {v w : Val} (hdr : Option (List Node))
    (hm : ms.lookup (clark I.tns name) = some t) (hnf : ¬ (I.tns = envNs ver ∧ name = "Fault".toList))
    (h : ∃ e, toParent F cfg I I.tns name t' v = [e] ∧ fromElement F X cfg I t e = .ok w) :
    ∃ e, toParent F cfg I I.tns name t' v = [e] ∧
      soapServerDecode F X S cfg I ver ms (envelopeH ver hdr [e]) = .ok (clark I.tns name, w) :=
  let ⟨e, he, hd⟩ := h
  ⟨e, he, (soapServerDecode_request F X S cfg I ver ms hdr he hm hnf).trans (congrArg _ hd)⟩

/-- whatever the XmlDocument server hands to a function, `from_element` made of the document at the
    in-message class of that function -/
theorem xmlServerDecode_ok {doc : Node} {k : Text} {v : Val} (h : xmlServerDecode F X cfg I ms doc = .ok (k, v)) :
    ∃ t, ms.lookup k = some t ∧ fromElement F X cfg I t doc = .ok v := by
  rw [xmlServerDecode_eq] at h
  split at h
  · cases h
  · rename_i t hm
    obtain ⟨w, hw, hkv⟩ := Outcome.map_eq_ok h
    cases hkv
    exact ⟨t, hm, hw⟩

theorem xmlServerDecode_crash {doc : Node} {e : String} (h : xmlServerDecode F X cfg I ms doc = .crash e) :
    ∃ t, fromElement F X cfg I t doc = .crash e := by
  rw [xmlServerDecode_eq] at h
  split at h
  · cases h
  · exact ⟨_, Outcome.map_eq_crash h⟩

/-- the envelope handling ends in a Client fault, in the AttributeError of the unguarded empty Body, or in
    the XmlDocument dispatch on the first child of the Body -/
theorem soapServerDecode_cases (doc : Node) :
    soapServerDecode F X S cfg I ver ms doc = .fault ∨
    (S.emptyBodyGuard = false ∧ soapServerDecode F X S cfg I ver ms doc = .crash "AttributeError") ∨
    ∃ body, soapServerDecode F X S cfg I ver ms doc = xmlServerDecode F X cfg I ms body := by
  have crash : ¬ S.emptyBodyGuard = true → S.emptyBodyGuard = false := Bool.eq_false_iff.mpr
  generalize hr : soapServerDecode F X S cfg I ver ms doc = r
  unfold soapServerDecode at hr
  split at hr
  · exact Or.inl hr.symm
  · dsimp only at hr
    split at hr
    · exact Or.inl hr.symm
    · split at hr
      · split at hr
        · exact Or.inl hr.symm
        · exact Or.inr (Or.inl ⟨crash ‹_›, hr.symm⟩)
      · split at hr
        · split at hr
          · exact Or.inl hr.symm
          · exact Or.inr (Or.inl ⟨crash ‹_›, hr.symm⟩)
        · split at hr
          · exact Or.inl hr.symm
          · exact Or.inr (Or.inr ⟨_, hr.symm⟩)

/-- whatever the SOAP server hands to a function, `from_element` made of an element of the document at the
    in-message class of that function -/
theorem soapServerDecode_ok {doc : Node} {k : Text} {v : Val}
    (h : soapServerDecode F X S cfg I ver ms doc = .ok (k, v)) :
    ∃ t body, ms.lookup k = some t ∧ fromElement F X cfg I t body = .ok v := by
  rcases soapServerDecode_cases F X S cfg I ver ms doc with h' | ⟨_, h'⟩ | ⟨body, h'⟩
  · rw [h'] at h; cases h
  · rw [h'] at h; cases h
  · obtain ⟨t, hm, hd⟩ := xmlServerDecode_ok F X cfg I ms (h' ▸ h)
    exact ⟨t, body, hm, hd⟩

/-- with the empty-Body guard, an exception that escapes the SOAP server escaped `from_element` -/
theorem soapServerDecode_crash (hS : S.emptyBodyGuard = true) {doc : Node} {e : String}
    (h : soapServerDecode F X S cfg I ver ms doc = .crash e) : ∃ t body, fromElement F X cfg I t body = .crash e := by
  rcases soapServerDecode_cases F X S cfg I ver ms doc with h' | ⟨h', _⟩ | ⟨body, h'⟩
  · rw [h'] at h; cases h
  · rw [hS] at h'; cases h'
  · obtain ⟨t, hd⟩ := xmlServerDecode_crash F X cfg I ms (h' ▸ h)
    exact ⟨t, body, hd⟩

end Xml
end SpyneModel
