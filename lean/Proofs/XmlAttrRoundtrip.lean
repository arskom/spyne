/-
  C01 for classes with XmlAttribute / XmlData members: the decoder reads back what the encoder wrote —
  element members as child elements, attribute members from the element's attributes, the data member from
  its text — for every conformant value and every validator setting (`xml_roundtrip_attrs`).
-/
import Proofs.XmlAttrBasic
import Proofs.XmlAttrRules
import Proofs.XmlRoundtrip
namespace SpyneModel
namespace Xml


theorem toParentA_single {F : Facts08} (L : LeafLaws F) (tns ns name : Text) (t : TyA) (v : Val)
    {strict : Bool} (hok : okOneA strict t v = true) (hfit : fitsV F v = true) :
    ∃ e, toParentA F tns ns name t v = [e] := by
  cases v with
  | none => exact ⟨_, rfl⟩
  | obj cls vs =>
    cases t with
    | obj cname cns cb fields o => exact ⟨_, rfl⟩
    | _ => simp [okOneA] at hok
  | list vs =>
    cases t with
    | arr member elem o => exact ⟨_, rfl⟩
    | _ => simp [okOneA] at hok
  | _ =>
    rw [okOneA_leaf rfl (by simp)] at hok
    rw [toParentA_leaf rfl (by simp)]
    cases t with
    | prim p o =>
      simp only [leafOk, Bool.and_eq_true] at hok
      obtain ⟨s, hto, _⟩ := L.roundtrip p _ hok.1 (leafFits_of_fitsV F p _ hfit)
      exact ⟨.elem ns name [] (mkText s) [], by simp only [hto]⟩
    | _ => cases hok

theorem itemsA_length {F : Facts08} (L : LeafLaws F) (tns ns name : Text) (t : TyA)
    {strict : Bool} (vs : List Val) (hok : okItemsA strict t vs = true) (hfit : fitsItemsV F vs = true) :
    (itemsA F tns ns name t vs).length = vs.length := by
  induction vs with
  | nil => simp [itemsA]
  | cons v vs ih =>
    simp only [okItemsA, Bool.and_eq_true] at hok
    simp only [fitsItemsV, Bool.and_eq_true] at hfit
    obtain ⟨e, he⟩ := toParentA_single L tns ns name t v hok.1 hfit.1
    simp [itemsA, he, ih hok.2 hfit.2]

theorem memberNodesA_count {F : Facts08} (L : LeafLaws F) (tns cns k : Text) (t : TyA) (v : Val)
    {strict : Bool} (hw : occWf t.occ = true) (hok : fieldOkA strict .element t v = true)
    (hfit : fitsV F v = true) : t.occ.countOk (memberNodesA F tns cns k t v).length = true := by
  by_cases hr : t.occ.repeated = true
  · rcases fieldOkA_rep hr hok with ⟨hv, hmin⟩ | ⟨items, hv, hcnt, hitems⟩
    · subst hv
      simp [memberNodesA, hmin, Occ.countOk]
      cases t.occ.maxOccurs <;> simp
    · subst hv
      simp only [memberNodesA, hr, if_true]
      rw [itemsA_length L tns cns k t items hitems hfit]
      exact hcnt
  · have hr' : t.occ.repeated = false := by simpa using hr
    obtain ⟨hmax, hmin⟩ := nonrep_occ hr' hw
    cases v with
    | none =>
      simp only [memberNodesA]
      split
      · simp [Occ.countOk, hmax, hmin]
      · rename_i h
        have : t.occ.minOccurs = 0 := by omega
        simp [Occ.countOk, hmax, this]
    | _ =>
      rw [memberNodesA_nonrep F tns cns k t _ hr' (by simp)]
      simp only [fieldOkA] at hok
      rw [okA_nonrep hr'] at hok
      obtain ⟨e, he⟩ := toParentA_single L tns cns k t _ hok hfit
      simp [he, Occ.countOk, hmax, hmin]


/-- what the round trip needs from the environment -/
structure RtCtxA (F : Facts08) (X : FactsXml) (A : FactsAttr) (cfg : Cfg) : Prop where
  L : LeafLaws F
  /-- under soft validation `unicode_from_element` validates `''` for an empty element -/
  hE : cfg.soft = true → X.emptyStringText = true
  /-- `xsi:nil="true"` is read as nil (holds for both measured nil rules) -/
  hN : isNil X [(xsiNilKey, "true".toList)] = true
  /-- the attributes of a child element are the child's -/
  hLeak : A.childAttrsIgnored = true
  /-- under soft validation an attribute member occurs when the element carries the attribute -/
  hSoft : cfg.soft = true → A.attrSoftChecked = true

theorem modifier_rt {F : Facts08} (L : LeafLaws F) (A : FactsAttr) (cfg : Cfg) (p : PrimTy) (v : Val)
    (hval : p.valueOk v = true) (hfit : fitsV F v = true) :
    ∃ s, leafToText F p v = some s ∧ modifierValue F A cfg p s = .ok v := by
  obtain ⟨s, hto, hfrom, _⟩ := L.text hval (leafFits_of_fitsV F p v hfit)
  refine ⟨s, hto, ?_⟩
  rw [modifierValue_eq L]
  split
  · exact leafSpec_eq_ok.mpr ⟨hfrom, hval⟩
  · exact hfrom

theorem valueOk_ne_none (p : PrimTy) (v : Val) (h : p.valueOk v = true) : v ≠ .none :=
  PrimTy.valueOk_ne_none h

theorem attrOne_none (F : Facts08) (k : Text) (t : TyA) : attrOne F k t .none = [] := by
  cases t <;> simp [attrOne]

theorem attrOne_some (F : Facts08) (k : Text) (p : PrimTy) (o : Occ) (v : Val) (s : Text) (hv : v ≠ .none)
    (hto : leafToText F p v = some s) : attrOne F k (.prim p o) v = [(k, s)] := by
  cases v <;> simp_all [attrOne]

theorem dataOne_none (F : Facts08) (t : TyA) (cur : Option Text) : dataOne F t .none cur = cur := by
  unfold dataOne dataStep
  cases t <;> (dsimp only; split <;> rfl)

theorem dataOne_some (F : Facts08) (p : PrimTy) (o : Occ) (v : Val) (s : Text) (cur : Option Text) (hv : v ≠ .none)
    (hto : leafToText F p v = some s) : dataOne F (.prim p o) v cur = mkText s := by
  cases v <;> simp_all [dataOne, dataStep]

theorem dataAttrs_nil (t : TyA) (v : Val) (h : v = .none → t.occ.minOccurs = 0) : dataAttrs t v = [] := by
  cases v <;> simp_all [dataAttrs]

theorem dataNorm_of_text {F : Facts08} (L : LeafLaws F) (p : PrimTy) (v : Val) (s : Text) (hwf : primWf p = true)
    (hval : p.valueOk v = true) (hto : leafToText F p v = some s) :
    (s = [] → dataNorm v = .none) ∧ (s ≠ [] → dataNorm v = v) := by
  constructor
  · intro hs
    subst hs
    rcases L.emptyText p v hval hto with hv | hv | hv
    · subst hv; rfl
    · subst hv; rfl
    · subst hv
      cases p <;> simp [PrimTy.valueOk] at hval
      simp [primWf, hval] at hwf
  · intro hs
    cases v with
    | str x =>
      cases x with
      | nil =>
        cases p <;> simp [PrimTy.valueOk] at hval
        exact absurd (Option.some.inj hto).symm hs
      | cons c cs => rfl
    | bytes x =>
      cases x with
      | nil =>
        cases p <;> simp [PrimTy.valueOk] at hval
        rw [leafToText_bytes_nil] at hto
        exact absurd (Option.some.inj hto).symm hs
      | cons c cs => rfl
    | _ => rfl


/-- the instance at one stage of `complex_from_element`: the slot of each member holds `g` of its kind, type and
    written value, with `g` one of the three stages below. (Fewer values than members: the initial instance; a
    conformant object never is that short.) -/
def stWith (g : MKind → TyA → Val → Val) : List (Text × MKind × TyA) → List (Text × Val) → List (Text × Val)
  | (k, kind, t) :: fs, (_, v) :: vs => (k, g kind t v) :: stWith g fs vs
  | [], _ => []
  | f :: fs, [] => initStateA (f :: fs)

/-- after `_xml_tag_body_as` -/
def slotData (kind : MKind) (_t : TyA) (v : Val) : Val := match kind with | .data => dataNorm v | _ => .none
/-- after the child loop -/
def slotMid (kind : MKind) (t : TyA) (v : Val) : Val :=
  match kind with | .element => normA t v | .attribute => .none | .data => dataNorm v
/-- after the attribute loop -/
def slotFin (kind : MKind) (t : TyA) (v : Val) : Val :=
  match kind with | .element => normA t v | .attribute => v | .data => dataNorm v

theorem stWith_cons (g : MKind → TyA → Val → Val) (k k' : Text) (kind : MKind) (t : TyA) (v : Val)
    (fs : List (Text × MKind × TyA)) (vs : List (Text × Val)) :
    stWith g ((k, kind, t) :: fs) ((k', v) :: vs) = (k, g kind t v) :: stWith g fs vs := rfl

theorem stWith_fin {strict : Bool} : (fs : List (Text × MKind × TyA)) → (vs : List (Text × Val)) →
    okFieldsA strict fs vs = true → stWith slotFin fs vs = normFieldsA fs vs
  | [], [], _ => by simp [stWith, normFieldsA]
  | [], _ :: _, h => by simp [okFieldsA] at h
  | _ :: _, [], h => by simp [okFieldsA] at h
  | (k, kind, t) :: fs, (k', v) :: vs, h => by
    rw [okFieldsA_cons] at h
    simp only [Bool.and_eq_true, decide_eq_true_eq] at h
    obtain ⟨⟨hk, _⟩, hr⟩ := h
    subst hk
    simp only [stWith, normFieldsA, stWith_fin fs vs hr]
    cases kind <;> rfl

theorem stWith_data_nodata : (fs : List (Text × MKind × TyA)) → (vs : List (Text × Val)) → noKind .data fs = true →
    stWith slotData fs vs = initStateA fs
  | [], _, _ => by simp [stWith, initStateA]
  | _ :: _, [], _ => by simp [stWith]
  | (k, kind, t) :: fs, (k', v) :: vs, h => by
    rw [noKind_cons] at h
    simp only [Bool.and_eq_true, decide_eq_true_eq] at h
    simp only [stWith, initStateA_cons, stWith_data_nodata fs vs h.2]
    match kind, h with
    | .element, _ => rfl
    | .attribute, _ => rfl
    | .data, h => exact absurd rfl h.1


theorem keys_append_single (done : List (Text × Val)) (k : Text) (x : Val) : keys (done ++ [(k, x)]) = keys done ++ [k] := by
  simp [keys]

/-- induction over the members of a class together with the values an instance holds for them -/
theorem okFieldsA_ind {F : Facts08} {strict : Bool} {P : List (Text × MKind × TyA) → List (Text × Val) → Prop}
    (nil : P [] [])
    (cons : ∀ k kind t v fs vs, k ∉ fieldNamesA fs → tyWfA t = true → fieldOkA strict kind t v = true →
      fitsV F v = true → P fs vs → P ((k, kind, t) :: fs) ((k, v) :: vs)) :
    (fs : List (Text × MKind × TyA)) → (vs : List (Text × Val)) → namesNodupA fs = true → wfFieldsA fs = true →
    okFieldsA strict fs vs = true → fitsFieldsV F vs = true → P fs vs
  | [], [], _, _, _, _ => nil
  | [], _ :: _, _, _, h, _ => by simp [okFieldsA] at h
  | _ :: _, [], _, _, h, _ => by simp [okFieldsA] at h
  | (k, kind, t) :: fs, (k', v) :: vs, hnd, hwf, hok, hfit => by
    rw [okFieldsA_cons] at hok
    simp only [Bool.and_eq_true, decide_eq_true_eq] at hok
    obtain ⟨⟨rfl, hf⟩, hrest⟩ := hok
    obtain ⟨hknot, hnd'⟩ := namesNodupA_cons hnd
    simp only [wfFieldsA, Bool.and_eq_true] at hwf
    simp only [fitsFieldsV, Bool.and_eq_true] at hfit
    exact cons k kind t v fs vs hknot hwf.1 hf hfit.1 (okFieldsA_ind nil cons fs vs hnd' hwf.2 hrest hfit.2)

/-- `_xml_tag_body_as` reads the data member back from the text. There is at most one data member (`dataCount`), so
    the text is what it alone wrote, and its slot ends as `dataNorm` of its value -/
theorem dataPass_rt {F : Facts08} {X : FactsXml} {A : FactsAttr} {cfg : Cfg} (C : RtCtxA F X A cfg) :
    (fs : List (Text × MKind × TyA)) → (vs : List (Text × Val)) → namesNodupA fs = true → wfFieldsA fs = true →
    okFieldsA cfg.soft fs vs = true → fitsFieldsV F vs = true → dataCount fs ≤ 1 →
    (∀ f ∈ fs, f.2.1 = .data → isPrimA f.2.2 = true) →
    ∀ done : List (Text × Val), (∀ k ∈ fieldNamesA fs, k ∉ keys done) →
      dataPass F A cfg (dataTextA F fs vs none) fs (done ++ initStateA fs) = .ok (done ++ stWith slotData fs vs) := by
  refine okFieldsA_ind (by intro _ _ done _; simp [dataPass, initStateA, stWith]) ?_
  intro k kind t v fs vs hknot hwf hf hfit ih hcnt hprim done hdone
  have hkdone : k ∉ keys done := hdone k (by simp [fieldNamesA])
  by_cases hkind : kind = .data
  · subst hkind
    have hnodata : noKind .data fs = true := by
      apply noData_of_count
      simp only [dataCount, List.countP_cons, decide_true, if_true] at hcnt ⊢
      omega
    obtain ⟨p, o, rfl⟩ := isPrimA_eq (hprim (k, .data, t) List.mem_cons_self rfl)
    simp only [tyWfA, Bool.and_eq_true] at hwf
    simp only [dataTextA, if_true]
    rw [dataTextA_nodata F fs vs _ hnodata, initStateA_cons]
    simp only [stWith, slotData]
    rw [stWith_data_nodata fs vs hnodata]
    by_cases hv : v = .none
    · subst hv
      rw [dataOne_none]
      simp only [dataPass]
      rw [dataPass_nodata F A cfg none fs _ hnodata]
      rfl
    · have hval := fieldOkA_mod (by simp) hv hf
      obtain ⟨s, hto, hmod⟩ := modifier_rt C.L A cfg p v hval hfit
      obtain ⟨hn1, hn2⟩ := dataNorm_of_text C.L p v s hwf.1 hval hto
      rw [dataOne_some F p o v s none hv hto]
      by_cases hs : s = []
      · -- an empty text is not written, the pass finds none and leaves None: `dataNorm` of the empty string / bytes
        subst hs
        have : mkText ([] : Text) = none := by simp [mkText]
        rw [this, hn1 rfl]
        simp only [dataPass]
        rw [dataPass_nodata F A cfg none fs _ hnodata]
      · have : mkText s = some s := by simp [mkText, hs]
        rw [this, hn2 hs]
        simp only [dataPass, hmod]
        rw [stSet_at done k .none v _ hkdone, dataPass_nodata F A cfg (some s) fs _ hnodata]
  · rw [dataPass_skip F A cfg _ k kind t fs _ hkind, initStateA_cons]
    have hcnt' : dataCount fs ≤ 1 := by
      simp only [dataCount, List.countP_cons] at hcnt ⊢
      omega
    have htxt : dataTextA F ((k, kind, t) :: fs) ((k, v) :: vs) none = dataTextA F fs vs none := by
      match kind, hkind with
      | .element, _ => simp only [dataTextA, if_true]
      | .attribute, _ => simp only [dataTextA, if_true]
      | .data, h => exact absurd rfl h
    have hslot : slotData kind t v = .none := by
      match kind, hkind with
      | .element, _ => rfl
      | .attribute, _ => rfl
      | .data, h => exact absurd rfl h
    rw [htxt]
    simp only [stWith, hslot]
    have := ih hcnt' (fun f hf => hprim f (List.mem_cons_of_mem _ hf)) (done ++ [(k, .none)])
      (keys_snoc_fresh hknot hdone .none)
    simpa [List.append_assoc] using this


/-- the loop over the element's own attributes: a member that holds a value wrote one attribute under its own name,
    `attrPass` finds the member by that name (`hsub`: `fs` is a part of `allFields`) and sets its slot; a member
    that holds None wrote nothing; element and data slots pass through -/
theorem attr_rt {F : Facts08} {X : FactsXml} {A : FactsAttr} {cfg : Cfg} (C : RtCtxA F X A cfg)
    (allFields : List (Text × MKind × TyA)) :
    (fs : List (Text × MKind × TyA)) → (vs : List (Text × Val)) → namesNodupA fs = true → wfFieldsA fs = true →
    okFieldsA cfg.soft fs vs = true → fitsFieldsV F vs = true →
    (∀ f ∈ fs, lookupA allFields f.1 = some f.2) → (∀ f ∈ fs, f.2.1 ≠ .element → isPrimA f.2.2 = true) →
    ∀ done : List (Text × Val), (∀ k ∈ fieldNamesA fs, k ∉ keys done) →
      attrPass F A cfg allFields (attrPairsA F fs vs) (done ++ stWith slotMid fs vs) =
        .ok (done ++ stWith slotFin fs vs) := by
  refine okFieldsA_ind (by intro _ _ done _; simp [attrPass, attrPairsA, stWith]) ?_
  intro k kind t v fs vs hknot _ hf hfit ih hsub hprim done hdone
  have hkdone : k ∉ keys done := hdone k (by simp [fieldNamesA])
  have ih := fun w => ih (fun f hf => hsub f (List.mem_cons_of_mem _ hf))
    (fun f hf => hprim f (List.mem_cons_of_mem _ hf)) (done ++ [(k, w)]) (keys_snoc_fresh hknot hdone w)
  simp only [attrPairsA, if_true, stWith]
  match kind, hf, hsub (k, kind, t) List.mem_cons_self, hprim (k, kind, t) List.mem_cons_self with
  | .element, _, _, _ =>
    simp only [slotMid, slotFin, List.nil_append]
    simpa [List.append_assoc] using ih (normA t v)
  | .data, hf, _, _ =>
    have : dataAttrs t v = [] := dataAttrs_nil t v (fun hv => by subst hv; exact fieldOkA_mod_none (by simp) hf)
    simp only [slotMid, slotFin, this, List.nil_append]
    simpa [List.append_assoc] using ih (dataNorm v)
  | .attribute, hf, hlk, hp =>
    simp only [slotMid, slotFin]
    by_cases hv : v = .none
    · subst hv
      rw [attrOne_none, List.nil_append]
      simpa [List.append_assoc] using ih .none
    · obtain ⟨p, o, rfl⟩ := isPrimA_eq (hp (by simp))
      have hval := fieldOkA_mod (by simp) hv hf
      obtain ⟨s, hto, hmod⟩ := modifier_rt C.L A cfg p v hval hfit
      rw [attrOne_some F k p o v s hv hto, List.cons_append, List.nil_append,
        attrPass_hit F A cfg allFields k s _ _ p o v hlk hmod, stSet_at done k .none v _ hkdone]
      simpa [List.append_assoc] using ih v


theorem elemNodesA_fieldNames (F : Facts08) (tns cns : Text) (fs : List (Text × MKind × TyA)) (vs : List (Text × Val)) :
    ∀ e ∈ elemNodesA F tns cns fs vs, e.name ∈ fieldNamesA fs :=
  fun e he => namesOfKind_sub .element fs _ (elemNodesA_names F tns cns fs vs e he)

/-- the frequency check passes on what was written. `pre` / `preA`: the children / attributes that the members
    before `fs` wrote, none named like a member of `fs`, so that every count is taken over the whole element -/
theorem freq_membersA {F : Facts08} (L : LeafLaws F) (tns cns : Text) {strict : Bool} (A : FactsAttr)
    (hA : A.attrSoftChecked = true) :
    (fs : List (Text × MKind × TyA)) → (vs : List (Text × Val)) → namesNodupA fs = true → wfFieldsA fs = true →
    okFieldsA strict fs vs = true → fitsFieldsV F vs = true →
    (∀ f ∈ fs, f.2.1 ≠ .element → isPrimA f.2.2 = true ∧ f.2.2.occ.repeated = false ∧ f.2.2.occ.minOccurs ≤ 1) →
    ∀ (pre : List Node) (preA : List (Text × Text)), (∀ e ∈ pre, e.name ∉ fieldNamesA fs) →
      fs.all (freqSlot A (preA ++ attrPairsA F fs vs) (pre ++ elemNodesA F tns cns fs vs)) = true := by
  refine okFieldsA_ind (by intro _ pre preA _; rfl) ?_
  intro k kind t v fs vs hknot hwf hf hfit ih hmod pre preA hpre
  have hocc : occWf t.occ = true := tyWfA_occ hwf
  have hpre' : ∀ e ∈ pre, e.name ∉ fieldNamesA fs := fun e he => by
    have := hpre e he
    simp only [fieldNamesA, List.map, List.mem_cons, not_or] at this
    exact this.2
  have ih := ih (fun f hf => hmod f (List.mem_cons_of_mem _ hf))
  simp only [List.all_cons, Bool.and_eq_true]
  by_cases hkind : kind = .element
  · subst hkind
    rw [elemNodesA_cons_elem]
    constructor
    · have hcnt := memberNodesA_count L tns cns k t v hocc hf hfit
      rw [← countP_name_mid pre _ (elemNodesA F tns cns fs vs) k
        (fun e he hek => hpre e he (by rw [hek]; exact List.mem_cons_self))
        (memberNodesA_name F tns cns k t v)
        (fun e he hek => hknot (hek ▸ elemNodesA_fieldNames F tns cns fs vs e he))] at hcnt
      simpa only [freqSlot, hA, memberCount] using hcnt
    · have := ih (pre ++ memberNodesA F tns cns k t v) preA (by
        intro e he
        rcases List.mem_append.mp he with he | he
        · exact hpre' e he
        · rw [memberNodesA_name F tns cns k t v e he]
          exact hknot)
      rw [attrPairsA_cons]
      simpa only [modAttrs, List.nil_append, List.append_assoc] using this
  · rw [elemNodesA_cons_mod F tns cns k kind hkind]
    obtain ⟨hprim, hrep, hmin⟩ := hmod (k, kind, t) List.mem_cons_self hkind
    obtain ⟨hmax, _⟩ := nonrep_occ hrep hocc
    constructor
    · match kind, hkind, hf with
      | .element, hk, _ => exact absurd rfl hk
      | .data, _, _ => simp only [freqSlot, hA]
      | .attribute, _, hf =>
        simp only [freqSlot, hA, memberCount]
        by_cases hv : v = .none
        · subst hv
          have hm := fieldOkA_mod_none (by simp) hf
          split <;> simp [Occ.countOk, hmax, hm]
        · obtain ⟨p, o, rfl⟩ := isPrimA_eq hprim
          have hval := fieldOkA_mod (by simp) hv hf
          obtain ⟨s, hto, _⟩ := L.roundtrip p v hval (leafFits_of_fitsV F p v hfit)
          have hmem : (k, s) ∈ preA ++ attrPairsA F ((k, .attribute, .prim p o) :: fs) ((k, v) :: vs) := by
            simp only [attrPairsA, if_true, attrOne_some F k p o v s hv hto]
            simp
          rw [lookup_isSome.mpr (List.mem_map_of_mem (f := (·.1)) hmem)]
          simp only [TyA.occ] at hmax hmin
          simp [Occ.countOk, TyA.occ, hmax, hmin]
    · have := ih pre (preA ++ modAttrs F k kind t v) hpre'
      simpa [attrPairsA_cons, List.append_assoc] using this


theorem lookup_none_of_plain (attrs : List (Text × Text)) (hp : ∀ a ∈ attrs, plainName a.1 = true) (key : Text)
    (hk : plainName key = false) : attrs.lookup key = none :=
  lookup_eq_none.mpr fun a ha e => by rw [← e, hp a ha] at hk; cases hk

theorem isNil_of_plain (X : FactsXml) (attrs : List (Text × Text)) (h : ∀ a ∈ attrs, plainName a.1 = true) :
    isNil X attrs = false := by
  unfold isNil
  rw [lookup_none_of_plain attrs h xsiNilKey plain_xsiNil]

theorem attrPairsA_plain (F : Facts08) {strict : Bool} :
    (fs : List (Text × MKind × TyA)) → (vs : List (Text × Val)) → fs.all (fun f => plainName f.1) = true →
    okFieldsA strict fs vs = true → ∀ a ∈ attrPairsA F fs vs, plainName a.1 = true
  | [], _, _, _ => by intro a ha; simp [attrPairsA] at ha
  | _ :: _, [], _, _ => by intro a ha; simp [attrPairsA] at ha
  | (k, kind, t) :: fs, (k', v) :: vs, hpl, hok => by
    intro a ha
    rw [okFieldsA_cons] at hok
    simp only [Bool.and_eq_true, decide_eq_true_eq] at hok
    obtain ⟨⟨hk, hf⟩, hrest⟩ := hok
    subst hk
    simp only [List.all_cons, Bool.and_eq_true] at hpl
    rw [attrPairsA_cons, List.mem_append] at ha
    rcases ha with ha | ha
    · match kind, hf, ha with
      | .element, _, ha => simp [modAttrs] at ha
      | .attribute, _, ha =>
        rw [attrOne_keys F k t v a ha]; exact hpl.1
      | .data, hf, ha =>
        simp only [modAttrs] at ha
        rw [dataAttrs_nil t v (fun hv => by subst hv; exact fieldOkA_mod_none (by simp) hf)] at ha
        cases ha
    · exact attrPairsA_plain F fs vs hpl.2 hrest a ha

theorem nil_rtA {F : Facts08} {X : FactsXml} {A : FactsAttr} {cfg : Cfg} (C : RtCtxA F X A cfg) (I : IfaceA)
    (ns name : Text) (t : TyA) (hn : t.occ.nillable = true) :
    fromElementA F X A cfg I t (nilElem ns name) = .ok .none := by
  rw [nilElem, nil_with_attributes F X A cfg I t ns name _ none [] C.hN]
  simp [hn]

theorem normA_nonrep (t : TyA) (v : Val) (hr : t.occ.repeated = false) : normA t v = normOneA t v := by
  rw [normA.eq_def, normOneA.eq_def, hr]
  cases v <;> first | rfl | (rename_i x; cases x <;> rfl)

/-- a primitive never consults the registry: `leaf_rt` (stated for `normOneX I`) is used below at the empty `Iface` -/
theorem normOne_prim (I : Iface) (p : PrimTy) (o : Occ) (v : Val) :
    normOneX I (.prim p o) v = normOneA (.prim p o) v := by
  cases v with
  | bytes bs => cases bs <;> simp [normOneX, normOneA]
  | _ => simp [normOneX, normOneA]

/-- a leaf value: `modelbase_to_parent` & co. followed by the leaf handler -/
theorem leaf_one_rtA {F : Facts08} {X : FactsXml} {A : FactsAttr} {cfg : Cfg} (C : RtCtxA F X A cfg) (I : IfaceA)
    (tns ns name : Text) (t : TyA) (ht : tyWfA t = true) (v : Val) (hl : v.isLeaf = true) (hn : v ≠ .none)
    (hok : okOneA cfg.soft t v = true) (hfit : fitsV F v = true) :
    ∃ e, toParentA F tns ns name t v = [e] ∧ fromElementA F X A cfg I t e = .ok (normOneA t v) := by
  rw [okOneA_leaf hl hn] at hok
  cases t with
  | prim p o =>
    simp only [tyWfA, Bool.and_eq_true] at ht
    obtain ⟨s, hto, hfrom⟩ := leaf_rt C.L (X := X) cfg C.hE ⟨[], [], []⟩ p o v ht.1 hok hfit
    rw [normOne_prim] at hfrom
    refine ⟨.elem ns name [] (mkText s) [], by rw [toParentA_leaf hl hn]; simp only [hto], ?_⟩
    rw [fromElementA]
    simp only [isNil_nil, List.lookup]
    simp only [Bool.false_eq_true, if_false, ite_self]
    exact hfrom
  | _ => cases hok

/-- one round of the member loop: the child loop consumes what `_get_members_etree` wrote for the element member `k`
    holding `v` and leaves the normalised value in its slot. `hone`: a present single occurrence is read back; `hrep`:
    the items of a repeated member are appended one by one. -/
theorem member_stepA {F : Facts08} {X : FactsXml} {A : FactsAttr} {cfg : Cfg} (C : RtCtxA F X A cfg) (I : IfaceA)
    (tns : Text) (allFields : List (Text × MKind × TyA)) (cns k : Text) (t : TyA) (v : Val)
    (hlk : lookupA allFields k = some (.element, t)) (hf : fieldOkA cfg.soft .element t v = true)
    (hone : okOneA cfg.soft t v = true →
      ∃ e, toParentA F tns cns k t v = [e] ∧ fromElementA F X A cfg I t e = .ok (normOneA t v))
    (hrep : ∀ items, v = .list items → t.occ.repeated = true → okItemsA cfg.soft t items = true →
      ∀ (done : List (Text × Val)) (acc : Val) (tail : List (Text × Val)) (rest : List Node), k ∉ keys done →
        childLoopA F X A cfg I allFields (itemsA F tns cns k t items ++ rest) (done ++ (k, acc) :: tail) =
          childLoopA F X A cfg I allFields rest (done ++ (k, accApp acc (normItemsA t items)) :: tail))
    (done tail : List (Text × Val)) (rest : List Node) (hkdone : k ∉ keys done) :
    childLoopA F X A cfg I allFields (memberNodesA F tns cns k t v ++ rest) (done ++ (k, .none) :: tail) =
      childLoopA F X A cfg I allFields rest (done ++ (k, normA t v) :: tail) := by
  by_cases hr : t.occ.repeated = true
  · rcases fieldOkA_rep hr hf with ⟨rfl, hmin⟩ | ⟨items, rfl, _, hitems⟩
    · simp [memberNodesA, hmin, normA]
    · have hn : normA t (.list items) = accApp .none (normItemsA t items) := by
        cases items <;> simp [normA, hr, accApp, normItemsA]
      simp only [memberNodesA, hr, if_true, hn]
      exact hrep items rfl hr hitems done .none tail rest hkdone
  · have hr' : t.occ.repeated = false := by simpa using hr
    by_cases hv : v = .none
    · subst hv
      have hn : normA t .none = .none := by simp [normA]
      simp only [memberNodesA, hn]
      split
      · rename_i hmin
        have hnil : t.occ.nillable = true := by
          simp only [fieldOkA, hr', Bool.not_false, Bool.and_true, Bool.or_eq_true, decide_eq_true_eq] at hf
          rcases hf with h | h
          · omega
          · exact h
        rw [List.cons_append, List.nil_append, childLoopA_step C.hLeak I allFields (nilElem cns k) _ _ t _ hlk (nil_rtA C I cns k t hnil)]
        simp only [hr', show (nilElem cns k).name = k from rfl, Bool.false_eq_true, if_false,
          stSet_at done k .none .none _ hkdone]
      · rfl
    · rw [fieldOkA_elem_some hv, okA_nonrep hr'] at hf
      obtain ⟨e, he, hdec⟩ := hone hf
      have hname := toParentA_name F tns cns k t v e (by rw [he]; exact List.mem_singleton.mpr rfl)
      rw [memberNodesA_nonrep F tns cns k t v hr' hv, he, List.cons_append, List.nil_append,
        childLoopA_step C.hLeak I allFields e _ _ t _ (by rw [hname]; exact hlk) hdec]
      simp only [hr', hname, Bool.false_eq_true, if_false, stSet_at done k .none _ _ hkdone, normA_nonrep t v hr']


mutual
  /-- one occurrence: `to_parent` writes exactly one element and `from_element` reads it back -/
  theorem one_rtA {F : Facts08} {X : FactsXml} {A : FactsAttr} {cfg : Cfg} (C : RtCtxA F X A cfg) (I : IfaceA)
      (tns ns name : Text) (t : TyA) (ht : tyWfA t = true) :
      (v : Val) → okOneA cfg.soft t v = true → fitsV F v = true →
      ∃ e, toParentA F tns ns name t v = [e] ∧ fromElementA F X A cfg I t e = .ok (normOneA t v) := by
    intro v hok hfit
    cases v with
    | none =>
      exact ⟨nilElem ns name, rfl, by rw [nil_rtA C I ns name t hok]; simp [normOneA]⟩
    | obj cls vs =>
      cases t with
      | prim p o => simp [okOneA] at hok
      | arr m el o => simp [okOneA] at hok
      | obj cname cns cb fields o =>
        simp only [okOneA, Bool.and_eq_true, decide_eq_true_eq] at hok
        obtain ⟨hcls, hok⟩ := hok
        subst hcls
        simp only [tyWfA, Bool.and_eq_true] at ht
        obtain ⟨⟨⟨⟨hnd, hpl⟩, hkw⟩, hwf⟩, _⟩ := ht
        have hmod := kindsWf_mod hkw
        obtain ⟨hcnt, hshape⟩ := kindsWf_data hkw
        have hattrs : (membersA F tns cns fields vs {}).attrs = attrPairsA F fields vs := by
          rw [membersA_attrs]; rfl
        have hchildren : (membersA F tns cns fields vs {}).children = elemNodesA F tns cns fields vs := by
          rw [membersA_children]; rfl
        have htext : (membersA F tns cns fields vs {}).text = dataTextA F fields vs none := by
          exact membersA_text F tns cns fields vs {} (hshape.imp id (fun h => ⟨h, rfl⟩))
        refine ⟨Node.elem ns name (attrPairsA F fields vs) (dataTextA F fields vs none) (elemNodesA F tns cns fields vs),
          by simp only [toParentA, hattrs, hchildren, htext], ?_⟩
        have hplain := attrPairsA_plain F fields vs hpl hok
        have hsub := lookupA_of_memA fields hnd
        have hdata := dataPass_rt C fields vs hnd hwf hok hfit hcnt (fun f hf hk => (hmod f hf (by rw [hk]; simp)).1)
          [] (by intro k _ h; cases h)
        have hloop := fields_rtA C I tns fields cns fields vs hsub hnd hwf hok hfit [] [] (by intro k _ h; cases h)
        have hattr := attr_rt C fields fields vs hnd hwf hok hfit hsub (fun f hf hk => (hmod f hf hk).1)
          [] (by intro k _ h; cases h)
        simp only [List.append_nil, List.nil_append] at hdata hloop hattr
        rw [fromElementA]
        simp only [isNil_of_plain X _ hplain, lookup_none_of_plain _ hplain xsiTypeKey plain_xsiType]
        simp only [Bool.false_eq_true, if_false, ite_self]
        simp only [hdata, hloop, childLoopA, hattr]
        have hfin : stWith slotFin fields vs = normFieldsA fields vs := stWith_fin fields vs hok
        by_cases hs : cfg.soft = true
        · have hfreq := freq_membersA C.L tns cns A (C.hSoft hs) fields vs hnd hwf hok hfit hmod [] []
            (by intro e he; cases he)
          simp only [List.nil_append] at hfreq
          simp [freqOkA_eq, hfreq, normOneA, hfin]
        · simp [hs, normOneA, hfin]
    | list vs =>
      cases t with
      | prim p o => simp [okOneA] at hok
      | obj a b c d e => simp [okOneA] at hok
      | arr member elem o =>
        simp only [tyWfA, Bool.and_eq_true] at ht
        refine ⟨Node.elem ns name [] none
          (itemsA F tns (memberNsA tns ns member elem) (memberLocal member) elem vs), by simp only [toParentA], ?_⟩
        have := arr_items_rtA C I tns (memberNsA tns ns member elem) (memberLocal member) elem ht.1 vs hok hfit
        rw [fromElementA]
        simp only [isNil_nil, List.lookup]
        simp only [Bool.false_eq_true, if_false, ite_self]
        simp only [this]
        simp [normOneA]
    | _ => exact leaf_one_rtA C I tns ns name t ht _ rfl (by simp) hok hfit

  /-- the member loop: the child loop of `complex_from_element` consumes what `_get_members_etree` wrote
      for the element members among `fs` and leaves their (normalised) values in the instance; the slots of
      attribute and data members are not touched -/
  theorem fields_rtA {F : Facts08} {X : FactsXml} {A : FactsAttr} {cfg : Cfg} (C : RtCtxA F X A cfg) (I : IfaceA)
      (tns : Text) (allFields : List (Text × MKind × TyA)) (cns : Text) :
      (fs : List (Text × MKind × TyA)) → (vs : List (Text × Val)) →
      (∀ f ∈ fs, lookupA allFields f.1 = some f.2) → namesNodupA fs = true → wfFieldsA fs = true →
      okFieldsA cfg.soft fs vs = true → fitsFieldsV F vs = true →
      ∀ (done : List (Text × Val)) (rest : List Node), (∀ k ∈ fieldNamesA fs, k ∉ keys done) →
        childLoopA F X A cfg I allFields (elemNodesA F tns cns fs vs ++ rest) (done ++ stWith slotData fs vs) =
          childLoopA F X A cfg I allFields rest (done ++ stWith slotMid fs vs)
    | [], [], _, _, _, _, _ => by
      intro done rest _
      simp [elemNodesA, stWith]
    | [], _ :: _, _, _, _, hok, _ => by simp [okFieldsA] at hok
    | _ :: _, [], _, _, _, hok, _ => by simp [okFieldsA] at hok
    | (k, kind, t) :: fs, (k', v) :: vs, hsub, hnd, hwf, hok, hfit => by
      intro done rest hdone
      rw [okFieldsA_cons] at hok
      simp only [Bool.and_eq_true, decide_eq_true_eq] at hok
      obtain ⟨⟨hk, hf⟩, hrest⟩ := hok
      subst hk
      obtain ⟨hknot, hnd'⟩ := namesNodupA_cons hnd
      simp only [wfFieldsA, Bool.and_eq_true] at hwf
      simp only [fitsFieldsV, Bool.and_eq_true] at hfit
      have hkdone : k ∉ keys done := hdone k (by simp [fieldNamesA])
      have tailStep : ∀ w : Val,
          childLoopA F X A cfg I allFields (elemNodesA F tns cns fs vs ++ rest)
            (done ++ (k, w) :: stWith slotData fs vs) =
          childLoopA F X A cfg I allFields rest (done ++ (k, w) :: stWith slotMid fs vs) := by
        intro w
        have := fields_rtA C I tns allFields cns fs vs (fun f hf => hsub f (List.mem_cons_of_mem _ hf)) hnd'
          hwf.2 hrest hfit.2 (done ++ [(k, w)]) rest (keys_snoc_fresh hknot hdone w)
        simpa [List.append_assoc] using this
      rw [stWith_cons, stWith_cons]
      by_cases hkind : kind = .element
      · subst hkind
        rw [elemNodesA_cons_elem, List.append_assoc]
        simp only [slotData, slotMid]
        rw [member_stepA C I tns allFields cns k t v (hsub (k, .element, t) List.mem_cons_self) hf
          (fun h => one_rtA C I tns cns k t hwf.1 v h hfit.1)
          (by
            cases v with
            | list items =>
              intro _ hv hr h; cases hv
              exact rep_items_rtA C I tns allFields cns k t hwf.1 (hsub (k, .element, t) List.mem_cons_self) hr items h hfit.1
            | _ => intro _ hv; cases hv)
          done _ _ hkdone]
        exact tailStep _
      · -- attribute and data members write no child element and their slot stays as it is
        rw [elemNodesA_cons_mod F tns cns k kind hkind]
        have : slotData kind t v = slotMid kind t v := by
          match kind, hkind with
          | .element, h => exact absurd rfl h
          | .attribute, _ => rfl
          | .data, _ => rfl
        rw [this]
        exact tailStep _

  theorem arr_items_rtA {F : Facts08} {X : FactsXml} {A : FactsAttr} {cfg : Cfg} (C : RtCtxA F X A cfg) (I : IfaceA)
      (tns ns name : Text) (elem : TyA) (ht : tyWfA elem = true) :
      (vs : List Val) → okItemsA cfg.soft elem vs = true → fitsItemsV F vs = true →
      arrayLoopA F X A cfg I elem (itemsA F tns ns name elem vs) = .ok (normItemsA elem vs)
    | [], _, _ => by simp [itemsA, arrayLoopA, normItemsA]
    | v :: vs, hok, hfit => by
      simp only [okItemsA, Bool.and_eq_true] at hok
      simp only [fitsItemsV, Bool.and_eq_true] at hfit
      obtain ⟨e, he, hdec⟩ := one_rtA C I tns ns name elem ht v hok.1 hfit.1
      have ih := arr_items_rtA C I tns ns name elem ht vs hok.2 hfit.2
      simp [itemsA, he, arrayLoopA, hdec, ih, normItemsA]

  theorem rep_items_rtA {F : Facts08} {X : FactsXml} {A : FactsAttr} {cfg : Cfg} (C : RtCtxA F X A cfg) (I : IfaceA)
      (tns : Text) (allFields : List (Text × MKind × TyA)) (cns k : Text) (t : TyA) (ht : tyWfA t = true)
      (hlk : lookupA allFields k = some (.element, t)) (hr : t.occ.repeated = true) :
      (items : List Val) → okItemsA cfg.soft t items = true → fitsItemsV F items = true →
      ∀ (done : List (Text × Val)) (acc : Val) (tail : List (Text × Val)) (rest : List Node), k ∉ keys done →
        childLoopA F X A cfg I allFields (itemsA F tns cns k t items ++ rest) (done ++ (k, acc) :: tail) =
          childLoopA F X A cfg I allFields rest (done ++ (k, accApp acc (normItemsA t items)) :: tail)
    | [], _, _ => by
      intro done acc tail rest _
      simp [itemsA, normItemsA, accApp]
    | v :: vs, hok, hfit => by
      intro done acc tail rest hk
      simp only [okItemsA, Bool.and_eq_true] at hok
      simp only [fitsItemsV, Bool.and_eq_true] at hfit
      obtain ⟨e, he, hdec⟩ := one_rtA C I tns cns k t ht v hok.1 hfit.1
      have hname := toParentA_name F tns cns k t v e (by rw [he]; exact List.mem_singleton.mpr rfl)
      simp only [itemsA, he, List.cons_append, List.nil_append]
      rw [childLoopA_step C.hLeak I allFields e _ _ t _ (by rw [hname]; exact hlk) hdec]
      simp only [hr, if_true, hname]
      rw [stAppend_at done k acc _ tail hk]
      rw [rep_items_rtA C I tns allFields cns k t ht hlk hr vs hok.2 hfit.2 done _ tail rest hk]
      simp only [normItemsA, accApp_step]
end

theorem xml_roundtrip_attrs {F : Facts08} {X : FactsXml} {A : FactsAttr} {cfg : Cfg} (C : RtCtxA F X A cfg) (I : IfaceA)
    (tns ns name : Text) (t : TyA) (ht : tyWfA t = true) (v : Val) (hok : okOneA cfg.soft t v = true)
    (hfit : fitsV F v = true) :
    ∃ e, encodeA F tns ns name t v = [e] ∧ decodeA F X A cfg I t e = .ok (normOneA t v) :=
  one_rtA C I tns ns name t ht v hok hfit

end Xml
end SpyneModel
