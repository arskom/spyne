/-
  C14: calling the handlers of one firing, and what each listener sees of a run (for every world: arbitrary
  registrations on every manager).

  What a listener hears of one firing is the event, as often as the listener is among those called (`viewOf_fire`);
  those called are a prefix of those reached (`called_prefix`), all of them when nobody raises (`called_quiet`); and a
  listener is among those reached as often as it is registered on the manager of its level, if the firing goes to that
  level at all (`count_targets`).  The first observer, the quiet views and what the lower levels never hear are read
  off these.
-/
import SpyneModel.EventsSpec
namespace SpyneModel.Events

def mkObs (ev : Event) (p : Level × H) : Obs := .call p.1 p.2 ev

/-- the listeners called in one firing: those reached, up to and including the first that raises -/
def called (w : World) (src : Src) (ev : Event) : List (Level × H) :=
  (targets w src ev).take ((targets w src ev).findIdx (fun p => (w.raises p.2 ev).isSome) + 1)

theorem runHandlers_obs (raises : H → Event → Option ExcKind) (ev : Event) (ts : List (Level × H)) :
    (runHandlers raises ev ts).1 = (ts.take (ts.findIdx (fun p => (raises p.2 ev).isSome) + 1)).map (mkObs ev) := by
  induction ts with
  | nil => rfl
  | cons p ts ih =>
    obtain ⟨l, h⟩ := p
    simp only [runHandlers, List.findIdx_cons]
    split
    · rename_i k hr; simp [hr, mkObs]
    · rename_i hr; simp [hr, ih, mkObs]

theorem runHandlers_outcome (raises : H → Event → Option ExcKind) (ev : Event) (ts : List (Level × H)) :
    (runHandlers raises ev ts).2 = (ts.find? (fun p => (raises p.2 ev).isSome)).bind (fun p => raises p.2 ev) := by
  induction ts with
  | nil => rfl
  | cons p ts ih =>
    obtain ⟨l, h⟩ := p
    simp only [runHandlers, List.find?_cons]
    split
    · rename_i k hr; simp [hr]
    · rename_i hr; simp [hr, ih]

theorem expand_fire (w : World) (src : Src) (ev : Event) :
    expand w (.fire src ev) = (called w src ev).map (mkObs ev) :=
  runHandlers_obs w.raises ev _

theorem called_prefix (w : World) (src : Src) (ev : Event) : called w src ev <+: targets w src ev :=
  List.take_prefix _ _

theorem called_quiet (w : World) (src : Src) (ev : Event) (hq : ∀ p ∈ targets w src ev, w.raises p.2 ev = none) :
    called w src ev = targets w src ev := by
  rw [called, List.findIdx_eq_length_of_false fun p hp => by simp [hq p hp]]
  exact List.take_of_length_le (Nat.le_succ _)

/-- the manager on which the listeners of a level are registered -/
def World.mgr (w : World) : Level → Mgr Event
  | .app => w.app
  | .meth j => w.meths[j]?.getD Mgr.empty
  | .svc => w.svc
  | .inProt => w.inProt
  | .outProt => w.outProt
  | .transport => w.transport

/-- does a firing from `src` go to the managers of level `lvl` -/
def Src.reaches : Src → Level → Bool
  | .ctx _, .app | .ctx true, .meth _ | .ctx true, .svc => true
  | .inProt, .inProt | .outProt, .outProt | .transport, .transport => true
  | _, _ => false

theorem count_tag (l l' : Level) (h : H) (hs : List H) :
    (tag l' hs).count (l, h) = if l = l' then hs.count h else 0 := by
  induction hs with
  | nil => simp [tag]
  | cons x xs ih =>
    rw [tag, List.map_cons, List.count_cons, ← tag, ih, List.count_cons]
    by_cases hl : l = l'
    · subst hl; simp
    · have : ¬ l' = l := fun c => hl c.symm
      simp [hl, this]

theorem count_methTargets (ev : Event) (ms : List (Mgr Event)) (i : Nat) (l : Level) (h : H) :
    (methTargets ev ms i).count (l, h) =
      match l with
      | .meth j => if i ≤ j then (ms[j - i]?.getD Mgr.empty ev).count h else 0
      | _ => 0 := by
  induction ms generalizing i with
  | nil => cases l <;> simp [methTargets, Mgr.empty]
  | cons m ms ih =>
    simp only [methTargets, List.count_append, count_tag, ih]
    cases l with
    | meth j =>
      by_cases h1 : j < i
      · have : ¬ i ≤ j := by omega
        have : ¬ i + 1 ≤ j := by omega
        have : Level.meth j ≠ Level.meth i := by intro c; cases c; omega
        simp [*]
      · by_cases h2 : j = i
        · subst h2
          have : ¬ j + 1 ≤ j := by omega
          simp [this]
        · have h3 : i + 1 ≤ j := by omega
          have h4 : i ≤ j := by omega
          have h5 : Level.meth j ≠ Level.meth i := by intro c; cases c; exact h2 rfl
          have h6 : j - i = (j - (i + 1)) + 1 := by omega
          simp only [h3, h4, h5, if_true, if_false, Nat.zero_add]
          rw [h6, List.getElem?_cons_succ]
    | _ => simp

theorem count_targets (w : World) (src : Src) (ev : Event) (lvl : Level) (h : H) :
    (targets w src ev).count (lvl, h) = if src.reaches lvl then (w.mgr lvl ev).count h else 0 := by
  cases src with
  | ctx d =>
    cases d <;> cases lvl <;> simp [targets, List.count_append, count_tag, count_methTargets, Src.reaches, World.mgr]
  | _ => cases lvl <;> simp [targets, count_tag, Src.reaches, World.mgr]

theorem filterMap_mkObs {β : Type} (f : Obs → Option β) (p : Level × H) (ev : Event) (b : β)
    (hf : ∀ q, f (mkObs ev q) = if q = p then some b else none) (ts : List (Level × H)) :
    (ts.map (mkObs ev)).filterMap f = List.replicate (ts.count p) b := by
  induction ts with
  | nil => rfl
  | cons q ts ih =>
    rw [List.map_cons, List.filterMap_cons, hf, List.count_cons, ih]
    by_cases hq : q = p <;> simp [hq, List.replicate_succ]

theorem viewOf_fire (w : World) (lvl : Level) (h : H) (src : Src) (ev : Event) :
    viewOf lvl h (expand w (.fire src ev)) = List.replicate ((called w src ev).count (lvl, h)) ev := by
  rw [expand_fire]
  exact filterMap_mkObs _ _ _ _ (fun q => by obtain ⟨l, h'⟩ := q; simp [mkObs, evOf]) _

theorem symView_fire (w : World) (o : H) (src : Src) (ev : Event) :
    symView o (expand w (.fire src ev)) = List.replicate ((called w src ev).count (.app, o)) (.ev ev) := by
  rw [expand_fire]
  exact filterMap_mkObs _ _ _ _ (fun q => by obtain ⟨l, h'⟩ := q; cases l <;> simp [mkObs, symOf]) _

theorem count_called_le (w : World) (src : Src) (ev : Event) (p : Level × H) :
    (called w src ev).count p ≤ if src.reaches p.1 then (w.mgr p.1 ev).count p.2 else 0 :=
  count_targets w src ev p.1 p.2 ▸ (called_prefix w src ev).sublist.count_le p

/-- the event of a firing that goes to the managers of level `lvl` -/
def firedAt (lvl : Level) : Step → Option Event
  | .fire src ev => if src.reaches lvl then some ev else none
  | .user => none

/-- what the first observer sees of a step -/
def Step.sym : Step → Option Sym
  | .fire src ev => if src.reaches .app then some (.ev ev) else none
  | .user => some .user

theorem methodView_eq (fs : List Step) : methodView fs = fs.filterMap Step.sym := by
  induction fs with
  | nil => rfl
  | cons s fs ih =>
    cases s with
    | user => simp [methodView, Step.sym, ih]
    | fire src ev => cases src <;> simp [methodView, Step.sym, Src.reaches, ih]

theorem ctxEvents_eq (fs : List Step) : ctxEvents fs = fs.filterMap (firedAt .app) := by
  induction fs with
  | nil => rfl
  | cons s fs ih =>
    cases s with
    | user => exact ih
    | fire src ev => cases src <;> simp [ctxEvents, firedAt, Src.reaches, ih]

theorem descEvents_eq (lvl : Level) (hl : lvl = .svc ∨ ∃ j, lvl = .meth j) (fs : List Step) :
    descEvents fs = fs.filterMap (firedAt lvl) := by
  induction fs with
  | nil => rfl
  | cons s fs ih =>
    cases s with
    | user => exact ih
    | fire src ev =>
      cases src with
      | ctx d => rcases hl with rfl | ⟨j, rfl⟩ <;> cases d <;> simp [descEvents, firedAt, Src.reaches, ih]
      | _ => rcases hl with rfl | ⟨j, rfl⟩ <;> simp [descEvents, firedAt, Src.reaches, ih]

theorem transportView_eq (fs : List Step) : transportView fs = fs.filterMap (firedAt .transport) := by
  induction fs with
  | nil => rfl
  | cons s fs ih =>
    cases s with
    | user => exact ih
    | fire src ev => cases src <;> simp [transportView, firedAt, Src.reaches, ih]

theorem viewOf_trace (w : World) (lvl : Level) (h : H) (fs : List Step) :
    viewOf lvl h (fs.flatMap (expand w)) = fs.flatMap fun s => viewOf lvl h (expand w s) :=
  List.filterMap_flatMap

/-- whatever the listeners do: a listener hears only firings that go to its level -/
theorem viewOf_subset (w : World) (lvl : Level) (h : H) (fs : List Step) (ev : Event)
    (hm : ev ∈ viewOf lvl h (fs.flatMap (expand w))) : ev ∈ fs.filterMap (firedAt lvl) := by
  rw [viewOf_trace, List.mem_flatMap] at hm
  obtain ⟨s, hs, hev⟩ := hm
  refine List.mem_filterMap.2 ⟨s, hs, ?_⟩
  cases s with
  | user => cases hev
  | fire src ev' =>
    rw [viewOf_fire, List.mem_replicate] at hev
    have := count_called_le w src ev' (lvl, h)
    by_cases hr : src.reaches lvl
    · simp [firedAt, hr, hev.2]
    · simp only [hr] at this; exact absurd (Nat.le_zero.1 this) hev.1

/-- when no listener raises, a listener registered once per event hears exactly the firings that go to its level
    and that it is registered for, in order -/
theorem quiet_view (w : World) (hq : ∀ h ev, w.raises h ev = none) (lvl : Level) (h : H)
    (hn : ∀ ev, (w.mgr lvl ev).Nodup) (fs : List Step) :
    viewOf lvl h (fs.flatMap (expand w)) = (fs.filterMap (firedAt lvl)).filter fun ev => h ∈ w.mgr lvl ev := by
  rw [viewOf_trace]
  induction fs with
  | nil => rfl
  | cons s fs ih =>
    rw [List.flatMap_cons, ih, List.filterMap_cons]
    cases s with
    | user => rfl
    | fire src ev =>
      rw [viewOf_fire, called_quiet w src ev fun p _ => hq p.2 ev, count_targets, (hn ev).count]
      by_cases hr : src.reaches lvl <;> by_cases hm : h ∈ w.mgr lvl ev <;> simp [firedAt, hr, hm]

/-- a quiet listener at the head of the application's manager is called exactly once by every firing of the
    method context, whoever raises after it -/
theorem count_called_first (w : World) (o : H) (hfirst : ∀ ev, ∃ rest, w.app ev = o :: rest ∧ o ∉ rest)
    (hquiet : ∀ ev, w.raises o ev = none) (src : Src) (ev : Event) :
    (called w src ev).count (.app, o) = if src.reaches .app then 1 else 0 := by
  obtain ⟨rest, hr, hnot⟩ := hfirst ev
  have hle := count_called_le w src ev (.app, o)
  simp only [World.mgr, hr, List.count_cons_self, List.count_eq_zero.2 hnot] at hle
  cases src with
  | ctx d =>
    obtain ⟨more, hm⟩ : ∃ more, targets w (.ctx d) ev = (Level.app, o) :: more := by
      cases d <;> simp [targets, hr, tag]
    simp only [called, hm, List.findIdx_cons, hquiet ev, Option.isSome_none, cond_false, List.take_succ_cons,
      List.count_cons_self, Src.reaches, if_true] at hle ⊢
    omega
  | _ => simpa [Src.reaches] using hle

theorem symView_append (o : H) (a b : List Obs) : symView o (a ++ b) = symView o a ++ symView o b :=
  List.filterMap_append

/-- A listener that is registered first on the application's manager for every event and never raises
    sees exactly the method-context firings, and an observer in the user function sees its runs:
    together, `methodView`. For every world and every sequence of steps. -/
theorem first_observer_view (w : World) (o : H)
    (hfirst : ∀ ev, ∃ rest, w.app ev = o :: rest ∧ o ∉ rest)
    (hquiet : ∀ ev, w.raises o ev = none) (fs : List Step) :
    symView o (fs.flatMap (expand w)) = methodView fs := by
  rw [methodView_eq]
  induction fs with
  | nil => rfl
  | cons s fs ih =>
    rw [List.flatMap_cons, symView_append, ih, List.filterMap_cons]
    cases s with
    | user => rfl
    | fire src ev =>
      rw [symView_fire, count_called_first w o hfirst hquiet]
      cases src <;> rfl

end SpyneModel.Events
