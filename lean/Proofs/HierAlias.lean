/-
  The cycle guard of the dict-document encoder (`tags`, hier.py `_object_to_doc` / `_get_member_pairs`).

  When the guard holds the ancestors of the node being written (`glob = false`, the measured switch
  `Facts02.guardPathLocal`), it never fires on a value read off an acyclic object graph: the guarded encoder is the plain
  encoder `encodeS`, whatever Python objects the nodes of the value are. In particular the document depends on the value
  only, not on which sibling positions share an object.
-/
import Proofs.HierBasic
namespace SpyneModel.Hier
open SpyneModel

theorem seen_mono {a a' : List Nat} (h : ∀ x, x ∈ a' → x ∈ a) (i : Option Nat) (hs : seen a i = false) :
    seen a' i = false := by
  cases i with
  | none => rfl
  | some n =>
    simp only [seen, List.contains_eq_mem, decide_eq_false_iff_not] at hs ⊢
    exact fun hm => hs (h n hm)

theorem addId_mono {a a' : List Nat} (h : ∀ x, x ∈ a' → x ∈ a) (i : Option Nat) :
    ∀ x, x ∈ addId a' i → x ∈ addId a i := by
  cases i with
  | none => exact h
  | some n =>
    intro x hx
    simp only [addId, List.mem_cons] at hx ⊢
    exact hx.imp id (h x)

theorem mem_addId (a : List Nat) (i : Option Nat) : ∀ x, x ∈ a → x ∈ addId a i := by
  cases i with
  | none => exact fun _ h => h
  | some n => exact fun x h => List.mem_cons_of_mem _ h

mutual
  theorem acyclic_mono : ∀ (k : Ids) (a a' : List Nat), (∀ x, x ∈ a' → x ∈ a) → acyclic a k = true → acyclic a' k = true
    | .node i ks, a, a', h, hk => by
      simp only [acyclic, Bool.and_eq_true, Bool.not_eq_true'] at hk ⊢
      exact ⟨seen_mono h i hk.1, acyclicAll_mono ks (addId a i) (addId a' i) (addId_mono h i) hk.2⟩
  theorem acyclicAll_mono : ∀ (ks : List Ids) (a a' : List Nat), (∀ x, x ∈ a' → x ∈ a) → acyclicAll a ks = true →
      acyclicAll a' ks = true
    | [], _, _, _, _ => by simp [acyclicAll]
    | k :: r, a, a', h, hk => by
      simp only [acyclicAll, Bool.and_eq_true] at hk ⊢
      exact ⟨acyclic_mono k a a' h hk.1, acyclicAll_mono r a a' h hk.2⟩
end

theorem acyclic_unseen {a : List Nat} {ids : Ids} (h : acyclic a ids = true) : seen a ids.id? = false := by
  cases ids with
  | node i ks => simp only [acyclic, Bool.and_eq_true, Bool.not_eq_true'] at h; exact h.1

theorem acyclic_kids_add {a : List Nat} {ids : Ids} (h : acyclic a ids = true) :
    acyclicAll (addId a ids.id?) ids.kids = true := by
  cases ids with
  | node i ks => simp only [acyclic, Bool.and_eq_true] at h; exact h.2

theorem acyclic_kids {a : List Nat} {ids : Ids} (h : acyclic a ids = true) : acyclicAll a ids.kids = true :=
  acyclicAll_mono _ _ _ (mem_addId a ids.id?) (acyclic_kids_add h)

theorem acyclic_anon (a : List Nat) : acyclic a Ids.anon = true := by
  simp [Ids.anon, acyclic, acyclicAll, seen]

theorem acyclicAll_head {a : List Nat} {ks : List Ids} (h : acyclicAll a ks = true) : acyclic a (kidHead ks) = true := by
  cases ks with
  | nil => exact acyclic_anon a
  | cons k r => simp only [acyclicAll, Bool.and_eq_true] at h; exact h.1

theorem acyclicAll_tail {a : List Nat} {ks : List Ids} (h : acyclicAll a ks = true) : acyclicAll a (kidTail ks) = true := by
  cases ks with
  | nil => simp [kidTail, acyclicAll]
  | cons k r => simp only [acyclicAll, Bool.and_eq_true] at h; exact h.2

variable (S : Spell) (R : Registry)

mutual
  theorem encodeG_local (t : Ty) (v : Val) (ids : Ids) (tags : List Nat) (h : acyclic tags ids = true) :
      encodeG false S R t v ids tags = (encodeS S R t v, tags) := by
    cases v with
    | none => simp [encodeG, encodeS]
    | list vs =>
      cases t with
      | arr m elem o =>
        simp only [encodeG, encodeS, encodeItemsG_local elem vs ids.kids tags (acyclic_kids h)]
      | prim p o =>
        simp only [encodeG, encodeS, encodeItemsG_local (.prim p o) vs ids.kids tags (acyclic_kids h)]
        split <;> rfl
      | obj n ns b fs o =>
        simp only [encodeG, encodeS, encodeItemsG_local (.obj n ns b fs o) vs ids.kids tags (acyclic_kids h)]
        split <;> rfl
    | obj c fvs =>
      cases t with
      | obj n ns b fs o =>
        simp only [encodeG, encodeS,
          encodeFieldsG_local (polyTarget S R n fs c).2 fvs ids.kids (addId tags ids.id?) (acyclic_kids_add h)]
        simp
      | _ => simp [encodeG, encodeS]
    | _ => cases t <;> rfl

  theorem encOneG_local (t : Ty) : ∀ (v : Val) (ids : Ids) (tags : List Nat), acyclic tags ids = true →
      encOneG false S R t v ids tags = (encOne R S t v, tags) := by
    intro v ids tags h
    cases v with
    | none => cases t <;> simp [encOneG, encOne]
    | list ws =>
      cases t with
      | arr m elem o =>
        simp only [encOneG, encOne, encodeItemsG_local elem ws ids.kids tags (acyclic_kids h)]
      | _ => simp [encOneG, encOne]
    | obj c fvs =>
      cases t with
      | obj n ns b fs o =>
        simp only [encOneG, encOne,
          encodeFieldsG_local (polyTarget S R n fs c).2 fvs ids.kids (addId tags ids.id?) (acyclic_kids_add h)]
        simp
      | _ => simp [encOneG, encOne]
    | _ => cases t <;> rfl

  theorem encodeItemsG_local (t : Ty) : ∀ (vs : List Val) (ks : List Ids) (tags : List Nat), acyclicAll tags ks = true →
      encodeItemsG false S R t vs ks tags = (some (encodeItems S R t vs), tags)
    | [], _, _, _ => by simp [encodeItemsG]
    | v :: vs, ks, tags, h => by
      rw [encodeItemsG, acyclic_unseen (acyclicAll_head h)]
      simp only [Bool.false_eq_true, if_false, encOneG_local t v (kidHead ks) tags (acyclicAll_head h),
        encodeItemsG_local t vs (kidTail ks) tags (acyclicAll_tail h), encodeItems_cons]

  theorem encodeFieldsG_local : ∀ (fs : Fields) (fvs : List (Text × Val)) (ks : List Ids) (tags : List Nat),
      acyclicAll tags ks = true → encodeFieldsG false S R fs fvs ks tags = (encodeFields S R fs fvs, tags)
    | [], _, _, _, _ => by simp [encodeFieldsG, encodeFields]
    | _ :: _, [], _, _, _ => by simp [encodeFieldsG, encodeFields]
    | (n, t) :: fs, (m, v) :: fvs, ks, tags, h => by
      rw [encodeFieldsG, acyclic_unseen (acyclicAll_head h)]
      simp only [Bool.and_false, Bool.false_eq_true, if_false, encodeG_local t v (kidHead ks) tags (acyclicAll_head h),
        encodeFieldsG_local fs fvs (kidTail ks) tags (acyclicAll_tail h), encodeFields]
end

/-- **identity independence**: with a path-local guard the document written for a value does not depend on which Python
    objects its nodes are, as long as no object contains itself -/
theorem encodeG_ids_irrelevant (t : Ty) (v : Val) (ids ids' : Ids) (h : acyclic [] ids = true) (h' : acyclic [] ids' = true) :
    (encodeG false S R t v ids []).1 = (encodeG false S R t v ids' []).1 := by
  rw [encodeG_local S R t v ids [] h, encodeG_local S R t v ids' [] h']

end SpyneModel.Hier
