/-
  C16 (dict-document part): wrapper-key polymorphism. An instance of a registered subclass written where the base
  class is declared carries the subclass name as wrapper key and the subclass's members, and is read back as an
  instance of that subclass; without polymorphism only the declared class's members are written.
-/
import Proofs.HierRound
namespace SpyneModel.Hier
open SpyneModel

variable {F : Facts08} {G : Facts02} {cfg : Cfg} {S : Spell} {rd : Bool}

theorem polyTarget_sub (R : Registry) (hpoly : S.poly = true) (name : Text) (fs : Fields) (cd : ClassDef)
    (hfind : R.find? cd.name = some cd) (hne : cd.name ≠ name) (hsub : R.hier.isSub R.length cd.name name = true) :
    polyTarget S R name fs cd.name = (cd.name, cd.fields) := by
  simp [polyTarget, hpoly, hne, hsub, hfind]

/-- a registered proper subclass makes `subclassesOf` non-empty, which is all `resolveClass` asks of that list -/
theorem mem_subclassesOf (R : Registry) (name : Text) (cd : ClassDef) (hmem : cd ∈ R) (hne : cd.name ≠ name)
    (hsub : R.hier.isSub R.length cd.name name = true) : (subclassesOf R name).isEmpty = false := by
  have : cd ∈ subclassesOf R name := by
    simp only [subclassesOf, List.mem_filter, Bool.and_eq_true, ne_eq]
    exact ⟨hmem, by simpa using hne, hsub⟩
  cases h : subclassesOf R name with
  | nil => rw [h] at this; cases this
  | cons a b => rfl

theorem resolveClass_sub (R : Registry) (name : Text) (fs : Fields) (cd : ClassDef)
    (hfind : R.find? cd.name = some cd) (hne : cd.name ≠ name) (hsub : R.hier.isSub R.length cd.name name = true) :
    resolveClass R name fs (some cd.name) = .good (cd.name, cd.fields) := by
  have hmem := (Registry.find?_some hfind).1
  unfold resolveClass
  simp only [Option.some.injEq, hne, if_false, mem_subclassesOf R name cd hmem hne hsub, Bool.false_eq_true, hfind]
  simp [hne, hsub]

/-- polymorphic round trip of one occurrence: the runtime class is kept -/
theorem poly_roundtrip (R : Registry) (C : RtCtx F G cfg S rd) (hpoly : S.poly = true) (hiw : S.iw = false)
    (name ns : Text) (base : Option Text) (fields : Fields) (o : Occ) (cd : ClassDef)
    (hfind : R.find? cd.name = some cd) (hne : cd.name ≠ name) (hsub : R.hier.isSub R.length cd.name name = true)
    (hnwn : cfg.notWrapped.contains name = false) (hnwc : cfg.notWrapped.contains cd.name = false)
    (hnd : namesDistinct (cd.fields.map (·.1)) = true) (hwf : wfFields cd.fields = true)
    (fvs : List (Text × Val)) (hc : conformsFields cd.fields fvs = true)
    (hmp : cfg.proto.isMsgpack = true → fitsFields F fvs = true ∧ (rd = true → mpReadableFields cd.fields = true))
    (hpl : plainFields S.cas cd.fields fvs = true) :
    decode F G cfg R (.obj name ns base fields o) (encOne R S (.obj name ns base fields o) (.obj cd.name fvs))
      = .good (.obj cd.name fvs) := by
  have hiw' : cfg.ignoreWrappers = false := by rw [← C.hiw]; exact hiw
  have hu : cfg.unwrapped name = false := by simp only [Cfg.unwrapped, hiw', hnwn, Bool.or_false]
  have hnwS : S.nw cd.name = false := by rw [C.hnw]; exact hnwc
  simp only [encOne, polyTarget_sub R hpoly name fields cd hfind hne hsub]
  rw [wrapPairs_wrapped S _ _ (C.dict_of_wrapped hiw) (by simp [hiw, hnwS]), decode_obj_wrapped _ _ _ _ hu, (C.hkey _).wrapper, Res.good_bind,
    resolveClass_sub R name fields cd hfind hne hsub, Res.good_bind]
  exact body_rt R C cd.name cd.fields fvs hnd ⟨fun nt _ => rt_ty R C nt.2, hwf, hc, hmp, hpl⟩

/-- whatever the instance holds, the members written are members of `fs`, in order: with polymorphism off `fs` is the
    declared class's list -/
theorem encodeFields_names (R : Registry) : ∀ (fs : Fields) (fvs : List (Text × Val)),
    ((encodeFields S R fs fvs).map (·.1)).Sublist (fs.map (·.1)) := by
  intro fs
  induction fs with
  | nil => intro fvs; simp [encodeFields]
  | cons nt fs ih =>
    obtain ⟨n, t⟩ := nt
    intro fvs
    cases fvs with
    | nil => simp [encodeFields]
    | cons mv fvs' =>
      obtain ⟨m, v⟩ := mv
      simp only [encodeFields, List.map_append, List.map_cons]
      split
      · simpa using (ih fvs').cons_cons n
      · simpa using (ih fvs').cons n

end SpyneModel.Hier
