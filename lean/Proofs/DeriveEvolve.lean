/-
  C15 proofs: append_field / insert_field. With the variants discipline in force, evolution writes the class, the keys
  of its own `_variants` - which are exactly its customised variants - and nothing else, and after a normal return all
  of them have the field. `evolve` is walked once, with one loop invariant.
-/
import Proofs.DeriveFrame
import Proofs.DeriveOrder
namespace SpyneModel.Derive
variable (F : Facts15)

/-- with the discipline, the keys of a class's `_variants` are exactly its customised variants -/
theorem variants_exact (h : Heap) (ih : Inv h) (c : Nat) (cl : Cls) (hc : h.cls[c]? = some cl)
    (hk : cl.kind.isComplex = true) (v : Nat) :
    v ∈ variantsOf h c ↔ ∃ vc, h.cls[v]? = some vc ∧ vc.kind.isComplex = true ∧ vc.orig = some c := by
  obtain ⟨x, hx, hvs⟩ := inv_variantsOf h ih c cl hc hk
  have hview := view_cls_of h c cl hc
  rw [hk] at hview
  constructor
  · intro hv
    rw [hvs] at hv
    cases x with
    | none => simp at hv
    | some l =>
      obtain ⟨ax, hax⟩ := ih.sound c cl.attrs cl.orig l hview hx v (by simpa using hv)
      obtain ⟨vc, a1, a2, _, a4⟩ := cls_of_view h v true ax (some c) hax
      exact ⟨vc, a1, a2, a4⟩
  · intro ⟨vc, a1, a2, a3⟩
    have hvv := view_cls_of h v vc a1
    rw [a2, a3] at hvv
    obtain ⟨ar, l, b1, b2, b3⟩ := ih.complete v vc.attrs c hvv
    obtain ⟨rc, c1, _, c3, _⟩ := cls_of_view h c true ar none b1
    rw [hc] at c1
    cases c1
    rw [← c3] at b2
    rw [variantsOf_own h c cl hc (some l) b2]
    simpa using b3

def AllVar (g : Heap) (vs : List Nat) : Prop :=
  ∀ v, v ∈ vs → ∃ vc, g.cls[v]? = some vc ∧ vc.kind.isComplex = true ∧ vc.orig ≠ none

theorem variantsOf_variant (g : Heap) (ig : Inv g) (v : Nat) (vc : Cls) (hv : g.cls[v]? = some vc)
    (hk : vc.kind.isComplex = true) (ho : vc.orig ≠ none) : variantsOf g v = [] := by
  cases hor : vc.orig with
  | none => exact absurd hor ho
  | some r =>
    have hview := view_cls_of g v vc hv
    rw [hk, hor] at hview
    have := (ig.variant _ _ _ hview).1
    rw [variantsOf_own g v vc hv none this]
    rfl

theorem allVar_of_core (g g2 : Heap) (vs : List Nat) (n na : Nat) (T : List Nat) (e : Ext n na T g g2)
    (hn : g.cls.length ≤ n) (av : AllVar g vs) : AllVar g2 vs := by
  intro v hv
  obtain ⟨vc, hvc, hk, ho⟩ := av v hv
  obtain ⟨vc2, h2, hk2, _, ho2⟩ := e.cls_core hvc (Nat.lt_of_lt_of_le (lt_of_getElem? hvc) hn)
  exact ⟨vc2, h2, by rw [hk2, hk], by rw [ho2]; exact ho⟩

def HasField (name : String) (g : Heap) (v : Nat) : Prop :=
  ∃ vc, g.cls[v]? = some vc ∧ name ∈ keysOf vc.fields

variable {n na : Nat} {T : List Nat} {h : Heap}

/-- the implementation part of an evolution step, abstractly: it may write its target - it respects the frame when
    the target may be written -, keeps the discipline, and leaves `name` in the field table of the target -/
structure ImplHas (name : String) (impl : Nat → M Unit) : Prop where
  run : ∀ (n na : Nat) (T : List Nat) (v : Nat) (g : Heap), (n ≤ v ∨ v ∈ T) →
    Run n na T (impl v) g (fun _ g2 => (∃ vc, g.cls[v]? = some vc) → HasField name g2 v)

/-- both implementation parts customise the new field type with the delayed child attributes and then write
    the field table of their target; whatever that write is, if it leaves `name` in the table, the target has it -/
theorem run_fieldWrite [DeepCopy F] (fuel : Nat) (order : DelayOrder) (name : String) (t : Nat)
    (pop : Bool) (w : List (String × Nat) → Nat → List (String × Nat)) (hw : ∀ d t2, name ∈ keysOf (w d t2))
    (v : Nat) (hv : n ≤ v ∨ v ∈ T) :
    Run n na T (do
      let t2 ← delayedBoth F fuel order v name t pop
      updCls v (fun cl => { cl with fields := w cl.fields t2 })) h
      (fun _ g2 => (∃ vc, h.cls[v]? = some vc) → HasField name g2 v) := by
  -- customising the field type writes no existing class
  refine Run.bind ((run_delayedBoth F fuel order v name t pop).also (run_delayedBoth (T := []) F fuel order v name t pop)) ?_
  rintro t2 g1 ⟨-, -, e, -⟩ - -
  refine Run.mono (Run.updCls _ _ hv) fun _ _ q ⟨vc, hvc⟩ => ?_
  obtain ⟨vc1, hv1, _⟩ := e.cls_core hvc (lt_of_getElem? hvc)
  exact ⟨_, by rw [q, Heap.updCls_cls, if_pos rfl, hv1]; rfl, hw _ _⟩

theorem implHas_append [DeepCopy F] (fuel : Nat) (name : String) (t : Nat) :
    ImplHas name (appendImpl F fuel name t) :=
  ⟨fun _ _ _ v _ hv => run_fieldWrite F fuel F.delayAppend name t false (fun d t2 => odictSet d name t2)
    (fun _ _ => mem_keys_odictSet _ _ _) v hv⟩

theorem implHas_insert [DeepCopy F] (fuel idx : Nat) (name : String) (t : Nat) :
    ImplHas name (insertImpl F fuel idx name t) :=
  ⟨fun _ _ _ v _ hv => run_fieldWrite F fuel F.delayInsert name t true (fun d t2 => odictInsert d idx name t2)
    (fun _ _ => mem_keys_odictInsert _ _ _ _) v hv⟩

/-- one step of the implementation part - the same triple taken also with its target as the only class it may
    write: the target gets the field, the other classes keep theirs -/
theorem ImplHas.step {name : String} {impl : Nat → M Unit} (hi : ImplHas name impl) (v : Nat) (g : Heap)
    (hv : n ≤ v ∨ v ∈ T) (hx : ∃ vc, g.cls[v]? = some vc) :
    Run n na T (impl v) g (fun _ g2 => HasField name g2 v ∧ (∀ w, HasField name g w → HasField name g2 w)
      ∧ Ext g.cls.length g.attrs.length [v] g g2 ∧ (Inv g → Inv g2)) :=
  ((hi.run n na T v g hv).also (hi.run _ _ [v] v g (Or.inr List.mem_cons_self))).mono fun _ g2 ⟨q, _, e, k⟩ =>
    ⟨q hx, fun w ⟨wc, hwc, hn⟩ => by
      by_cases ew : w = v
      · exact ew ▸ q hx
      · exact ⟨wc, by rw [e.cls w (lt_of_getElem? hwc) (by simpa using ew)]; exact hwc, hn⟩, e, k⟩

/-- FRAME and REACH for `append_field` / `insert_field` on a class of the family: existing classes other than the
    class and the keys of its `_variants` keep their record, the discipline is kept, and after a normal return the
    class and every model that was a customised variant of it before the call have the field -/
theorem run_evolve (name : String) (impl : Nat → M Unit) (hi : ImplHas name impl) (ih : Inv h) (c : Nat) (cl : Cls)
    (hc : h.cls[c]? = some cl) (hk : cl.kind.isComplex = true) :
    Run h.cls.length h.attrs.length (c :: variantsOf h c) (evolve impl c) h (fun _ h' =>
      HasField name h' c ∧ ∀ v vc, h.cls[v]? = some vc → vc.kind.isComplex = true → vc.orig = some c →
        HasField name h' v) := by
  unfold evolve
  refine Run.bind (hi.step c h (Or.inr List.mem_cons_self) ⟨cl, hc⟩) ?_
  rintro _ h1 ⟨hasc, -, e, k⟩ - -
  have k := k ih
  refine Run.getHeap_bind ?_
  -- in `h1` the class is still of the family; the keys of its `_variants` are its variants, old and new
  obtain ⟨cl1, hc1, hkc, _, _⟩ := e.cls_core hc (lt_of_getElem? hc)
  have hk1 : cl1.kind.isComplex = true := by rw [hkc]; exact hk
  have hex := variants_exact h1 k c cl1 hc1 hk1
  have av : AllVar h1 (variantsOf h1 c) := fun v hv => by
    obtain ⟨vc, a1, a2, a3⟩ := (hex v).mp hv
    exact ⟨vc, a1, a2, by rw [a3]; simp⟩
  have ht : ∀ v, v ∈ variantsOf h1 c → h.cls.length ≤ v ∨ v ∈ c :: variantsOf h c := fun v hv => by
    rcases Nat.lt_or_ge v h.cls.length with hl | hl
    · by_cases hin : v ∈ c :: variantsOf h c
      · exact Or.inr hin
      · obtain ⟨vc, a1, a2, a3⟩ := (hex v).mp hv
        rw [e.cls v hl (fun hx => hin (List.mem_singleton.mp hx ▸ List.mem_cons_self))] at a1
        exact Or.inr (List.mem_cons_of_mem _ ((variants_exact h ih c cl hc hk v).mpr ⟨vc, a1, a2, a3⟩))
    · exact Or.inl hl
  -- the loop: what is left to do are variants and may be written; what has been done has the field
  refine (Run.forEach (evolveVariant impl) (fun rest g => Inv g ∧ AllVar g rest ∧ (∀ v, v ∈ rest → v ∈ variantsOf h1 c)
    ∧ HasField name g c ∧ ∀ v, v ∈ variantsOf h1 c → v ∈ rest ∨ HasField name g v) ?_ (variantsOf h1 c) h1
    ⟨k, av, fun _ hv => hv, hasc, fun _ hv => Or.inl hv⟩).mono ?_
  · rintro v rest g ⟨ig, avg, hsub, hasg, hdone⟩
    obtain ⟨vc, hvc, hkv, hov⟩ := avg v List.mem_cons_self
    unfold evolveVariant
    refine Run.bind (hi.step v g (ht v (hsub v List.mem_cons_self)) ⟨vc, hvc⟩) ?_
    rintro _ g2 ⟨hasv, hmono, e2, k2⟩ - -
    have avg2 := allVar_of_core g g2 (v :: rest) _ _ _ e2 (Nat.le_refl _) avg
    refine Run.getHeap_bind ?_
    -- a customised variant has no variants of its own
    obtain ⟨vc2, hvc2, hkv2, hov2⟩ := avg2 v List.mem_cons_self
    rw [variantsOf_variant g2 (k2 ig) v vc2 hvc2 hkv2 hov2]
    exact Run.pure _ ⟨k2 ig, fun w hw => avg2 w (List.mem_cons_of_mem _ hw), fun w hw => hsub w (List.mem_cons_of_mem _ hw),
      hmono c hasg, fun w hw => by
        rcases hdone w hw with hr | hf
        · rcases List.mem_cons.mp hr with rfl | hr
          · exact Or.inr hasv
          · exact Or.inl hr
        · exact Or.inr (hmono w hf)⟩
  · rintro _ h' ⟨_, _, _, hasc', hdone⟩
    refine ⟨hasc', fun v vc hv hkv hov => (hdone v ?_).resolve_left (by simp)⟩
    obtain ⟨vc1, hv1, hkv1, _, hov1⟩ := e.cls_core hv (lt_of_getElem? hv)
    exact (hex v).mpr ⟨vc1, hv1, by rw [hkv1]; exact hkv, by rw [hov1]; exact hov⟩

/-- the operations `append` / `insert`: the checks, then `evolve` -/
theorem run_evolveOp (name : String) (impl : Nat → M Unit) (hi : ImplHas name impl) (ih : Inv h) (c t : Nat) :
    Run h.cls.length h.attrs.length (c :: variantsOf h c) (do
        let cl ← getCls c
        guardNone (if cl.kind.isComplex then none else some "AttributeError")
        let _ ← getCls t
        evolve impl c
        pure (none : Option Nat)) h (fun _ h' =>
      HasField name h' c ∧ ∀ v vc, h.cls[v]? = some vc → vc.kind.isComplex = true → vc.orig = some c →
        HasField name h' v) := by
  refine Run.getCls_bind _ fun cl hc => Run.guardNone_bind _ fun hk => Run.getCls_bind _ fun _ _ => ?_
  exact Run.bind (run_evolve name impl hi ih c cl hc (by cases hx : cl.kind.isComplex <;> simp_all))
    fun _ _ q _ _ => Run.pure _ q

end SpyneModel.Derive
