/-
  `object_to_simple_dict` writes the documented notation.
  For an object given by a canonical spelled value (members in class order, arrays numbered from
  0, no member-less objects) the flat dict it produces, values turned to text, IS the documented
  flat document — hence reading it back gives the object.
-/
import Proofs.FlatEntries
import Proofs.FlatStrict
namespace SpyneModel.Flat
open SpyneModel

/-- the flat-dict value a key carries -/
def KV.enc : KV → EncVal
  | .prims p false vs => .one p (vs.head?.getD .none)
  | .prims p true vs => .many p vs
  | .emptyArr => .empty
  | .emptyObj _ => .empty

/-- the flat dict of the keys of a spelled value below a prefix of written segments -/
def flatOf (delim : Text) (P : List Text) (es : List KEntry) : List (Text × EncVal) :=
  es.map (fun e => (joinKey delim (P ++ e.segs.map renderSeg), e.kv.enc))

theorem flatOf_push (delim : Text) (P : List Text) (n : Text) (i : Option Nat) (es : List KEntry) :
    flatOf delim P (es.map (KEntry.push n i)) = flatOf delim (P ++ [renderSeg (n, i)]) es := by
  simp [flatOf, KEntry.push, List.map_map, Function.comp_def, List.append_assoc]

theorem enumFrom_expElems {β : Type} (sub : List Fld) (g : Nat × Node → List β) :
    ∀ (elems : List (Nat × Members)) (o : Nat), elems.map Prod.fst = List.range' o elems.length →
      (enumFrom o (expElems sub elems)).flatMap g =
        elems.flatMap (fun el => g (el.1, Node.obj (expInto sub el.2 (freshAttrs sub)))) := by
  intro elems
  induction elems with
  | nil => intro o _; rfl
  | cons a r ih =>
    intro o h
    obtain ⟨i, ms⟩ := a
    simp only [List.map_cons, List.length_cons, List.range'_succ, List.cons.injEq] at h
    simp only [expElems, enumFrom, List.flatMap_cons]
    rw [ih (o + 1) h.2, h.1]

theorem OptFields_mem {fields : List Fld} (h : OptFields fields) {f : Fld} (hf : f ∈ fields) :
    f.2.1.minOcc = 0 ∧ OptTy f.2.2 :=
  forall_mem_of_cons (P := OptFields) (Q := fun f => f.2.1.minOcc = 0 ∧ OptTy f.2.2)
    (fun _ _ h => ⟨⟨h.1, h.2.1⟩, h.2.2⟩) fields h f hf

theorem InOrderAll_unpack {fields : List Fld} {ms : Members} (h : InOrderAll fields ms) :
    ∀ n sv, (n, sv) ∈ ms → InOrderVal fields n sv :=
  fun n sv hm => forall_mem_of_cons (P := InOrderAll fields) (Q := fun m => InOrderVal fields m.1 m.2)
    (fun ⟨_, _⟩ _ h => by simpa only [InOrderAll] using h) ms h (n, sv) hm

theorem InOrderElems_unpack {sub : List Fld} {elems : List (Nat × Members)} (h : InOrderElems sub elems) :
    ∀ i ms, (i, ms) ∈ elems → InOrder sub ms :=
  fun i ms hm => forall_mem_of_cons (P := InOrderElems sub) (Q := fun el => InOrder sub el.2)
    (fun ⟨_, _⟩ _ h => by simpa only [InOrderElems] using h) elems h (i, ms) hm

theorem flatOf_flatMap {α : Type} (delim : Text) (P : List Text) (l : List α) (h : α → List KEntry) :
    flatOf delim P (l.flatMap h) = l.flatMap fun a => flatOf delim P (h a) := by
  simp only [flatOf, List.map_flatMap]

/-- `encFields` member by member, given what each member writes -/
theorem encFields_flatMap (delim : Text) (P : List Text) (attrs : Attrs) (G : Fld → List (Text × EncVal)) :
    ∀ fs : List Fld, (∀ f r, f ∈ fs → encFields delim P attrs (f :: r) = G f ++ encFields delim P attrs r) →
      encFields delim P attrs fs = fs.flatMap G
  | [], _ => rfl
  | f :: r, h => by
    rw [h f r List.mem_cons_self, encFields_flatMap delim P attrs G r fun f' r' hf' => h f' r' (List.mem_cons_of_mem _ hf'),
      List.flatMap_cons]

/-- `object_to_simple_dict` of the object a canonical spelled value denotes is the flat dict of
    its documented keys -/
theorem enc_expInto (F : Facts03) (delim : Text) (fields : List Fld) (ms : Members) (P : List Text)
    (hnd : (fields.map Prod.fst).Nodup) (hwf : WfFields fields) (hopt : OptFields fields)
    (hwt : WtMembers F fields ms) (hcontig : ContigMembers ms) (hord : InOrder fields ms) :
    encFields delim P (expInto fields ms (freshAttrs fields)) fields = flatOf delim P (kentries fields ms) := by
  induction ms using Members.induct generalizing fields P with
  | step ms ih =>
    obtain ⟨hmsnd, hvals⟩ := WtMembers_unpack hwt
    have hcvals := ContigMembers_unpack hcontig
    rw [InOrder] at hord
    have hovals := InOrderAll_unpack hord.2
    have hget : ∀ k, getAttr (expInto fields ms (freshAttrs fields)) k =
        match ms.find? (fun m => m.1 = k) with
        | some m => expNode fields m.1 m.2
        | none => .none := by
      intro k; rw [getAttr_expInto fields ms hmsnd]; simp only [getAttr_freshAttrs]
      cases ms.find? (fun m => decide (m.1 = k)) <;> rfl
    generalize expInto fields ms (freshAttrs fields) = attrs at hget
    have hmember : ∀ n sv occ t (r : List Fld), (n, sv) ∈ ms → (n, occ, t) ∈ fields →
        getAttr attrs n = expNode fields n sv →
        encFields delim P attrs ((n, occ, t) :: r) =
          flatOf delim P (kentriesVal fields n sv) ++ encFields delim P attrs r := by
      intro n sv occ t r hmem hfld hg
      simp only [encFields]
      rw [hg]
      congr 1
      have hl := lookupFld_of_mem hnd hfld
      simp only at hl
      have hwv := hvals n sv hmem
      have hcv := hcvals n sv hmem
      have hov := hovals n sv hmem
      have ih := ih n sv hmem
      cases sv with
      | leaf v =>
        obtain ⟨occ', p, hl', hm, _⟩ := hwv
        cases hl.symm.trans hl'
        simp [expNode, hm, encTy, kentriesVal, flatOf, KV.enc, renderSeg, primOf, hl]
      | leaves vs =>
        obtain ⟨occ', p, hl', hm, _⟩ := hwv
        cases hl.symm.trans hl'
        simp [expNode, hm, kentriesVal, flatOf, KV.enc, renderSeg, primOf, hl]
      | emptyObj => simp [InOrderVal] at hov
      | obj ms' =>
        obtain ⟨occ', cid, sub, hl', hm, hne', hwt'⟩ := hwv
        cases hl.symm.trans hl'
        obtain ⟨hsnd, hswf⟩ := Wf_sub hwf hl
        have hso := (OptFields_mem hopt hfld).2
        simp only [OptTy] at hso
        simp only [ContigVal] at hcv
        simp only [InOrderVal, subOf_eq hl] at hov
        simp only [expNode, subOf_eq hl, hm, encTy, kentriesVal]
        rw [ih sub (P ++ [n]) hsnd.1 hswf hso hwt' hcv hov, flatOf_push]
        rfl
      | arr elems =>
        obtain ⟨occ', cid, sub, hl', hm, hinc, hwe⟩ := hwv
        cases hl.symm.trans hl'
        obtain ⟨hsnd, hswf⟩ := Wf_sub hwf hl
        have hso := (OptFields_mem hopt hfld).2
        simp only [OptTy] at hso
        simp only [ContigVal] at hcv
        simp only [InOrderVal, subOf_eq hl] at hov
        have hel := WtElems_unpack hwe
        have hcel := ContigElems_unpack hcv.2
        have hoel := InOrderElems_unpack hov
        simp only [expNode, subOf_eq hl, hm, kentriesVal]
        by_cases hemp : elems = []
        · subst hemp
          simp [expElems, flatOf, KV.enc, renderSeg]
        · have h1 : (expElems sub elems).isEmpty = false := by
            cases elems with
            | nil => exact absurd rfl hemp
            | cons a r => obtain ⟨i, ms0⟩ := a; rfl
          have h2 : elems.isEmpty = false := by
            cases elems with
            | nil => exact absurd rfl hemp
            | cons _ _ => rfl
          simp only [h1, h2, Bool.false_eq_true, if_false]
          rw [enumFrom_expElems sub _ elems 0 (by rw [hcv.1, List.range_eq_range']),
            kentriesElems_eq_flatMap]
          simp only [flatOf, List.map_flatMap]
          rw [List.flatMap_def, List.flatMap_def]
          congr 1
          apply List.map_congr_left
          intro el hel'
          obtain ⟨i, ms_i⟩ := el
          simp only [encTy]
          rw [ih i ms_i hel' sub (P ++ [idxSeg n i]) hsnd.1 hswf hso (hel i ms_i hel').2 (hcel i ms_i hel')
            (hoel i ms_i hel')]
          have := flatOf_push delim P n (some i) (kentries sub ms_i)
          simp only [flatOf, renderSeg] at this ⊢
          rw [this]
          rfl
    -- the spelled members stand in class order: their keys, gathered along the members of the class
    rw [kentries_eq_flatMap, ← flatMap_find?_of_sublist Prod.fst Prod.fst (fun m => kentriesVal fields m.1 m.2) fields ms
      hord.1 hnd, flatOf_flatMap]
    refine encFields_flatMap delim P attrs _ fields fun f r hf => ?_
    obtain ⟨n, occ, t⟩ := f
    have hg := hget n
    cases hfind : ms.find? (fun m => m.1 = n) with
    | some m =>
      obtain ⟨hm, rfl⟩ : m ∈ ms ∧ m.1 = n := ⟨List.mem_of_find?_eq_some hfind, by simpa using List.find?_some hfind⟩
      simp only [hfind] at hg ⊢
      exact hmember m.1 m.2 occ t r hm hf hg
    | none =>
      -- the member is not spelled: it is None and writes nothing
      simp only [hfind] at hg ⊢
      have hmin := (OptFields_mem hopt hf).1
      simp only at hmin
      simp only [encFields, flatOf, List.map_nil, List.nil_append]
      rw [hg]
      cases occ.many <;> cases t <;> simp [encTy, hmin]

/-- a single value where the member is not a list, at least one where it is -/
def KV.shape : KV → Prop
  | .prims _ false vs => vs.length = 1
  | .prims _ true vs => vs ≠ []
  | _ => True

/-- the values of the flat dict, written as text: the documented flat document -/
theorem toDoc_flatOf (F : Facts03) (delim : Text) (fields : List Fld) (ms : Members)
    (hv : ∀ e, e ∈ kentries fields ms → e.kv.shape) :
    toDoc F (flatOf delim [] (kentries fields ms)) = docOf F delim fields ms := by
  unfold toDoc docOf flatOf
  have hkeep : ∀ e, e ∈ kentries fields ms →
      (!(encValTexts F e.kv.enc).isEmpty) = true ∧ encValTexts F e.kv.enc = e.kv.texts F := by
    intro e he
    have := hv e he
    cases hkv : e.kv with
    | prims p many vs =>
      rw [hkv] at this
      cases many with
      | false =>
        cases vs with
        | nil => simp [KV.shape] at this
        | cons v r =>
          have : r = [] := by simpa [KV.shape] using this
          subst this
          simp [KV.enc, encValTexts, KV.texts]
      | true =>
        cases vs with
        | nil => exact absurd rfl this
        | cons v r => simp [KV.enc, encValTexts, KV.texts]
    | emptyArr => simp [KV.enc, encValTexts, KV.texts]
    | emptyObj sub => simp [KV.enc, encValTexts, KV.texts]
  generalize kentries fields ms = es at hkeep
  induction es with
  | nil => rfl
  | cons e r ih =>
    have h1 := hkeep e List.mem_cons_self
    have ih' := ih (fun e' he' => hkeep e' (List.mem_cons_of_mem _ he'))
    simp only [List.map_cons, List.nil_append, List.filter_cons] at ih' ⊢
    rw [if_pos h1.1]
    simp only [List.map_cons, h1.2]
    rw [ih']
    rfl

theorem kentries_shape (F : Facts03) (fields : List Fld) (ms : Members) (hwt : WtMembers F fields ms) :
    ∀ e, e ∈ kentries fields ms → e.kv.shape := by
  induction ms using Members.induct generalizing fields with
  | step ms ih =>
    intro e he
    obtain ⟨n, sv, hmem, he'⟩ := kentries_mem fields ms e he
    have hwv := (WtMembers_unpack hwt).2 n sv hmem
    have ih := ih n sv hmem
    cases sv with
    | leaf v => simp only [kentriesVal, List.mem_singleton] at he'; subst he'; simp [KV.shape]
    | leaves vs =>
      obtain ⟨_, _, _, _, hne, _⟩ := hwv
      simp only [kentriesVal, List.mem_singleton] at he'; subst he'; exact hne
    | emptyObj => simp only [kentriesVal, List.mem_singleton] at he'; subst he'; trivial
    | obj ms' =>
      obtain ⟨occ, cid, sub, hl, _, _, hwt'⟩ := hwv
      simp only [kentriesVal, subOf_eq hl, List.mem_map] at he'
      obtain ⟨y, hy, rfl⟩ := he'
      exact ih sub hwt' y hy
    | arr elems =>
      obtain ⟨occ, cid, sub, hl, _, _, hwe⟩ := hwv
      simp only [kentriesVal, subOf_eq hl] at he'
      split at he'
      · simp only [List.mem_singleton] at he'; subst he'; trivial
      · obtain ⟨i, ms', y, hel, hy, rfl⟩ := kentriesElems_form sub n elems e he'
        exact ih i ms' hel sub (WtElems_unpack hwe i ms' hel).2 y hy

/-- what a client sends for the object a canonical spelled value denotes — `object_to_simple_dict`,
    every value as text — is the documented flat document of that value -/
theorem toDoc_encode (F : Facts03) (delim : Text) (fields : List Fld) (ms : Members)
    (hwf : WfSig fields) (hopt : OptFields fields) (hwt : WtMembers F fields ms)
    (hcontig : ContigMembers ms) (hord : InOrder fields ms) :
    toDoc F (encode delim fields (.obj (expAttrs fields ms))) = docOf F delim fields ms := by
  simp only [encode, expAttrs]
  rw [enc_expInto F delim fields ms [] hwf.1.1 hwf.2 hopt hwt hcontig hord]
  exact toDoc_flatOf F delim fields ms (kentries_shape F fields ms hwt)

end SpyneModel.Flat
