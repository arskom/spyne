/-
  `str(Decimal)` and `Decimal(str)`: both go through the parts of a numeral (integer digits, fraction digits, exponent);
  the literals of xs:decimal are the numerals without exponent.
-/
import Proofs.Numeral
namespace SpyneModel

/-- the characters `str(Decimal)` and the xs:decimal literals are made of -/
def decChar (c : Char) : Bool := isDigit c || c = '.' || c = '-' || c = '+' || c = 'E'

theorem decChar_ok (c : Char) (h : decChar c = true) : isPyUSpace c = false ∧ (c != '_') = true := by
  simp only [decChar, Bool.or_eq_true, decide_eq_true_eq] at h
  rcases h with (((h | h) | h) | h) | h
  · exact ⟨digit_not_uspace c h, by simpa using fun e : c = '_' => by subst e; simp [isDigit] at h⟩
  all_goals (subst h; decide)

theorem strip_filter_id (s : Text) (h : s.all decChar = true) :
    (stripU s).filter (fun c => c != '_') = s := by
  rw [List.all_eq_true] at h
  unfold stripU
  rw [strip_none s (fun c hc => (decChar_ok c (h c hc)).1)]
  exact List.filter_eq_self.2 (fun c hc => (decChar_ok c (h c hc)).2)

theorem all_decChar_of_digits (s : Text) (h : s.all isDigit = true) : s.all decChar = true := by
  rw [List.all_eq_true] at h ⊢
  intro c hc; simp [decChar, h c hc]

theorem pctPlusD_all (k : Int) : (pctPlusD k).all decChar = true := by
  unfold pctPlusD
  rw [List.all_cons, all_decChar_of_digits _ (natText_all_digits _)]
  by_cases hk : k < 0 <;> simp [hk, decChar]

theorem signedDigitsEnd_pctPlusD (k : Int) : signedDigitsEnd (pctPlusD k) = some k := by
  unfold signedDigitsEnd pctPlusD splitSign
  by_cases hk : k < 0 <;> simp [hk, allDigits_natText, valNat_natText] <;> omega

def expSuffix : Option Int → Text
  | none => []
  | some k => 'E' :: pctPlusD k

theorem parseExpPart_expSuffix (e : Option Int) : parseExpPart (expSuffix e) = some (e.getD 0) := by
  cases e with
  | none => simp [expSuffix, parseExpPart]
  | some k => simp [expSuffix, parseExpPart, signedDigitsEnd_pctPlusD]

theorem expSuffix_head (e : Option Int) : ∀ c r, expSuffix e = c :: r → (isDigit c = false ∧ c ≠ '.') := by
  intro c r h
  cases e with
  | none => simp [expSuffix] at h
  | some k => simp [expSuffix] at h; rw [← h.1]; decide

theorem expSuffix_all (e : Option Int) : (expSuffix e).all decChar = true := by
  cases e with
  | none => simp [expSuffix]
  | some k => simp only [expSuffix, List.all_cons, pctPlusD_all]; decide

def fracPart (hasPoint : Bool) (fp : Text) : Text := if hasPoint then '.' :: fp else []

/-- the digits of an unsigned numeral `ip[.fp]`: integer digits, fraction digits, whether the point is written -/
structure DecDigits where
  ip : Text
  fp : Text
  point : Bool
  ipDigits : ip.all isDigit = true
  fpDigits : fp.all isDigit = true
  noPoint : point = false → fp = []
  nonempty : (ip.isEmpty && fp.isEmpty) = false

/-- a decimal numeral `[sign] ip [. fp] [E exp]`: the abstract syntax between `str(Decimal)` / the xs:decimal literals
    and `Decimal(str)` -/
structure DecNumeral extends DecDigits where
  sign : Text
  neg : Bool
  exp : Option Int
  signOk : SignPrefix sign neg

namespace DecDigits

/-- the numeral without its sign, with exponent `e` -/
def text (g : DecDigits) (e : Option Int) : Text := g.ip ++ (fracPart g.point g.fp ++ expSuffix e)

def coeff (g : DecDigits) : Nat := valNat (g.ip ++ g.fp)

theorem optFrac_tail (g : DecDigits) (e : Option Int) : optFrac (fracPart g.point g.fp ++ expSuffix e) = (g.fp, expSuffix e) := by
  cases hpt : g.point with
  | true =>
    simp only [fracPart, if_true, List.cons_append, optFrac]
    exact spanDigits_all g.fp g.fpDigits _ (fun c r h => (expSuffix_head e c r h).1)
  | false =>
    rw [g.noPoint hpt]
    simp only [fracPart, Bool.false_eq_true, if_false, List.nil_append]
    cases hs : expSuffix e with
    | nil => simp [optFrac]
    | cons c r =>
      have := (expSuffix_head e c r hs).2
      simp [optFrac, this]

theorem spanDigits_text (g : DecDigits) (e : Option Int) :
    spanDigits (g.text e) = (g.ip, fracPart g.point g.fp ++ expSuffix e) := by
  apply spanDigits_all g.ip g.ipDigits
  intro c r h
  cases hpt : g.point with
  | true => simp [fracPart, hpt] at h; rw [← h.1]; decide
  | false =>
    simp [fracPart, hpt] at h
    exact (expSuffix_head e c r h).1

/-- a numeral starts with a digit or the point, never with a sign -/
theorem text_head (g : DecDigits) (e : Option Int) : ∃ c r, g.text e = c :: r ∧ c ≠ '-' ∧ c ≠ '+' := by
  unfold text
  cases hip : g.ip with
  | cons c r =>
    have := g.ipDigits
    rw [hip, List.all_cons, Bool.and_eq_true] at this
    exact ⟨c, _, rfl, digit_not_sign c this.1⟩
  | nil =>
    cases hpt : g.point with
    | true => exact ⟨'.', g.fp ++ expSuffix e, by simp [fracPart], by decide, by decide⟩
    | false =>
      have := g.nonempty
      rw [hip, g.noPoint hpt] at this
      cases this

theorem parseDecNumber_text (g : DecDigits) (e : Option Int) : parseDecNumber (g.text e) = some (g.ip, g.fp, e.getD 0) := by
  unfold parseDecNumber
  rw [spanDigits_text]
  simp only [optFrac_tail, g.nonempty, parseExpPart_expSuffix]
  simp

theorem all_decChar (g : DecDigits) (e : Option Int) : (g.text e).all decChar = true := by
  have h2 : (fracPart g.point g.fp).all decChar = true := by
    cases g.point <;> simp [fracPart, all_decChar_of_digits g.fp g.fpDigits, decChar]
  simp only [text, List.all_append, all_decChar_of_digits g.ip g.ipDigits, h2, expSuffix_all, Bool.and_self]

end DecDigits

namespace DecNumeral

def text (n : DecNumeral) : Text := n.sign ++ n.toDecDigits.text n.exp

/-- the `Decimal` the numeral denotes: exactly its digits, the exponent lowered by the number of fraction digits -/
def dec (n : DecNumeral) : Dec := ⟨n.neg, n.coeff, n.exp.getD 0 - (n.fp.length : Int)⟩

theorem splitSign_text (n : DecNumeral) : splitSign n.text = (n.neg, n.toDecDigits.text n.exp) := by
  obtain ⟨c, r, hcr, hc⟩ := n.toDecDigits.text_head n.exp
  unfold text
  rw [hcr, splitSign_append n.sign n.neg n.signOk c r hc]

/-- `Decimal(str)` reads a numeral as what it denotes: any spelling of the sign, leading zeros, any exponent -/
theorem read (F : Facts08x) (n : DecNumeral) (hlen : n.text.length ≤ F.decMaxStrLen) (hrep : n.dec.representable) :
    decFromText F n.text = .ok (.fin n.dec) := by
  have hall : n.text.all decChar = true := by
    have h1 : ∀ sg neg, SignPrefix sg neg → sg.all decChar = true := by intro sg neg h; cases h <;> decide
    simp only [text, List.all_append, h1 _ _ n.signOk, n.toDecDigits.all_decChar, Bool.and_self]
  have hl : ¬ (n.text.length > F.decMaxStrLen) := by omega
  have hlim : decLimitsOk (valNat (n.ip ++ n.fp)) (n.exp.getD 0 - (n.fp.length : Int)) = true := hrep
  unfold decFromText
  simp only [hl, if_false, strip_filter_id _ hall, splitSign_text, DecDigits.parseDecNumber_text, hlim, if_true]
  rfl

/-- a numeral without exponent is an xs:decimal literal -/
theorem xsd (n : DecNumeral) (he : n.exp = none) : XsdLex.decimal n.text = true := by
  unfold XsdLex.decimal
  rw [splitSign_text, he]
  simp only [DecDigits.spanDigits_text]
  cases hpt : n.point with
  | true =>
    simp only [fracPart, if_true, expSuffix, List.append_nil, spanDigits_digits n.fp n.fpDigits]
    simp [n.nonempty]
  | false =>
    have hne := n.nonempty
    rw [n.noPoint hpt] at hne ⊢
    simp [fracPart, expSuffix]
    simpa using hne

end DecNumeral

def signText (neg : Bool) : Text := if neg then ['-'] else []

theorem signText_prefix (neg : Bool) : SignPrefix (signText neg) neg := by
  cases neg <;> constructor

theorem all_of_sublist {s t : Text} (hs : t.Sublist s) (h : s.all isDigit = true) : t.all isDigit = true := by
  rw [List.all_eq_true] at h ⊢
  intro c hc; exact h c (hs.subset hc)

/-- the digits of `str(Decimal)` with the point at `dp`: integer digits, fraction digits, same value -/
theorem decBody_form (ds : Text) (hds : ds.all isDigit = true) (hne : ds.isEmpty = false) (dp : Int)
    (hdp : dp ≤ ds.length) :
    ∃ g : DecDigits,
      (if dp ≤ 0 then '0' :: '.' :: (List.replicate (-dp).toNat '0' ++ ds)
       else if dp ≥ (ds.length : Int) then ds ++ List.replicate (dp - (ds.length : Int)).toNat '0'
       else ds.take dp.toNat ++ '.' :: ds.drop dp.toNat) = g.ip ++ fracPart g.point g.fp ∧
      g.coeff = valNat ds ∧ (g.fp.length : Int) = ds.length - dp := by
  by_cases hA : dp ≤ 0
  · refine ⟨⟨['0'], List.replicate (-dp).toNat '0' ++ ds, true, by decide, ?_, by simp, by simp⟩,
      by simp [hA, fracPart], ?_, by simp; omega⟩
    · simp [List.all_append, List.all_replicate, isDigit, hds]
    · have : ['0'] ++ (List.replicate (-dp).toNat '0' ++ ds) = List.replicate ((-dp).toNat + 1) '0' ++ ds := by
        simp [List.replicate_succ]
      rw [DecDigits.coeff, this, valNat_append, valNat_replicate_zero]; simp
  · by_cases hB : dp ≥ (ds.length : Int)
    · have h0 : (dp - (ds.length : Int)).toNat = 0 := by omega
      exact ⟨⟨ds, [], false, hds, by simp, by simp, by simp [hne]⟩, by simp [hA, hB, h0, fracPart],
        by simp [DecDigits.coeff], by simp; omega⟩
    · refine ⟨⟨ds.take dp.toNat, ds.drop dp.toNat, true, all_of_sublist (List.take_sublist _ _) hds,
        all_of_sublist (List.drop_sublist _ _) hds, by simp, ?_⟩, by simp [hA, hB, fracPart],
        by rw [DecDigits.coeff, List.take_append_drop], by simp; omega⟩
      cases ds with
      | nil => simp at hne
      | cons c t =>
        cases hk : dp.toNat with
        | zero => omega
        | succ k => simp

/-- `str(Decimal)` is a numeral that denotes the value; it has an exponent exactly in scientific notation -/
theorem decToText_numeral (d : Dec) : ∃ n : DecNumeral, decToText d = n.text ∧ n.dec = d ∧
    (n.exp = none ↔ (d.exp ≤ 0 ∧ d.leftdigits > -6)) := by
  have hpos := List.length_pos_iff.2 (natText_ne_nil d.coeff)
  unfold decToText Dec.leftdigits
  simp only []
  generalize hdp : (if d.exp ≤ 0 ∧ d.exp + ((natText d.coeff).length : Int) > -6
    then d.exp + ((natText d.coeff).length : Int) else 1) = dp
  have hle : dp ≤ (natText d.coeff).length := by rw [← hdp]; split <;> omega
  obtain ⟨g, hbody, hval, hlen⟩ := decBody_form (natText d.coeff) (natText_all_digits _) (natText_isEmpty _) dp hle
  rw [hbody, valNat_natText] at *
  by_cases hplain : d.exp ≤ 0 ∧ d.exp + ((natText d.coeff).length : Int) > -6
  · rw [if_pos hplain] at hdp
    refine ⟨⟨g, signText d.neg, d.neg, none, signText_prefix d.neg⟩,
      by simp [hdp, DecNumeral.text, DecDigits.text, expSuffix, signText], ?_, by simp [hplain]⟩
    simp only [DecNumeral.dec, hval, Option.getD_none]
    congr 1; omega
  · rw [if_neg hplain] at hdp
    have hleft : ¬ (d.exp + ((natText d.coeff).length : Int) = dp) := by omega
    refine ⟨⟨g, signText d.neg, d.neg, some (d.exp + ((natText d.coeff).length : Int) - dp), signText_prefix d.neg⟩,
      by simp [hleft, DecNumeral.text, DecDigits.text, expSuffix, signText], ?_, by simp; omega⟩
    simp only [DecNumeral.dec, hval, Option.getD_some]
    congr 1; omega

/-- every finite Decimal whose text fits the guard is read back as the same (sign, coefficient, exponent) -/
theorem decFromText_decToText (F : Facts08x) (d : Dec) (hrep : d.representable)
    (hlen : (decToText d).length ≤ F.decMaxStrLen) : decFromText F (decToText d) = .ok (.fin d) := by
  obtain ⟨n, ht, hd, _⟩ := decToText_numeral d
  rw [ht] at hlen ⊢
  rw [← hd] at hrep ⊢
  exact n.read F hlen hrep

/-- every xs:decimal literal is a numeral without exponent -/
theorem xsdDecimal_numeral (s : Text) (h : XsdLex.decimal s = true) : ∃ n : DecNumeral, s = n.text ∧ n.exp = none := by
  obtain ⟨sg, neg, body, rfl, hsplit, hsg⟩ := splitSign_form s
  unfold XsdLex.decimal at h
  rw [hsplit] at h
  simp only at h
  obtain ⟨hb, hipd, _⟩ := spanDigits_spec body
  generalize spanDigits body = p at h hb hipd
  obtain ⟨ip, r1⟩ := p
  simp only at h hb hipd
  subst hb
  cases r1 with
  | nil =>
    simp only at h
    exact ⟨⟨⟨ip, [], false, hipd, by simp, by simp, by simpa using h⟩, sg, neg, none, hsg⟩,
      by simp [DecNumeral.text, DecDigits.text, fracPart, expSuffix], rfl⟩
  | cons c r =>
    simp only at h
    by_cases hc : c = '.'
    · subst hc
      simp only [if_true] at h
      obtain ⟨hr, hfpd, _⟩ := spanDigits_spec r
      generalize spanDigits r = p2 at h hr hfpd
      obtain ⟨fp, r2⟩ := p2
      simp only [Bool.and_eq_true, List.isEmpty_iff] at h hr hfpd
      obtain ⟨rfl, hne⟩ := h
      simp only [List.append_nil] at hr
      subst hr
      refine ⟨⟨⟨ip, r, true, hipd, hfpd, by simp, ?_⟩, sg, neg, none, hsg⟩,
        by simp [DecNumeral.text, DecDigits.text, fracPart, expSuffix], rfl⟩
      revert hne; cases ip <;> cases r <;> simp
    · simp [hc] at h

theorem natText_valNat_length (ds : Text) (hd : ds.all isDigit = true) (hne : ds ≠ []) :
    (natText (valNat ds)).length ≤ ds.length := by
  have hlt := valNat_lt_pow ds hd
  cases hl : ds.length with
  | zero => cases ds <;> simp_all
  | succ k =>
    rw [hl] at hlt
    exact natText_length_le k _ hlt

/-- every xs:decimal literal within the length guard is read, and as the number it denotes -/
theorem decFromText_xsdDecimal (F : Facts08x) (hG : F.decMaxStrLen ≤ 999999999999999999)
    (s : Text) (h : XsdLex.decimal s = true) (hlen : s.length ≤ F.decMaxStrLen) :
    ∃ d, decFromText F s = .ok (.fin d) ∧
      sameValue d.num d.scale (XsdLex.valueOfDecimal s).1 (XsdLex.valueOfDecimal s).2 := by
  obtain ⟨n, rfl, he⟩ := xsdDecimal_numeral s h
  have hiplen : n.ip.length + n.fp.length ≤ n.text.length := by
    simp only [DecNumeral.text, DecDigits.text, he, expSuffix, List.append_nil, List.length_append]
    cases hpt : n.point with
    | true => simp [fracPart]; omega
    | false => rw [n.noPoint hpt]; simp [fracPart]
  have hne' : n.ip ++ n.fp ≠ [] := by
    intro hh; simp at hh; have := n.nonempty; simp [hh.1, hh.2] at this
  have hnt := natText_valNat_length (n.ip ++ n.fp) (by simp [List.all_append, n.ipDigits, n.fpDigits]) hne'
  have hrep : n.dec.representable := by
    simp only [Dec.representable, DecNumeral.dec, DecDigits.coeff, decLimitsOk, Bool.and_eq_true, decide_eq_true_eq,
      decEtiny, decEmax, he, Option.getD_none]
    simp at hnt
    constructor <;> omega
  refine ⟨n.dec, n.read F hlen hrep, ?_⟩
  unfold XsdLex.valueOfDecimal
  rw [DecNumeral.splitSign_text]
  simp only [DecDigits.spanDigits_text, DecDigits.optFrac_tail]
  unfold sameValue Dec.num Dec.scale DecNumeral.dec DecDigits.coeff
  simp only [he, Option.getD_none]
  have e1 : ((0 : Int) - (n.fp.length : Int)).toNat = 0 := by omega
  have e2 : (-((0 : Int) - (n.fp.length : Int))).toNat = n.fp.length := by omega
  rw [e1, e2, valNat_append]
  cases n.neg <;> simp

/-- every branch of the parser ends in a value or the fault -/
theorem decFromText_ne_crash (F : Facts08x) (s : Text) (e : String) : decFromText F s ≠ .crash e := by
  unfold decFromText
  repeat' (first | split | (dsimp only; split))
  all_goals nofun

end SpyneModel
