/-
  What an element that `from_element` accepts looks like, for classes with member kinds (SpyneModel/XmlAttr.lean):
  the three passes over an object element, the two things the child loop can do with a child, and where an exception
  that leaves it can have been raised.
-/
import SpyneModel.XmlAttr
import Proofs.XmlLeafRt
namespace SpyneModel
namespace Xml

/-- an attribute value or the text of an XmlData member is read by the specification of its type when the soft checks
    are in place, else by the bare parser -/
theorem modifierValue_eq {F : Facts08} (L : LeafLaws F) (A : FactsAttr) (cfg : Cfg) (p : PrimTy) (s : Text) :
    modifierValue F A cfg p s = if cfg.soft && A.attrSoftChecked then leafSpec F p s else leafFromText F p s :=
  twoStage_eq L _ p s

/-- `xsi:nil` wins over everything else an element carries: attributes, text, children -/
theorem nil_with_attributes (F : Facts08) (X : FactsXml) (A : FactsAttr) (cfg : Cfg) (I : IfaceA) (t : TyA)
    (ns name : Text) (attrs : List (Text × Text)) (text : Option Text) (children : List Node)
    (hnil : isNil X attrs = true) :
    fromElementA F X A cfg I t (.elem ns name attrs text children) =
      (if cfg.soft && !t.occ.nillable then .fault else .ok .none) := by
  rw [fromElementA, if_pos hnil]

/-- the type `from_element` goes on with: the declared one, or what `xsi:type` names (`none` = ValidationError) -/
def resolvedA (X : FactsXml) (cfg : Cfg) (I : IfaceA) (t : TyA) (attrs : List (Text × Text)) : Option TyA :=
  if cfg.parseXsiType then
    (match attrs.lookup xsiTypeKey with
     | none => some t
     | some key => resolveXsiA X I t key)
  else some t

theorem resolvedA_off {X : FactsXml} {cfg : Cfg} (hP : cfg.parseXsiType = false) (I : IfaceA) (t : TyA)
    (attrs : List (Text × Text)) : resolvedA X cfg I t attrs = some t := by
  simp [resolvedA, hP]

theorem attrPass_hit (F : Facts08) (A : FactsAttr) (cfg : Cfg) (fields : List (Text × MKind × TyA)) (key s : Text)
    (as : List (Text × Text)) (st : List (Text × Val)) (p : PrimTy) (o : Occ) (v : Val)
    (hlk : lookupA fields key = some (.attribute, .prim p o)) (hmod : modifierValue F A cfg p s = .ok v) :
    attrPass F A cfg fields ((key, s) :: as) st = attrPass F A cfg fields as (stSet st key v) := by
  rw [attrPass]
  simp only [hlk, hmod]

theorem childLoopA_step {F : Facts08} {X : FactsXml} {A : FactsAttr} {cfg : Cfg} (hLeak : A.childAttrsIgnored = true) (I : IfaceA)
    (allFields : List (Text × MKind × TyA)) (e : Node) (rest : List Node) (st : List (Text × Val)) (t : TyA) (w : Val)
    (hk : lookupA allFields e.name = some (.element, t)) (hd : fromElementA F X A cfg I t e = .ok w) :
    childLoopA F X A cfg I allFields (e :: rest) st =
      childLoopA F X A cfg I allFields rest (if t.occ.repeated then stAppend st e.name w else stSet st e.name w) := by
  rw [childLoopA]
  simp only [hk, hd, childAttrLeak, hLeak, if_true]

section
variable {F : Facts08} {X : FactsXml} {A : FactsAttr} {cfg : Cfg} {I : IfaceA}

theorem fromElementA_ok {t : TyA} {ns name : Text} {attrs : List (Text × Text)} {text : Option Text} {children : List Node}
    {v : Val} (h : fromElementA F X A cfg I t (.elem ns name attrs text children) = .ok v) :
    (isNil X attrs = true ∧ (cfg.soft && !t.occ.nillable) = false ∧ v = .none) ∨
    (∃ p o, resolvedA X cfg I t attrs = some (.prim p o) ∧ leafFromElement F X cfg p o text = .ok v) ∨
    (∃ cname cns cb fields o st1 st2 st3, resolvedA X cfg I t attrs = some (.obj cname cns cb fields o) ∧
      dataPass F A cfg text fields (initStateA fields) = .ok st1 ∧
      childLoopA F X A cfg I fields children st1 = .ok st2 ∧
      attrPass F A cfg fields attrs st2 = .ok st3 ∧
      (cfg.soft && !freqOkA A fields attrs children) = false ∧ v = .obj cname st3) ∨
    (∃ m elem o vs, resolvedA X cfg I t attrs = some (.arr m elem o) ∧
      arrayLoopA F X A cfg I elem children = .ok vs ∧ v = .list vs) := by
  unfold fromElementA at h
  split at h
  · rename_i hn
    split at h
    · cases h
    · rename_i hs
      cases h
      exact Or.inl ⟨hn, by simpa using hs, rfl⟩
  · right
    dsimp only at h
    split at h
    · cases h
    · rename_i p o hr
      exact Or.inl ⟨p, o, hr, h⟩
    · rename_i cname cns cb fields o hr
      split at h
      · rename_i st1 h1
        split at h
        · rename_i st2 h2
          split at h
          · rename_i st3 h3
            split at h
            · cases h
            · rename_i hf
              cases h
              exact Or.inr (Or.inl ⟨cname, cns, cb, fields, o, st1, st2, st3, hr, h1, h2, h3, by simpa using hf, rfl⟩)
          · cases h
          · cases h
        · cases h
        · cases h
      · cases h
      · cases h
    · rename_i m elem o hr
      split at h
      · rename_i vs hal
        cases h
        exact Or.inr (Or.inr ⟨m, elem, o, vs, hr, hal, rfl⟩)
      · cases h
      · cases h

/-- a child is skipped (no member of its name, or an attribute / data member of its name) or read as the element
    member of its name, stored, and its attributes looked at -/
theorem childLoopA_ok {fields : List (Text × MKind × TyA)} {c : Node} {cs : List Node} {st st' : List (Text × Val)}
    (h : childLoopA F X A cfg I fields (c :: cs) st = .ok st') :
    ((∀ mt, lookupA fields c.name ≠ some (.element, mt)) ∧ childLoopA F X A cfg I fields cs st = .ok st') ∨
    (∃ mt v st1, lookupA fields c.name = some (.element, mt) ∧ fromElementA F X A cfg I mt c = .ok v ∧
      childAttrLeak F A cfg fields c.attrs (if mt.occ.repeated then stAppend st c.name v else stSet st c.name v) = .ok st1 ∧
      childLoopA F X A cfg I fields cs st1 = .ok st') := by
  unfold childLoopA at h
  split at h
  · rename_i hl
    exact Or.inl ⟨fun mt e => (by rw [hl] at e; cases e), h⟩
  · rename_i mt hl
    split at h
    · rename_i v hv
      split at h
      · rename_i st1 h1
        exact Or.inr ⟨mt, v, st1, hl, hv, h1, h⟩
      · cases h
      · cases h
    · cases h
    · cases h
  · rename_i kind mt hne hl
    split at h
    · exact Or.inl ⟨fun mt' e => (by rw [hl] at e; cases e; exact hne rfl), h⟩
    · cases h

theorem arrayLoopA_ok {elem : TyA} {c : Node} {cs : List Node} {vs : List Val}
    (h : arrayLoopA F X A cfg I elem (c :: cs) = .ok vs) :
    ∃ v ws, fromElementA F X A cfg I elem c = .ok v ∧ arrayLoopA F X A cfg I elem cs = .ok ws ∧ vs = v :: ws := by
  unfold arrayLoopA at h
  split at h
  · rename_i v hv
    split at h
    · rename_i ws hws
      cases h
      exact ⟨v, ws, hv, hws, rfl⟩
    · cases h
    · cases h
  · cases h
  · cases h

/-- an exception that leaves `from_element` was raised by the leaf handler, by one of the three passes over an object
    element, or while reading the items of an array -/
theorem fromElementA_crash {t : TyA} {ns name : Text} {attrs : List (Text × Text)} {text : Option Text} {children : List Node}
    {e : String} (h : fromElementA F X A cfg I t (.elem ns name attrs text children) = .crash e) :
    (∃ p o, leafFromElement F X cfg p o text = .crash e) ∨
    (∃ fields, dataPass F A cfg text fields (initStateA fields) = .crash e) ∨
    (∃ fields st, childLoopA F X A cfg I fields children st = .crash e) ∨
    (∃ fields st, attrPass F A cfg fields attrs st = .crash e) ∨
    (∃ elem, arrayLoopA F X A cfg I elem children = .crash e) := by
  unfold fromElementA at h
  split at h
  · split at h <;> cases h
  · dsimp only at h
    split at h
    · cases h
    · exact Or.inl ⟨_, _, h⟩
    · split at h
      · split at h
        · split at h
          · split at h <;> cases h
          · cases h
          · rename_i h3
            cases h
            exact Or.inr (Or.inr (Or.inr (Or.inl ⟨_, _, h3⟩)))
        · cases h
        · rename_i h2
          cases h
          exact Or.inr (Or.inr (Or.inl ⟨_, _, h2⟩))
      · cases h
      · rename_i h1
        cases h
        exact Or.inr (Or.inl ⟨_, h1⟩)
    · split at h
      · cases h
      · cases h
      · rename_i hal
        cases h
        exact Or.inr (Or.inr (Or.inr (Or.inr ⟨_, hal⟩)))

/-- … from the rest of the loop, from reading the child, from the attribute loop over it, or because the child is
    named like an attribute or data member and such children are not skipped -/
theorem childLoopA_crash {fields : List (Text × MKind × TyA)} {c : Node} {cs : List Node} {st : List (Text × Val)} {e : String}
    (h : childLoopA F X A cfg I fields (c :: cs) st = .crash e) :
    (∃ st', childLoopA F X A cfg I fields cs st' = .crash e) ∨ (∃ mt, fromElementA F X A cfg I mt c = .crash e) ∨
    (∃ st', childAttrLeak F A cfg fields c.attrs st' = .crash e) ∨ A.modifierChildSkipped = false := by
  unfold childLoopA at h
  split at h
  · exact Or.inl ⟨_, h⟩
  · split at h
    · split at h
      · exact Or.inl ⟨_, h⟩
      · cases h
      · rename_i hl
        cases h
        exact Or.inr (Or.inr (Or.inl ⟨_, hl⟩))
    · cases h
    · rename_i hv
      cases h
      exact Or.inr (Or.inl ⟨_, hv⟩)
  · split at h
    · exact Or.inl ⟨_, h⟩
    · rename_i hs
      exact Or.inr (Or.inr (Or.inr (by simpa using hs)))

theorem arrayLoopA_crash {elem : TyA} {c : Node} {cs : List Node} {e : String}
    (h : arrayLoopA F X A cfg I elem (c :: cs) = .crash e) :
    fromElementA F X A cfg I elem c = .crash e ∨ arrayLoopA F X A cfg I elem cs = .crash e := by
  unfold arrayLoopA at h
  split at h
  · split at h
    · cases h
    · cases h
    · rename_i hal
      cases h
      exact Or.inr hal
  · cases h
  · rename_i hv
    cases h
    exact Or.inl hv
/-- … and the two passes over the data and attribute members raise only what reading one value raises -/
theorem dataPass_crash {text : Option Text} {e : String} {fs : List (Text × MKind × TyA)} {st : List (Text × Val)}
    (h : dataPass F A cfg text fs st = .crash e) : ∃ p s, modifierValue F A cfg p s = .crash e := by
  induction fs generalizing st with
  | nil => cases h
  | cons f fs ih =>
    obtain ⟨k, kind, t⟩ := f
    cases kind <;> cases t <;> simp only [dataPass] at h
    all_goals first
      | exact ih h
      | skip
    split at h
    · exact ih h
    · split at h
      · exact ih h
      · cases h
      · rename_i hv
        cases h
        exact ⟨_, _, hv⟩

theorem attrPass_crash {fields : List (Text × MKind × TyA)} {e : String} {as : List (Text × Text)} {st : List (Text × Val)}
    (h : attrPass F A cfg fields as st = .crash e) : ∃ p s, modifierValue F A cfg p s = .crash e := by
  induction as generalizing st with
  | nil => cases h
  | cons a as ih =>
    unfold attrPass at h
    split at h
    · split at h
      · exact ih h
      · cases h
      · rename_i hv
        cases h
        exact ⟨_, _, hv⟩
    · exact ih h
end

end Xml
end SpyneModel
