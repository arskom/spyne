/- C07: no definition occurs twice (messages, portTypes, bindings, services, ports, schemas, types, elements). -/
import Proofs.WsdlFinal
namespace SpyneModel.Wsdl
open SpyneModel
variable (F : Facts07) (I : IState)


theorem portTypesLoop_nodup (url : String) (ss : List Svc) (st : PtSt)
    (h : (ptNames st.portTypes).Nodup) : (ptNames (portTypesLoop F I url ss st).portTypes).Nodup :=
  portTypes_preserves F I url (fun pts => (ptNames pts).Nodup) ss (fun x _ h => nodup_insertNew PortType.name ⟨x, []⟩ h)
    (fun _ _ _ _ _ h => by rw [ptNames_appendOp]; exact h) st h


def svNames (svcs : List Service) : List String := svcs.map (·.name)

theorem svNames_addPorts (n : String) (ps : List Port) (svcs : List Service) : svNames (addPorts n ps svcs) = svNames svcs := by
  rw [addPorts_eq, svNames, svNames]
  exact map_updNamed _ _ _ (fun _ => by rfl) _

theorem servicesInit_nodup : (svNames (servicesInit I)).Nodup :=
  (foldl_insertNew Service.name (fun s : Svc => ⟨s.name, []⟩) I.services []).1 List.nodup_nil

theorem services_names_portTypesLoop (url : String) (ss : List Svc) (st : PtSt) :
    svNames (portTypesLoop F I url ss st).services = svNames st.services :=
  portTypesLoop_preserves F I url (fun st' => svNames st'.services = svNames st.services) ss
    (fun _ _ _ h => (svNames_addPorts _ _ _).trans h) st rfl

/-- ports of every service have distinct names; services that still wait for their ports have none -/
def PortsInv (rest : List Svc) (svcs : List Service) : Prop :=
  ∀ sv ∈ svcs, (sv.ports.map (·.name)).Nodup ∧ (sv.name ∈ rest.map (·.name) → sv.ports = [])

theorem portsOf_names (tns url : String) (names : List String) : (portsOf tns url names).map (·.name) = names := by
  simp only [portsOf, List.map_map]
  exact List.map_id'' (fun _ => rfl) _

theorem portsInv_addPorts (s : Svc) (rest : List Svc) (tns url : String) (names : List String) (hn : names.Nodup)
    (hs : s.name ∉ rest.map (·.name)) (svcs : List Service) (h : PortsInv (s :: rest) svcs) :
    PortsInv rest (addPorts s.name (portsOf tns url names) svcs) := by
  rw [addPorts_eq]
  refine forall_updNamed _ _ _ _ _ (fun sv hsv => ⟨hsv.1, fun hc => hsv.2 (List.mem_cons_of_mem _ hc)⟩)
    (fun sv heq hsv => ?_) h
  have he : sv.ports = [] := hsv.2 (by simp [heq])
  simp only [he, List.nil_append, portsOf_names]
  exact ⟨hn, fun hc => absurd (heq ▸ hc) hs⟩

theorem portNames_nodup (s : Svc) (h : s.portTypes.Nodup) : (portNames I.name s).Nodup := by
  unfold portNames
  split
  · simp
  · exact h

theorem portsInv_portTypesLoop (url : String) (ss : List Svc)
    (hnd : (ss.map (·.name)).Nodup) (hpt : ∀ s ∈ ss, s.portTypes.Nodup) (st : PtSt) (h : PortsInv ss st.services) :
    PortsInv [] (portTypesLoop F I url ss st).services := by
  induction ss generalizing st with
  | nil => exact h
  | cons s ss ih =>
    simp only [List.map_cons, List.nodup_cons] at hnd
    simp only [portTypesLoop]
    apply ih hnd.2 (fun s' hs' => hpt s' (List.mem_cons_of_mem _ hs'))
    simp only [addPortType]
    exact portsInv_addPorts s ss I.tns url _ (portNames_nodup I s (hpt s List.mem_cons_self)) hnd.1 _ h

theorem portsInv_init : PortsInv I.services (servicesInit I) :=
  fun sv hsv => ⟨by simp [servicesInit_ports I sv hsv], fun _ => servicesInit_ports I sv hsv⟩


theorem bindings_nodup (hnd : (I.services.flatMap (·.portTypes)).Nodup) (hname : I.name ∉ I.services.flatMap (·.portTypes)) :
    (bNames (bindingsOf F I).bindings).Nodup := by
  rw [(bindings_names_perm F I).nodup_iff]
  split
  · exact List.nodup_cons.mpr ⟨hname, hnd⟩
  · exact hnd

/-- **no definition occurs twice**: messages, portTypes, bindings, services, the ports of a service, schemas per
    namespace, types and elements per schema -/
theorem definitions_unique_general (hM : F.messageDedup = .perDocument) (e : Enum) (he : e.Valid)
    (I : IState) (url : String) (d : Doc) (h : gen F e I url = .ok d) (hwf : I.wf = true) (hops : I.wfOps = true) :
    d.wellDefined = true := by
  obtain ⟨tr, hd⟩ := gen_built F hM e I url d h
  have hw := wf_unpack I hwf
  obtain ⟨_, hok, hpt, hname, hsn⟩ := wfOps_unpack I hops
  obtain ⟨tags, trace, hf, _⟩ := schemaFacts_of_build F e he I hw d.schemas tr hd.schemas
  simp only [Doc.wellDefined, hd.messages, hd.portTypes, hd.bindings, hd.services, Bool.and_eq_true, decide_eq_true_eq,
    List.all_eq_true]
  refine ⟨⟨⟨⟨⟨⟨?_, ?_⟩, ?_⟩, ?_⟩, ?_⟩, ?_⟩, ?_⟩
  · exact (messagesOf_spec I).2.2
  · exact portTypesLoop_nodup F I _ I.services _ List.nodup_nil
  · exact bindings_nodup F I hpt hname
  · have := services_names_portTypesLoop F I (stripWsdl url) I.services ⟨[], servicesInit I, []⟩
    simp only [portTypesOf]
    have h2 := servicesInit_nodup I
    simp only [svNames] at this h2
    rw [this]
    exact h2
  · intro sv hsv
    have := portsInv_portTypesLoop F I (stripWsdl url) I.services hsn (fun s hs => (hok s hs).1)
      ⟨[], servicesInit I, []⟩ (portsInv_init I)
    exact (this sv hsv).1
  · exact hf.uniqTns
  · intro s hs
    exact ⟨hf.uniqTypes s hs, hf.uniqElems s hs⟩

end SpyneModel.Wsdl
