/-
  Leaf laws: what the tree-level codec theorems need to know about the primitive text codecs.
  `LeafLaws F` is proved from the C08 lemmas for every `F` with good switches (`leafLaws_good`).
-/
import SpyneModel.Leaf
namespace SpyneModel

/-- the facts the C08 theorems need -/
structure Facts08.Good (F : Facts08) : Prop where
  offset : F.offsetRule = .signMagnitude
  frac : F.durFracFmt = .pad6
  dur : F.durParse = .exactDecimal
  bool : F.boolLex = .strict
  anchored : F.anchored = true
  range : F.rangeErrorsAreFaults = true
  msl : ∀ k : IntKind, k.needLen ≤ F.intMaxStrLen k

/-- the canonical text of the value passes the integer length guard (only restricts the
    unbounded `Integer`, whose guard is `max_str_len = 1024`) -/
def leafFits (F : Facts08) : PrimTy → Val → Bool
  | .integer .unbounded _, .int i => decide ((intToText i).length ≤ F.intMaxStrLen .unbounded)
  | _, _ => true

structure LeafLaws (F : Facts08) : Prop where
  /-- writing a conformant value and reading the text back gives the value -/
  roundtrip : ∀ p v, p.valueOk v = true → leafFits F p v = true →
    ∃ s, leafToText F p v = some s ∧ leafFromText F p s = .ok v
  /-- whatever a leaf parser returns is of the declared kind (C04 at the leaves) -/
  sound : ∀ p s v, leafFromText F p s = .ok v → p.kindOk v = true
  /-- on parsed text, the code's two-stage validation decides exactly the declared facets (C05 at the leaves) -/
  soft : ∀ p s v, leafFromText F p s = .ok v →
    (validateString F p s && validateNative p v) = p.valueOk v
  /-- leaf parsers never let a Python exception escape (C10 at the leaves) -/
  nocrash : ∀ p s e, leafFromText F p s ≠ .crash e
  /-- only strings and byte arrays (and an enumeration member spelled "") can have an empty text form -/
  emptyText : ∀ p v, p.valueOk v = true → leafToText F p v = some [] →
    (v = .str [] ∨ v = .bytes [] ∨ v = .enum [])

end SpyneModel
