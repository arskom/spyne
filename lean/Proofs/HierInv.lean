/-
  Invariants of the dict-document decoders. `Safe cfg ok r`: the step `r` lets no exception escape and, under soft
  validation, passes nothing foreign through and yields a value satisfying `ok`. A `DecInv` names a property of
  decoded values, member slots and instances together with the local facts that make it an invariant (leaves,
  `null`, arrays, class resolution, the slot updates, `_check_freq_dict`); `decode_inv` and its companions carry it
  through `_from_dict_value` / `_doc_to_object` for EVERY document: by induction over the type for strings and bytes
  (which Python iterates), over the document for lists and mappings. C04 / C10 (`HierSafe`) and C05 (`HierExact`)
  are two such invariants.
-/
import Proofs.HierBasic
namespace SpyneModel.Hier
open SpyneModel
variable {F : Facts08} {G : Facts02} {cfg : Cfg}

def Safe {α} (cfg : Cfg) (ok : α → Prop) : Res α → Prop
  | .ok a l => cfg.soft = true → (l = false ∧ ok a)
  | .fault => True
  | .crash _ => False

theorem Safe.fault' {α} {ok : α → Prop} : Safe cfg ok (.fault : Res α) := trivial
theorem Safe.good {α} {ok : α → Prop} {a : α} (h : cfg.soft = true → ok a) : Safe cfg ok (.good a) :=
  fun hs => ⟨rfl, h hs⟩

/-- how a statement about one outcome is read off: a crash is excluded -/
theorem Safe.ne_crash {α} {ok : α → Prop} {r : Res α} (h : Safe cfg ok r) (e : String) : r ≠ .crash e := by
  intro he; rw [he] at h; exact h

/-- … and under soft validation a value comes unflagged and satisfies `ok` -/
theorem Safe.of_ok {α} {ok : α → Prop} {r : Res α} {a : α} {l : Bool} (h : Safe cfg ok r) (hr : r = .ok a l)
    (hs : cfg.validator = .soft) : l = false ∧ ok a := by
  rw [hr] at h; exact h (by simp [Cfg.soft, hs])

theorem Safe.strengthen {α} {ok ok' : α → Prop} {r : Res α} (h : Safe cfg ok r)
    (h' : ∀ a l, r = .ok a l → cfg.soft = true → ok a → ok' a) : Safe cfg ok' r := by
  cases r with
  | ok a l => exact fun hs => ⟨(h hs).1, h' a l rfl hs (h hs).2⟩
  | fault => trivial
  | crash e => exact h.elim

theorem Safe.mono {α} {ok ok' : α → Prop} {r : Res α} (h : Safe cfg ok r) (hi : ∀ a, ok a → ok' a) : Safe cfg ok' r :=
  h.strengthen (fun a _ _ _ => hi a)

theorem Safe.bind {α β} {okA : α → Prop} {okB : β → Prop} {r : Res α} {f : α → Res β}
    (h : Safe cfg okA r) (hf : ∀ a, (cfg.soft = true → okA a) → Safe cfg okB (f a)) : Safe cfg okB (r.bind f) := by
  cases r with
  | fault => trivial
  | crash e => exact h.elim
  | ok a l =>
    have hfa := hf a (fun hs => (h hs).2)
    simp only [Res.bind]
    cases hfa' : f a with
    | fault => trivial
    | crash e => rw [hfa'] at hfa; exact hfa.elim
    | ok b l' =>
      rw [hfa'] at hfa
      exact fun hs => ⟨by simp [(h hs).1, (hfa hs).1], (hfa hs).2⟩

theorem Safe.map {α β} {okA : α → Prop} {okB : β → Prop} {r : Res α} {f : α → β}
    (h : Safe cfg okA r) (hf : ∀ a, okA a → okB (f a)) : Safe cfg okB (r.map f) :=
  Safe.bind h (fun a ha => Safe.good (fun hs => hf a (ha hs)))

theorem mapRes_safe {α β} {ok : β → Prop} (f : α → Res β) (xs : List α) (hf : ∀ x ∈ xs, Safe cfg ok (f x)) :
    Safe cfg (fun l => ∀ y ∈ l, ok y) (mapRes f xs) := by
  induction xs with
  | nil => exact Safe.good (fun _ => by simp)
  | cons x xs ih =>
    simp only [mapRes]
    obtain ⟨hx, hf⟩ := List.forall_mem_cons.1 hf
    apply Safe.bind hx
    intro b hb
    apply Safe.bind (ih hf)
    intro bs hbs
    exact Safe.good (fun hs => List.forall_mem_cons.2 ⟨hb hs, hbs hs⟩)

/-- `None` where `null` stands, refused under soft validation unless the type is nillable -/
theorem Safe.nullable {ok : Val → Prop} {o : Occ} (h : cfg.soft = true → o.nillable = true → ok .none) :
    Safe cfg ok (if cfg.soft && !o.nillable then .fault else .good .none) := by
  split
  · exact Safe.fault'
  · rename_i hc
    exact Safe.good (fun hs => h hs (by simpa [hs] using hc))

theorem keyName_safe (k : Key) : Safe cfg (fun (_ : Option Text) => True) (keyName cfg k) := by
  cases k <;> simp only [keyName] <;> first | exact Safe.good (fun _ => trivial) | skip
  case bytes bs =>
    split
    · split
      · exact Safe.good (fun _ => trivial)
      · exact Safe.fault'
    · exact Safe.good (fun _ => trivial)

theorem wrapperKey_safe (hG : G.Good) (k : Key) : Safe cfg (fun (_ : Option Text) => True) (wrapperKey G k) := by
  cases k <;> simp only [wrapperKey] <;> first | exact Safe.good (fun _ => trivial) | skip
  case bytes bs =>
    split
    · exact Safe.good (fun _ => trivial)
    · simp only [hG.utf8, if_true]; exact Safe.fault'

theorem requestMethod_safe (hG : G.Good) (k : Key) :
    Safe cfg (fun (_ : Option Text) => True) (requestMethod G cfg k) := by
  cases k <;> simp only [requestMethod] <;> first | exact Safe.good (fun _ => trivial) | skip
  case bytes bs =>
    split
    · split
      · exact Safe.good (fun _ => trivial)
      · simp only [hG.utf8, if_true]; exact Safe.fault'
    · exact Safe.good (fun _ => trivial)

theorem repeatedScalar_safe {α} (hG : G.Good) (ok : α → Prop) : Safe cfg ok (repeatedScalar G : Res α) := by
  simp [repeatedScalar, hG.rep, Safe]

/-- the class `resolveClass` settles on is the declared one or a registered subclass with its own members -/
def ClassOk (R : Registry) (name : Text) (fs : Fields) (cf : Text × Fields) : Prop :=
  (cf.1 = name ∧ cf.2 = fs) ∨
  (cf.1 ≠ name ∧ R.hier.isSub R.length cf.1 name = true ∧ ∃ cd, R.find? cf.1 = some cd ∧ cd ∈ R ∧ cf.2 = cd.fields)

theorem resolveClass_cases (R : Registry) (name : Text) (fs : Fields) (key : Option Text) :
    resolveClass R name fs key = .fault ∨ ∃ cf, resolveClass R name fs key = .good cf ∧ ClassOk R name fs cf := by
  unfold resolveClass
  split
  · exact Or.inr ⟨_, rfl, Or.inl ⟨rfl, rfl⟩⟩
  · split
    · exact Or.inr ⟨_, rfl, Or.inl ⟨rfl, rfl⟩⟩
    · cases key with
      | none => exact Or.inl rfl
      | some k =>
        simp only []
        cases hf : R.find? k with
        | none => exact Or.inl rfl
        | some c =>
          simp only []
          split
          · rename_i hc
            simp only [Bool.and_eq_true, ne_eq, decide_eq_true_eq] at hc
            obtain ⟨hmem, hname⟩ := Registry.find?_some hf
            refine Or.inr ⟨_, rfl, Or.inr ⟨?_, hc.2, c, ?_, hmem, rfl⟩⟩
            · simpa using hc.1
            · rw [hname]; exact hf
          · exact Or.inl rfl

theorem resolveClass_good {R : Registry} {name : Text} {fs : Fields} {key : Option Text} {cf : Text × Fields}
    (h : resolveClass R name fs key = .good cf) : ClassOk R name fs cf := by
  rcases resolveClass_cases R name fs key with h' | ⟨cf', h', hc⟩
  · rw [h] at h'; cases h'
  · rw [h] at h'; cases h'; exact hc

/-- A property of what the decoders build, with the local facts that make it an invariant. `T`: the types it is claimed
    for; `P t v`: `v` is acceptable as one occurrence of `t`; `A fs a`: the member slots `a` of an instance under
    construction; `I cls fs v`: `v` is a finished instance of `cls`. -/
structure DecInv (F : Facts08) (G : Facts02) (cfg : Cfg) (R : Registry) where
  T : Ty → Prop
  P : Ty → Val → Prop
  A : Fields → Acc → Prop
  I : Text → Fields → Val → Prop
  T_arr : ∀ {m e o}, T (.arr m e o) → T e
  T_obj : ∀ {n ns b fs o}, T (.obj n ns b fs o) → namesDistinct (fs.map (·.1)) = true ∧ ∀ nt ∈ fs, T nt.2
  prim : ∀ p o d, Safe cfg (P (.prim p o)) (primIn F G cfg p o d)
  none : ∀ t, cfg.soft = true → t.occ.nillable = true → P t .none
  arr : ∀ {m e o l}, (∀ y ∈ l, P e y) → P (.arr m e o) (.list l)
  /-- an instance of the class a wrapper key selects is an occurrence of the declared class -/
  sub : ∀ {n ns b fs o key cf}, T (.obj n ns b fs o) → resolveClass R n fs key = .good cf →
    (namesDistinct (cf.2.map (·.1)) = true ∧ ∀ nt ∈ cf.2, T nt.2) ∧ ∀ v, I cf.1 cf.2 v → P (.obj n ns b fs o) v
  init : ∀ fs, A fs (initAcc fs)
  put : ∀ {fs a n t x}, A fs a → lookupField fs n = some t → t.occ.repeated = false → P t x → A fs (a.put G n x)
  putItems : ∀ {fs a n t vs}, A fs a → lookupField fs n = some t → t.occ.repeated = true → (∀ y ∈ vs, P t y) →
    A fs (a.putItems G n vs)
  finish : ∀ {cls fs a}, (∀ nt ∈ fs, T nt.2) → (cfg.soft = true → A fs a) → Safe cfg (I cls fs) (finish cfg cls fs a)

section
variable {R : Registry} (V : DecInv F G cfg R)

theorem DecInv.inst {n ns b fs o v} (hT : V.T (.obj n ns b fs o)) (h : V.I n fs v) : V.P (.obj n ns b fs o) v :=
  (V.sub hT (resolveClass_self R n fs)).2 v h

theorem slotStep_inv {fs : Fields} {n : Text} {t : Ty} {one : Res Val} {items : Res (List Val)} {a : Acc}
    (hl : lookupField fs n = some t) (ha : cfg.soft = true → V.A fs a)
    (h1 : Safe cfg (V.P t) one) (hs : Safe cfg (fun l => ∀ y ∈ l, V.P t y) items) :
    Safe cfg (V.A fs) (slotStep G n t one items a) := by
  unfold slotStep
  cases hr : t.occ.repeated
  · simp only [Bool.false_eq_true, if_false]
    exact Safe.bind h1 (fun x hx => Safe.good (fun hs => V.put (ha hs) hl hr (hx hs)))
  · simp only [if_true]
    exact Safe.bind hs (fun vs hvs => Safe.good (fun hs => V.putItems (ha hs) hl hr (hvs hs)))

/-- the end of `_doc_to_object` after a member loop that keeps the slots -/
theorem finish_inv {cls : Text} {fs : Fields} {r : Res Acc} (hT : ∀ nt ∈ fs, V.T nt.2) (h : Safe cfg (V.A fs) r) :
    Safe cfg (V.I cls fs) (r.bind (finish cfg cls fs)) :=
  Safe.bind h (fun _ ha => V.finish hT ha)

variable (hG : G.Good)
include hG

theorem nullComplex_inv (t : Ty) : Safe cfg (V.P t) (nullComplex G cfg t.occ) := by
  simp only [nullComplex, hG.nul, if_true]
  exact Safe.nullable (V.none t)

theorem flatItems_inv {t : Ty} (h : ∀ d, Safe cfg (V.P t) (flatOne F G cfg t d)) (d : Doc) :
    Safe cfg (fun l => ∀ y ∈ l, V.P t y) (flatItems F G cfg t d) := by
  unfold flatItems
  cases iterFlat d with
  | none => exact repeatedScalar_safe hG _
  | some xs => exact mapRes_safe _ xs (fun x _ => h x)

theorem flatFields_inv : ∀ (fs all : Fields) (ds : List Doc) (a : Acc),
    (∀ nt ∈ fs, ∀ d, Safe cfg (V.P nt.2) (flatOne F G cfg nt.2 d)) → (∀ nt ∈ fs, lookupField all nt.1 = some nt.2) →
    (cfg.soft = true → V.A all a) → Safe cfg (V.A all) (flatFields F G cfg all fs ds a)
  | [], _, _, _, _, _, ha => by rw [flatFields.eq_def]; exact Safe.good ha
  | _ :: _, _, [], _, _, _, ha => by rw [flatFields.eq_def]; exact Safe.good ha
  | (n, t) :: fs, all, d :: ds, a, hP, hL, ha => by
    obtain ⟨hPt, hP⟩ := List.forall_mem_cons.1 hP
    obtain ⟨hLt, hL⟩ := List.forall_mem_cons.1 hL
    rw [flatFields_cons]
    exact Safe.bind (slotStep_inv V hLt ha (hPt d) (flatItems_inv V hG hPt d))
      (fun a' ha' => flatFields_inv fs all ds a' hP hL ha')

theorem flatOne_inv (t : Ty) : V.T t → ∀ d, Safe cfg (V.P t) (flatOne F G cfg t d) := by
  induction t using Ty.induct with
  | hprim p o => intro _ d; simp only [flatOne]; exact V.prim p o d
  | harr m e o ih =>
    intro hT d
    have items : ∀ xs, Safe cfg (V.P (.arr m e o)) ((mapRes (fun x => flatOne F G cfg e x) xs).map Val.list) :=
      fun xs => Safe.map (mapRes_safe _ xs (fun x _ => ih (V.T_arr hT) x)) (fun _ hl => V.arr hl)
    cases d <;> simp only [flatOne] <;>
      first | exact Safe.fault' | exact nullComplex_inv V hG (.arr m e o) | exact items _
  | hobj n ns b fields o ih =>
    intro hT d
    have hw := V.T_obj hT
    have body : ∀ xs, Safe cfg (V.P (.obj n ns b fields o))
        (if cfg.unwrapped n then (flatFields F G cfg fields fields xs (initAcc fields)).bind (finish cfg n fields)
         else .fault) := by
      intro xs
      split
      · exact (finish_inv V hw.2 (flatFields_inv V hG fields fields xs _ (fun nt h => ih nt h (hw.2 nt h))
          (lookupField_of_distinct hw.1) (fun _ => V.init fields))).mono (fun _ => V.inst hT)
      · exact Safe.fault'
    cases d <;> simp only [flatOne] <;>
      first | exact Safe.fault' | exact nullComplex_inv V hG (.obj n ns b fields o) | exact body _

theorem flatBody_inv (cls : Text) (fs : Fields) (hd : namesDistinct (fs.map (·.1)) = true) (hT : ∀ nt ∈ fs, V.T nt.2)
    (d : Doc) : Safe cfg (V.I cls fs) (flatBody F G cfg cls fs d) := by
  unfold flatBody
  cases iterFlat d with
  | none => exact Safe.fault'
  | some xs =>
    exact finish_inv V hT (flatFields_inv V hG fs fs xs _ (fun nt h => flatOne_inv V hG nt.2 (hT nt h)) (lookupField_of_distinct hd)
      (fun _ => V.init fs))

mutual
  theorem decode_inv (d : Doc) (t : Ty) (hT : V.T t) : Safe cfg (V.P t) (decode F G cfg R t d) := by
    cases d with
    | list ds =>
      cases t with
      | prim p o => simp only [decode]; exact V.prim p o _
      | arr m e o =>
        simp only [decode]
        exact Safe.map (decodeItems_inv ds e (V.T_arr hT)) (fun _ hl => V.arr hl)
      | obj n ns b fields o =>
        have hw := V.T_obj hT
        simp only [decode]
        split
        · exact (finish_inv V hw.2 (decodePos_inv ds fields fields (initAcc fields) (lookupField_of_distinct hw.1) hw.2
            (fun _ => V.init fields))).mono (fun _ => V.inst hT)
        · exact Safe.fault'
    | map kvs =>
      cases t with
      | prim p o => simp only [decode]; exact V.prim p o _
      | arr m e o =>
        simp only [decode]
        exact Safe.map (mapRes_safe _ _ (fun x _ => flatOne_inv V hG e (V.T_arr hT) x)) (fun _ hl => V.arr hl)
      | obj n ns b fields o =>
        have hw := V.T_obj hT
        simp only [decode]
        split
        · exact (finish_inv V hw.2 (decodeKvs_inv kvs fields (initAcc fields) hw.2 (fun _ => V.init fields))).mono
            (fun _ => V.inst hT)
        · exact decodeWrapped_inv kvs n ns b fields o hT
    | _ => rw [decode_flat _ _ _ _ _ _ rfl]; exact flatOne_inv V hG t hT _

  theorem decodeWrapped_inv : ∀ (kvs : List (Key × Doc)) (n ns : Text) (b : Option Text) (fields : Fields) (o : Occ),
      V.T (.obj n ns b fields o) → Safe cfg (V.P (.obj n ns b fields o)) (decodeWrapped F G cfg R n fields o kvs)
    | [], n, ns, b, fields, o, _ => by
      simp only [decodeWrapped]
      exact Safe.nullable (V.none (.obj n ns b fields o))
    | [(k, inner)], n, ns, b, fields, o, hT => by
      simp only [decodeWrapped]
      apply Safe.bind (wrapperKey_safe hG k)
      intro key _
      rcases resolveClass_cases R n fields key with h | ⟨cf, h, _⟩
      · rw [h]; exact Safe.fault'
      · rw [h, Res.good_bind]
        obtain ⟨hw, hP⟩ := V.sub hT h
        exact (decodeBody_inv inner cf.1 cf.2 hw.1 hw.2).mono hP
    | _ :: _ :: _, _, _, _, _, _, _ => by
      simp only [decodeWrapped]; exact Safe.fault'

  theorem decodeBody_inv (d : Doc) (cls : Text) (fs : Fields) (hd : namesDistinct (fs.map (·.1)) = true)
      (hT : ∀ nt ∈ fs, V.T nt.2) : Safe cfg (V.I cls fs) (decodeBody F G cfg R cls fs d) := by
    cases d with
    | map kvs =>
      simp only [decodeBody]
      exact finish_inv V hT (decodeKvs_inv kvs fs (initAcc fs) hT (fun _ => V.init fs))
    | list ds =>
      simp only [decodeBody]
      exact finish_inv V hT (decodePos_inv ds fs fs (initAcc fs) (lookupField_of_distinct hd) hT (fun _ => V.init fs))
    | _ => rw [decodeBody_flat _ _ _ _ _ _ _ rfl]; exact flatBody_inv V hG cls fs hd hT _

  theorem decodeItems_inv : ∀ (ds : List Doc) (t : Ty), V.T t →
      Safe cfg (fun l => ∀ y ∈ l, V.P t y) (decodeItems F G cfg R t ds)
    | [], t, _ => by simp only [decodeItems]; exact Safe.good (fun _ => by simp)
    | d :: ds, t, hT => by
      simp only [decodeItems]
      apply Safe.bind (decode_inv d t hT)
      intro v hv
      apply Safe.bind (decodeItems_inv ds t hT)
      intro vs hvs
      exact Safe.good (fun hs => List.forall_mem_cons.2 ⟨hv hs, hvs hs⟩)

  theorem memberItems_inv (v : Doc) (t : Ty) (hT : V.T t) :
      Safe cfg (fun l => ∀ y ∈ l, V.P t y) (memberItems F G cfg R t v) := by
    cases v with
    | list ds => exact decodeItems_inv ds t hT
    | map kvs => exact mapRes_safe _ _ (fun x _ => flatOne_inv V hG t hT x)
    | _ => rw [memberItems_flat _ _ _ _ _ _ rfl]; exact flatItems_inv V hG (flatOne_inv V hG t hT) _

  theorem decodeKvs_inv : ∀ (kvs : List (Key × Doc)) (fs : Fields) (a : Acc), (∀ nt ∈ fs, V.T nt.2) →
      (cfg.soft = true → V.A fs a) → Safe cfg (V.A fs) (decodeKvs F G cfg R fs kvs a)
    | [], fs, a, _, ha => by simp only [decodeKvs]; exact Safe.good ha
    | (k, v) :: rest, fs, a, hT, ha => by
      rw [decodeKvs_cons]
      apply Safe.bind (keyName_safe k)
      intro nm _
      cases nm with
      | none => exact decodeKvs_inv rest fs a hT ha
      | some n =>
        simp only []
        cases hl : lookupField fs n with
        | none => exact decodeKvs_inv rest fs a hT ha
        | some t =>
          have hTt := hT (n, t) (lookupField_mem hl)
          exact Safe.bind (slotStep_inv V hl ha (decode_inv v t hTt) (memberItems_inv v t hTt))
            (fun a' ha' => decodeKvs_inv rest fs a' hT ha')

  theorem decodePos_inv : ∀ (ds : List Doc) (all fs : Fields) (a : Acc), (∀ nt ∈ fs, lookupField all nt.1 = some nt.2) →
      (∀ nt ∈ fs, V.T nt.2) → (cfg.soft = true → V.A all a) → Safe cfg (V.A all) (decodePos F G cfg R all fs ds a)
    | [], _, _, _, _, _, ha => by rw [decodePos.eq_def]; exact Safe.good ha
    | _ :: _, _, [], _, _, _, ha => by rw [decodePos.eq_def]; exact Safe.good ha
    | v :: rest, all, (n, t) :: fs, a, hL, hT, ha => by
      obtain ⟨hTt, hT⟩ := List.forall_mem_cons.1 hT
      obtain ⟨hLt, hL⟩ := List.forall_mem_cons.1 hL
      rw [decodePos_cons]
      exact Safe.bind (slotStep_inv V hLt ha (decode_inv v t hTt) (memberItems_inv v t hTt))
        (fun a' ha' => decodePos_inv rest all fs a' hL hT ha')
end

end

/-- no body: the function is called without arguments, which works if it has no parameters -/
theorem toCall_none_safe (hbody : G.missingBodyFault = true) (name : Text) (fields : Fields) (ok : Val → Prop) :
    Safe cfg (fun v => ok v ∨ v = .obj name []) (toCall G name fields (.good .none)) := by
  simp only [toCall, Res.good, hbody, if_true]
  split
  · exact Safe.good (fun _ => Or.inr rfl)
  · exact Safe.fault'

theorem toCall_safe (hbody : G.missingBodyFault = true) (name : Text) (fields : Fields) (ok : Val → Prop) (r : Res Val)
    (h : Safe cfg ok r) : Safe cfg (fun v => ok v ∨ v = .obj name []) (toCall G name fields r) := by
  cases r with
  | fault => exact Safe.fault'
  | crash e => exact h.elim
  | ok v l =>
    cases v <;> first
      | exact fun hs => ⟨(h hs).1, Or.inl (h hs).2⟩
      -- `toCall` answers every value that is no object like a missing body, whatever its flag: the same term
      | exact toCall_none_safe hbody name fields ok

/-- what holds of everything `_from_dict_value` returns for the input message holds of the argument tuple of every call -/
theorem decodeRequest_of_decode (hG : G.Good) (hbody : G.missingBodyFault = true) (R : Registry)
    (name ns : Text) (base : Option Text) (fields : Fields) (o : Occ) (ok : Val → Prop)
    (hdec : ∀ d, Safe cfg ok (decode F G cfg R (.obj name ns base fields o) d)) (d : Doc) :
    Safe cfg (fun v => ok v ∨ v = .obj name []) (decodeRequest F G cfg R (.obj name ns base fields o) d) := by
  unfold decodeRequest
  simp only []
  split
  · exact toCall_safe hbody name fields _ _ (hdec d)
  · split
    · rename_i k body
      apply Safe.bind (requestMethod_safe hG k)
      intro m _
      split
      · exact Safe.fault'
      · split
        · cases hf : findBody G cfg name [(k, body)] with
          | none => exact toCall_none_safe hbody name fields _
          | some b =>
            cases b <;> first
              | exact toCall_none_safe hbody name fields _
              | exact toCall_safe hbody name fields _ _ (hdec _)
        · exact toCall_safe hbody name fields _ _ (hdec _)
    · exact Safe.fault'

end SpyneModel.Hier
