/-
  C04 (XML part): whatever document arrives, a value that `from_element` returns is None, of the
  declared kind, an instance of the declared class or a registered descendant, or a list of such —
  provided `xsi:type` is checked (`FactsXml.xsiTypeCheck`).
-/
import Proofs.XmlBasic
import Proofs.XmlLeafRt
import Proofs.XmlRules
namespace SpyneModel
namespace Xml


/-- `hasTy` by the recipe of `conforms`: a repeated member holds None or the list of its occurrences, any other
    member one occurrence -/
theorem hasTy_def (I : Iface) (t : Ty) (v : Val) :
    hasTy I t v =
      if t.occ.repeated then
        (match v with
         | .none => true
         | .list vs => hasTyItems I t vs
         | _ => false)
      else hasTyOne I t v := by
  rw [hasTy.eq_def, hasTyOne.eq_def]
  generalize t.occ.repeated = r
  cases r <;> cases v <;> rfl

/-- a slot that holds a value of the member's type still does after one more occurrence is stored in it -/
theorem hasTy_store {I : Iface} {t : Ty} {w v : Val} (hw : hasTy I t w = true) (hv : hasTyOne I t v = true) :
    hasTy I t (if t.occ.repeated then accStep w v else v) = true := by
  rw [hasTy_def] at hw ⊢
  cases hrep : t.occ.repeated with
  | false => exact hv
  | true =>
    rw [hrep, if_pos rfl] at hw
    cases w with
    | list l => exact all_snoc (g := hasTyItems I t) rfl (fun _ _ => rfl) l v hw hv
    | _ => simp [accStep, hasTyItems, hv]

theorem hasTyFields_iff {I : Iface} : (fs : List (Text × Ty)) → (st : List (Text × Val)) →
    (hasTyFields I fs st = true ↔ Slots (fun _ t v => hasTy I t v = true) fs st)
  | [], [] => by simp [hasTyFields, Slots]
  | [], _ :: _ => by simp [hasTyFields, Slots]
  | _ :: _, [] => by simp [hasTyFields, Slots]
  | (k, t) :: fs, (k', w) :: st => by
    simp only [hasTyFields, Slots, Bool.and_eq_true, decide_eq_true_eq, hasTyFields_iff fs st, and_assoc]

theorem hasTyFields_init (I : Iface) (fields : List (Text × Ty)) :
    hasTyFields I fields (initState fields) = true :=
  (hasTyFields_iff fields _).mpr (Slots.init fields (fun _ _ => rfl))

theorem hasTyFields_store {I : Iface} (fields : List (Text × Ty)) (st : List (Text × Val)) (k : Text)
    (mt : Ty) (v : Val) (hst : hasTyFields I fields st = true) (hk : lookupField fields k = some mt)
    (hv : hasTyOne I mt v = true) :
    hasTyFields I fields (if mt.occ.repeated then stAppend st k v else stSet st k v) = true := by
  rw [store_eq, hasTyFields_iff]
  exact Slots.set_same _ fields st hk (fun hold => hasTy_store hold hv) ((hasTyFields_iff fields st).mp hst)


theorem leafFromElement_sound {F : Facts08} (L : LeafLaws F) (X : FactsXml) (cfg : Cfg) (I : Iface) (p : PrimTy)
    (o : Occ) (text : Option Text) (v : Val) (h : leafFromElement F X cfg p o text = .ok v) :
    hasTyOne I (.prim p o) v = true := by
  rcases leafFromElement_kind L X cfg p o text v h with rfl | hv
  · rfl
  · cases v <;> first | exact hv | rfl | cases PrimTy.isLeaf_of_kindOk hv

/-- what `from_element` continues with: the declared type, or (xsi:type) a registered class that
    is the declared class or a descendant -/
def ResolvedFrom (I : Iface) (t rt : Ty) : Prop :=
  rt = t ∨ (∃ dn dns db dfs docc c, t = .obj dn dns db dfs docc ∧ rt = ClassDef.toTy c ∧
              I.classes.find? c.name = some c ∧ I.isSub c.name dn = true)

theorem resolveXsi_sound {X : FactsXml} (hX : X.xsiTypeCheck = true) {I : Iface} (hI : ifaceWf I = true)
    {t rt : Ty} {key : Text} (h : resolveXsi X I t key = some rt) : ResolvedFrom I t rt := by
  unfold resolveXsi at h
  split at h
  · cases h
  · rename_i nt hl
    simp only [hX, if_true] at h
    split at h
    · rename_i dn dns db dfs docc nn nns nb nfs nocc
      split at h
      · rename_i hs
        cases h
        rcases lookup_class hI hl with ⟨c, hc, hf⟩ | ho
        · right
          refine ⟨dn, dns, db, dfs, docc, c, rfl, hc, hf, ?_⟩
          have : c.name = nn := by
            simp only [ClassDef.toTy] at hc; injection hc with h1; exact h1.symm
          rw [this]; exact hs
        · exfalso
          have := ifaceWf_others hI _ (mem_of_lookup ho)
          simp at this
      · cases h
    · split at h
      · cases h; left; rfl
      · cases h
    · cases h; left; rfl
    · cases h

/-- the type `from_element` goes on with, whether or not `parse_xsi_type` looks at the attribute -/
theorem resolved_sound {X : FactsXml} (hX : X.xsiTypeCheck = true) {I : Iface} (hI : ifaceWf I = true)
    {cfg : Cfg} {attrs : List (Text × Text)} {t rt : Ty} (h : resolved X cfg I t attrs = some rt) : ResolvedFrom I t rt := by
  unfold resolved at h
  split at h
  · split at h
    · cases h; exact Or.inl rfl
    · exact resolveXsi_sound hX hI h
  · cases h; exact Or.inl rfl

/-- `xsi:type` never turns a primitive or an array into something else -/
theorem resolved_prim {I : Iface} {t : Ty} {p : PrimTy} {o : Occ} (hr : ResolvedFrom I t (.prim p o)) : t = .prim p o := by
  rcases hr with h | ⟨_, _, _, _, _, c, _, hrt, _, _⟩
  · exact h.symm
  · simp [ClassDef.toTy] at hrt

theorem resolved_arr {I : Iface} {t : Ty} {m : Text} {e : Ty} {o : Occ} (hr : ResolvedFrom I t (.arr m e o)) :
    t = .arr m e o := by
  rcases hr with h | ⟨_, _, _, _, _, c, _, hrt, _, _⟩
  · exact h.symm
  · simp [ClassDef.toTy] at hrt

theorem hasTyOne_obj_of_resolved {I : Iface} {t : Ty} {cname cns : Text} {cb : Option Text}
    {fields : List (Text × Ty)} {o : Occ} (hr : ResolvedFrom I t (.obj cname cns cb fields o))
    (st : List (Text × Val)) (hst : hasTyFields I fields st = true) : hasTyOne I t (.obj cname st) = true := by
  rcases hr with h | ⟨dn, dns, db, dfs, docc, c, ht, hrt, hf, hs⟩
  · subst h; simp [hasTyOne, hst]
  · subst ht
    injection hrt with h1 h2 h3 h4 h5
    subst h1; subst h4
    simp [hasTyOne, hs, hf, hst]

mutual
  theorem fromElement_sound {F : Facts08} (L : LeafLaws F) {X : FactsXml} (hX : X.xsiTypeCheck = true)
      (cfg : Cfg) {I : Iface} (hI : ifaceWf I = true) (t : Ty) :
      (x : Node) → (v : Val) → fromElement F X cfg I t x = .ok v → hasTyOne I t v = true
    | .elem ns name attrs text children, v, h => by
      rcases fromElement_ok h with ⟨_, _, hv⟩ | ⟨p, o, hr, hl⟩ | ⟨cname, cns, cb, fields, o, st, hr, hcl, _, hv⟩ |
        ⟨m, elem, o, vs, hr, hal, hv⟩
      · rw [hv]; rfl
      · rw [resolved_prim (resolved_sound hX hI hr)]
        exact leafFromElement_sound L X cfg I p o text v hl
      · rw [hv]
        exact hasTyOne_obj_of_resolved (resolved_sound hX hI hr) st
          (childLoop_sound L hX cfg hI _ children _ st (hasTyFields_init I _) hcl)
      · rw [hv, resolved_arr (resolved_sound hX hI hr), hasTyOne]
        exact arrayLoop_sound L hX cfg hI elem children vs hal

  theorem childLoop_sound {F : Facts08} (L : LeafLaws F) {X : FactsXml} (hX : X.xsiTypeCheck = true)
      (cfg : Cfg) {I : Iface} (hI : ifaceWf I = true) (fields : List (Text × Ty)) :
      (cs : List Node) → (st st' : List (Text × Val)) → hasTyFields I fields st = true →
      childLoop F X cfg I fields cs st = .ok st' → hasTyFields I fields st' = true
    | [], st, st', hst, h => by
      simp only [childLoop] at h; cases h; exact hst
    | c :: cs, st, st', hst, h => by
      rcases childLoop_ok h with ⟨_, h⟩ | ⟨mt, v, hk, hv, _, h⟩
      · exact childLoop_sound L hX cfg hI fields cs st st' hst h
      · exact childLoop_sound L hX cfg hI fields cs _ st'
          (hasTyFields_store fields st _ mt v hst hk (fromElement_sound L hX cfg hI mt c v hv)) h

  theorem arrayLoop_sound {F : Facts08} (L : LeafLaws F) {X : FactsXml} (hX : X.xsiTypeCheck = true)
      (cfg : Cfg) {I : Iface} (hI : ifaceWf I = true) (elem : Ty) :
      (cs : List Node) → (vs : List Val) → arrayLoop F X cfg I elem cs = .ok vs → hasTyItems I elem vs = true
    | [], vs, h => by
      simp only [arrayLoop] at h; cases h; rfl
    | c :: cs, vs, h => by
      obtain ⟨v, ws, hv, hws, hvs⟩ := arrayLoop_ok h
      rw [hvs, hasTyItems, fromElement_sound L hX cfg hI elem c v hv, arrayLoop_sound L hX cfg hI elem cs ws hws]
      rfl
end

end Xml
end SpyneModel
