/-
  C11: the routing table of the sample application `[mX, mA, mB]` of the non-vacuity examples of Props/C11.lean,
  built once; the examples go on from the table.
-/
import SpyneModel.Dispatch
import SpyneModel.Generated.Facts11
namespace SpyneModel.Dispatch.Sample
open SpyneModel.Generated

/-- `Except` has no `DecidableEq`, so an equation `x = .ok a` is decided through `toOption` -/
theorem eq_ok_of_toOption {ε α : Type} {x : Except ε α} {a : α} (h : x.toOption = some a) : x = .ok a := by
  cases x <;> simp_all [Except.toOption]

/-- the auxiliary `mX`, listed first, ends up behind the primary `mA` it belongs to; the case variant `mB` has a
    key of its own -/
theorem build_sample : build facts11 "tns".toList [mX, mA, mB] =
    .ok [("{tns}foo".toList, [mA, mX]), ("{tns}Foo".toList, [mB])] :=
  eq_ok_of_toOption (by decide +kernel)

end SpyneModel.Dispatch.Sample
