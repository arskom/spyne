/-
  Consequences of the leaf laws in the form the tree codecs use them: what writing a conformant primitive value
  gives (`LeafLaws.text`) and what reading a text gives (`LeafLaws.parsed`).  The structure `LeafLaws` itself, with
  `Facts08.Good` and `leafFits`, is in Proofs/Leaf.lean.
-/
import Proofs.Leaf
namespace SpyneModel

/-- a conformant value has a text that reads back as the value and passes both stages of the code's validation -/
theorem LeafLaws.text {F : Facts08} (L : LeafLaws F) {p : PrimTy} {v : Val} (hv : p.valueOk v = true)
    (hf : leafFits F p v = true) :
    ∃ s, leafToText F p v = some s ∧ leafFromText F p s = .ok v ∧ validateString F p s = true ∧
      validateNative p v = true := by
  obtain ⟨s, h1, h2⟩ := L.roundtrip p v hv hf
  have h3 := L.soft p s v h2
  rw [hv, Bool.and_eq_true] at h3
  exact ⟨s, h1, h2, h3⟩

/-- a leaf parser faults or returns a value of the declared kind on which the two-stage validation decides
    exactly the declared facets -/
theorem LeafLaws.parsed {F : Facts08} (L : LeafLaws F) (p : PrimTy) (s : Text) :
    leafFromText F p s = .fault ∨
    ∃ v, leafFromText F p s = .ok v ∧ p.kindOk v = true ∧
      (validateString F p s && validateNative p v) = p.valueOk v := by
  cases h : leafFromText F p s with
  | ok v => exact Or.inr ⟨v, rfl, L.sound p s v h, L.soft p s v h⟩
  | fault => exact Or.inl rfl
  | crash e => exact absurd h (L.nocrash p s e)

end SpyneModel
