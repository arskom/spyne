/-
  The response for a single primitive return value: headers, body, frame.
-/
import Proofs.FlatQsP
namespace SpyneModel.Flat
open SpyneModel

def PrimHeader : List Fld → Prop
  | [] => True
  | (_, occ, t) :: r => occ.many = false ∧ (∃ p, t = .prim p) ∧ PrimHeader r

theorem encFields_prim_mem (delim : Text) (attrs : Attrs) (fields : List Fld) (hp : PrimHeader fields)
    (n : Text) (occ : Occ) (p : PK) (hf : (n, occ, .prim p) ∈ fields) (v : Leaf) (hv : getAttr attrs n = .leaf v) :
    (n, EncVal.one p v) ∈ encFields delim [] attrs fields := by
  induction fields with
  | nil => simp at hf
  | cons f r ih =>
    obtain ⟨fn, focc, ft⟩ := f
    simp only [PrimHeader] at hp
    obtain ⟨hm, ⟨p', rfl⟩, hr⟩ := hp
    simp only [encFields, List.mem_append]
    rcases List.mem_cons.mp hf with h | h
    · simp only [Prod.mk.injEq, Ty.prim.injEq] at h
      obtain ⟨rfl, rfl, rfl⟩ := h
      left
      simp only [hm, hv, List.nil_append, encTy, joinKey, List.mem_singleton]
    · exact Or.inr (ih hr h)

/-- a declared header member that is set is sent under its name with its exact text -/
theorem response_header (F : Facts03) (mime : Text) (hdrFields : List Fld) (hp : PrimHeader hdrFields) (attrs : Attrs)
    (ret : RetVal) (n : Text) (occ : Occ) (p : PK) (hf : (n, occ, .prim p) ∈ hdrFields) (v : Leaf) (text : Text)
    (hv : getAttr attrs n = .leaf v) (ht : hdrText F p v = some text) :
    (n, text) ∈ (response F mime hdrFields (.obj attrs) ret).1 := by
  simp only [response, hdrPairs, encode, List.mem_cons, List.mem_append, List.mem_flatMap]
  right; left
  exact ⟨(n, .one p v), encFields_prim_mem ['.'] attrs hdrFields hp n occ p hf v hv, by simp [ht]⟩

theorem response_snd (F : Facts03) (mime : Text) (hdrFields : List Fld) (hdr : Node) (ret : RetVal) :
    (response F mime hdrFields hdr ret).2 = retBody F ret := rfl

/-- the body is the UTF-8 of the value's text, and reads back as that text -/
theorem response_body (F : Facts03) (mime : Text) (hdrFields : List Fld) (hdr : Node) (p : PK) (v : Leaf) (text : Text)
    (ht : leafText F p v = some text) :
    (response F mime hdrFields hdr (.leaf p v)).2 = utf8Enc text ∧
    utf8Dec (response F mime hdrFields hdr (.leaf p v)).2 = text := by
  rw [response_snd, retBody, ht]
  exact ⟨rfl, utf8Dec_utf8Enc _⟩

/-- Content-Type first, Content-Length (decimal byte count of the body) last -/
theorem response_frame (F : Facts03) (mime : Text) (hdrFields : List Fld) (hdr : Node) (ret : RetVal) :
    (response F mime hdrFields hdr ret).1.head? = some ("Content-Type".toList, mime) ∧
    (response F mime hdrFields hdr ret).1.getLast? =
      some ("Content-Length".toList, natText (response F mime hdrFields hdr ret).2.length) := by
  refine ⟨rfl, ?_⟩
  simp only [response]
  rw [← List.cons_append, List.getLast?_append]
  rfl

end SpyneModel.Flat
