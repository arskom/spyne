/-
  C02: what the dict-document decoder makes of the encoder's output (round trip), by structural induction over
  the type universe. General in `F`, `G`; uses the `LeafLaws` only.
-/
import Proofs.HierBasic
namespace SpyneModel.Hier
open SpyneModel

variable {F : Facts08} (G : Facts02) (cfg : Cfg) (R : Registry)

/-- the key `k` is understood as the name `n` wherever the reader meets a key: at a member entry, at the wrapper of an
    object, as the method of a request and when `deserialize` looks the body up under the method name -/
structure KeyReads (G : Facts02) (cfg : Cfg) (k : Key) (n : Text) : Prop where
  member : keyName cfg k = .good (some n)
  wrapper : wrapperKey G k = .good (some n)
  method : requestMethod G cfg k = .good (some n)
  body : ∀ b, findBody G cfg n [(k, b)] = some b

/-- `str` keys are understood by every protocol of the family (D10 for MessagePack request bodies) -/
theorem KeyReads.str {G : Facts02} (hG : G.mpNameAnyKey = true) (cfg : Cfg) (n : Text) : KeyReads G cfg (.str n) n :=
  ⟨rfl, rfl, rfl, fun b => by simp [findBody, hG]⟩

/-- … and each protocol understands the keys it writes -/
theorem KeyReads.own (n : Text) : KeyReads G cfg (keyOut cfg n) n := by
  unfold keyOut
  cases hm : cfg.proto.isMsgpack
  · exact ⟨rfl, rfl, rfl, fun b => by simp [findBody, hm]⟩
  · exact ⟨by simp [keyName, hm, utf8Dec_utf8Enc], by simp [wrapperKey, utf8Dec_utf8Enc],
      by simp [requestMethod, hm, utf8Dec_utf8Enc], fun b => by simp [findBody, hm, utf8Dec_utf8Enc]⟩

theorem decode_null (hG : G.GoodRT) (t : Ty) (hn : t.occ.nillable = true) :
    decode F G cfg R t .null = .good .none := by
  rw [decode_flat _ _ _ _ _ _ rfl]
  cases t with
  | prim p o =>
    simp only [Ty.occ] at hn
    simp only [flatOne, primIn]
    have hpre : preOk F G cfg p o .null = true := by
      unfold preOk
      simp only [Doc.isNull, hn, Bool.and_self, if_true, Bool.true_and]
      split <;> simp [hG.jnull]
    simp [hpre, strOk, hn]
  | _ => simp only [Ty.occ] at hn; simp [flatOne, nullComplex, hG.nul, hn]

/-- side conditions on a leaf for MessagePack: integers that travel as text stay within the length guard;
    with `rd` the leaf kind is one MessagePackDocument reads back from `bin` -/
def mpLeaf (F : Facts08) (cfg : Cfg) (rd : Bool) (p : PrimTy) (v : Val) : Prop :=
  cfg.proto.isMsgpack = true → fitsV F v = true ∧ (rd = true → mpLeafOk p = true)

/-- hypotheses shared by the round-trip lemmas: what the decoder (configuration `cfg`) needs to know about the
    spelling `S` a document was written in. `rd`: under MessagePack the text leaves of `S` are the protocol's own
    `bin` ones, read back for the `mpLeafOk` kinds only, so that the round trip asks for `mpReadable` types (`ownCtx`);
    `false` where text is written as `str` (`convCtx`) -/
structure RtCtx (F : Facts08) (G : Facts02) (cfg : Cfg) (S : Spell) (rd : Bool) : Prop where
  hG : G.GoodRT
  hsc : S.consistent = true
  hiw : S.iw = cfg.ignoreWrappers
  hnw : ∀ n, S.nw n = cfg.notWrapped.contains n
  hkey : ∀ n, KeyReads G cfg (S.kOut n) n
  hleaf : ∀ p o v, p.valueOk v = true → mpLeaf F cfg rd p v → primIn F G cfg p o (S.lOut p v) = .good v

variable {F : Facts08} {G : Facts02} {cfg : Cfg} {S : Spell} {rd : Bool} (R : Registry)

/-- writer and reader agree on which classes travel without a wrapper -/
theorem RtCtx.unwrapped_eq (C : RtCtx F G cfg S rd) (n : Text) : (S.iw || S.nw n) = cfg.unwrapped n := by
  simp [C.hiw, C.hnw, Cfg.unwrapped]

/-- positional lists are written without wrappers only: where wrappers are kept, objects are mappings -/
theorem RtCtx.dict_of_wrapped (C : RtCtx F G cfg S rd) (h : S.iw = false) : S.cas = .dict := by
  simpa [Spell.consistent, h] using C.hsc

/-- `mpLeaf` for a whole type -/
def mpOk (F : Facts08) (cfg : Cfg) (rd : Bool) (t : Ty) (v : Val) : Prop :=
  cfg.proto.isMsgpack = true → fitsV F v = true ∧ (rd = true → mpReadable t = true)

theorem mpOk.leaf {p : PrimTy} {o : Occ} {v : Val} (h : mpOk F cfg rd (.prim p o) v) : mpLeaf F cfg rd p v :=
  fun hm => ⟨(h hm).1, fun hr => by simpa [mpReadable] using (h hm).2 hr⟩

/-- the round trip of one occurrence of `t` other than `None`: what `rt_ty` proves by induction over `t`, and what the
    lemmas on items and members assume of the item and member types -/
def RtOne (F : Facts08) (G : Facts02) (cfg : Cfg) (S : Spell) (R : Registry) (rd : Bool) (t : Ty) : Prop :=
  ∀ v, v ≠ .none → wfTy t = true → conformsOne t v = true → mpOk F cfg rd t v → plain S.cas t v = true →
    decode F G cfg R t (encOne R S t v) = .good v

theorem decodeItems_cons (t : Ty) (d : Doc) (ds : List Doc) :
    decodeItems F G cfg R t (d :: ds) =
      (decode F G cfg R t d).bind (fun v => (decodeItems F G cfg R t ds).bind (fun vs => .good (v :: vs))) := by
  simp [decodeItems]

/-- an array (or repeated member) whose items each survive the round trip survives as a whole: arrays of the
    base type may hold any mix of base and subclass instances -/
theorem items_roundtrip_of_each (t : Ty) (vs : List Val)
    (h : ∀ v ∈ vs, decode F G cfg R t (encOne R S t v) = .good v) :
    decodeItems F G cfg R t (encodeItems S R t vs) = .good vs := by
  induction vs with
  | nil => simp [decodeItems]
  | cons v vs ih =>
    obtain ⟨hv, h⟩ := List.forall_mem_cons.1 h
    rw [encodeItems_cons, decodeItems_cons, hv, ih h]
    simp

/-- the condition `plainItems` puts on one item -/
def itemPlain (cas : ComplexAs) (t : Ty) (v : Val) : Bool :=
  match v with
  | .none => !isObjTy t
  | v => plain cas t v

theorem plainItems_eq_all (cas : ComplexAs) (t : Ty) (vs : List Val) : plainItems cas t vs = vs.all (itemPlain cas t) :=
  all_of_rec (by rw [plainItems]) (fun v _ => by rw [plainItems.eq_def]; cases v <;> rfl) vs

theorem fitsItems_eq_all (vs : List Val) : fitsItems F vs = vs.all (fitsV F) :=
  all_of_rec (by rw [fitsItems]) (fun _ _ => by rw [fitsItems]) vs

/-- `items_roundtrip_of_each` with the round trip of each item supplied: of `None` by `decode_null`, of any other by `hP` -/
theorem items_rt (C : RtCtx F G cfg S rd) (t : Ty) (hP : RtOne F G cfg S R rd t) (hwf : wfTy t = true)
    (hmp : cfg.proto.isMsgpack = true → rd = true → mpReadable t = true) (vs : List Val)
    (hc : ∀ v ∈ vs, conformsOne t v = true) (hf : cfg.proto.isMsgpack = true → fitsItems F vs = true)
    (hp : plainItems S.cas t vs = true) :
    decodeItems F G cfg R t (encodeItems S R t vs) = .good vs := by
  refine items_roundtrip_of_each R t vs (fun v hm => ?_)
  have hpv := List.all_eq_true.1 (plainItems_eq_all S.cas t vs ▸ hp) v hm
  by_cases hv : v = .none
  · subst hv
    have : encOne R S t .none = .null := by
      cases t <;> simp [encOne, itemPlain, isObjTy] at hpv ⊢
    rw [this, decode_null G cfg R C.hG t ((conformsOne_none t).symm.trans (hc _ hm))]
  · exact hP v hv hwf (hc v hm) (fun h => ⟨List.all_eq_true.1 (fitsItems_eq_all vs ▸ hf h) v hm, hmp h⟩)
      (by cases v <;> first | exact absurd rfl hv | exact hpv)

/-- occurrences counted for a member holding `v` -/
def cnt (S : Spell) (t : Ty) (v : Val) : Nat :=
  match v with
  | .none => if emits S t .null then 1 else 0
  | .list vs => if t.occ.repeated then vs.length else 1
  | _ => 1

/-- the slots a member loop ends with on what the encoder wrote for `fvs` -/
def finalSlots (S : Spell) : Fields → List (Text × Val) → Acc
  | (n, t) :: fs, (_, v) :: fvs => (n, v, cnt S t v) :: finalSlots S fs fvs
  | _, _ => []

theorem encOne_not_null (C : RtCtx F G cfg S rd) (t : Ty) (v : Val) (hv : v ≠ .none) (hc : conformsOne t v = true)
    (hmp : mpOk F cfg rd t v) : (encOne R S t v).isNull = false := by
  cases t with
  | prim p o =>
    -- a leaf that is read back as `v` is not `null`, which is read as `None`
    rw [conformsOne_prim p o v hv] at hc
    have h := C.hleaf p o v hc hmp.leaf
    rw [encOne_prim R S p o hc]
    cases hd : S.lOut p v <;> first | rfl | exact absurd (primIn_null (hd ▸ h)) hv
  | obj n ns b fs o =>
    obtain ⟨fvs, rfl, _⟩ := conformsOne_obj n ns b fs o v hv hc
    exact wrapPairs_not_null S _ _
  | arr m e o =>
    obtain ⟨vs, rfl, _⟩ := conformsOne_arr m e o v hv hc
    rfl

theorem encode_not_null (C : RtCtx F G cfg S rd) (t : Ty) (v : Val) (hv : v ≠ .none) (hc : conforms t v = true)
    (hmp : mpOk F cfg rd t v) : (encodeS S R t v).isNull = false := by
  cases hr : t.occ.repeated
  · rw [conforms_single t v hr] at hc
    rw [encode_eq_encOne R S t v hv (fun vs h => conformsOne_list_arr (h ▸ hc))]
    exact encOne_not_null R C t v hv hc hmp
  · obtain ⟨vs, rfl, _, _⟩ := conforms_rep t v hr hv hc
    rw [encodeS_list_repeated R S t vs hr]
    rfl

/-- the condition `plainFields` puts on one member value -/
def memberPlain (cas : ComplexAs) (t : Ty) (v : Val) : Bool :=
  match v with
  | .none => decide (cas ≠ .list)
  | v => plain cas t v

theorem plainFields_cons (cas : ComplexAs) (n m : Text) (t : Ty) (v : Val) (fs : Fields) (fvs : List (Text × Val)) :
    plainFields cas ((n, t) :: fs) ((m, v) :: fvs) = (memberPlain cas t v && plainFields cas fs fvs) := by
  rw [plainFields.eq_def]
  cases v <;> simp [memberPlain]

/-- what the round trip of a member of type `t` holding `v` needs -/
structure MemberRt (F : Facts08) (G : Facts02) (cfg : Cfg) (S : Spell) (R : Registry) (rd : Bool) (t : Ty) (v : Val) :
    Prop where
  one : RtOne F G cfg S R rd t
  wf : wfTy t = true
  conf : conformsMember t v = true
  mp : mpOk F cfg rd t v
  pl : memberPlain S.cas t v = true

/-- what the round trip of the members `fs` holding `fvs` needs -/
structure FieldsRt (F : Facts08) (G : Facts02) (cfg : Cfg) (S : Spell) (R : Registry) (rd : Bool) (fs : Fields)
    (fvs : List (Text × Val)) : Prop where
  one : ∀ nt ∈ fs, RtOne F G cfg S R rd nt.2
  wf : wfFields fs = true
  conf : conformsFields fs fvs = true
  mp : cfg.proto.isMsgpack = true → fitsFields F fvs = true ∧ (rd = true → mpReadableFields fs = true)
  pl : plainFields S.cas fs fvs = true

theorem FieldsRt.cons {n : Text} {t : Ty} {fs : Fields} {fvs : List (Text × Val)}
    (h : FieldsRt F G cfg S R rd ((n, t) :: fs) fvs) :
    ∃ v fvs', fvs = (n, v) :: fvs' ∧ MemberRt F G cfg S R rd t v ∧ FieldsRt F G cfg S R rd fs fvs' := by
  obtain ⟨v, fvs', rfl, hcv, hcr⟩ := conformsFields_cons h.conf
  have hwf : wfTy t = true ∧ wfFields fs = true := by simpa [wfFields] using h.wf
  have hpl : memberPlain S.cas t v = true ∧ plainFields S.cas fs fvs' = true := by
    simpa only [plainFields_cons, Bool.and_eq_true] using h.pl
  have hmp : cfg.proto.isMsgpack = true →
      (fitsV F v = true ∧ fitsFields F fvs' = true) ∧ (rd = true → mpReadable t = true ∧ mpReadableFields fs = true) :=
    fun hm => by simpa [fitsFields, mpReadableFields] using h.mp hm
  exact ⟨v, fvs', rfl,
    ⟨(List.forall_mem_cons.1 h.one).1, hwf.1, hcv, fun hm => ⟨(hmp hm).1.1, fun hr => ((hmp hm).2 hr).1⟩, hpl.1⟩,
    ⟨(List.forall_mem_cons.1 h.one).2, hwf.2, hcr, fun hm => ⟨(hmp hm).1.2, fun hr => ((hmp hm).2 hr).2⟩, hpl.2⟩⟩

/-- one round of a member loop on what the encoder wrote for the member `n` holding `v`: the slot receives `v` and the
    number of its occurrences -/
theorem member_rt (C : RtCtx F G cfg S rd) {t : Ty} {v : Val} (M : MemberRt F G cfg S R rd t v)
    (hem : emits S t (encodeS S R t v) = true) (n : Text) (pre rest : Acc) (hn : n ∉ slotNames pre) :
    slotStep G n t (decode F G cfg R t (encodeS S R t v)) (memberItems F G cfg R t (encodeS S R t v))
      (pre ++ (n, .none, 0) :: rest) = .good (pre ++ (n, v, cnt S t v) :: rest) := by
  have put : ∀ (f : Val → Val) (k : Nat),
      putSlot (pre ++ (n, Val.none, 0) :: rest) n f k = pre ++ (n, f .none, 0 + k) :: rest :=
    fun f k => putSlot_at pre n .none 0 rest f k hn
  by_cases hv : v = .none
  · -- a `None` that is written stands for a required, nillable, single-occurrence member
    subst hv
    have hd0 : encodeS S R t .none = .null := by simp [encodeS]
    rw [hd0] at hem ⊢
    have hcas : S.cas = .dict := by have := M.pl; cases h : S.cas <;> simp_all [memberPlain]
    have hmin : ¬ t.occ.minOccurs = 0 := by simp [emits, Doc.isNull, hcas] at hem; omega
    have hnr : t.occ.nillable = true ∧ t.occ.repeated = false := by simpa [conformsMember, hmin] using M.conf
    simp only [slotStep, hnr.2, Bool.false_eq_true, if_false, decode_null G cfg R C.hG t hnr.1, Res.good_bind, Acc.put,
      put, occInc, C.hG.occ, Nat.zero_add, cnt, hem, if_true]
  · have hcv := (conformsMember_some hv ▸ M.conf)
    have hpl : plain S.cas t v = true := by cases v <;> first | exact absurd rfl hv | exact M.pl
    cases hr : t.occ.repeated
    · rw [conforms_single t v hr] at hcv
      have hshape : ∀ vs, v = .list vs → ∃ m e o, t = .arr m e o := fun vs h => conformsOne_list_arr (h ▸ hcv)
      have hc1 : cnt S t v = 1 := by cases v <;> simp [cnt, hr] at hv ⊢
      simp only [slotStep, hr, Bool.false_eq_true, if_false, encode_eq_encOne R S t v hv hshape,
        M.one v hv M.wf hcv M.mp hpl, Res.good_bind, Acc.put, put, occInc, C.hG.occ, Nat.zero_add, hc1]
    · obtain ⟨vs, rfl, _, hci⟩ := conforms_rep t v hr hv hcv
      have hna := repeated_not_arr M.wf hr
      have hit : itemTy t = t := by
        cases t with
        | arr m e o => exact absurd rfl (hna m e o)
        | _ => rfl
      have hitems := items_rt R C t M.one M.wf (fun hm => (M.mp hm).2) vs ((conformsItems_iff t vs).1 hci)
        (fun hm => by simpa [fitsV] using (M.mp hm).1) (by simpa only [plain, hit] using hpl)
      simp only [slotStep, hr, if_true, encodeS_list_repeated R S t vs hr, hit, memberItems, hitems, Res.good_bind,
        Acc.putItems, put, occInc, C.hG.occ, Nat.zero_add, oldItems, List.nil_append, cnt]

theorem cnt_not_emitted (C : RtCtx F G cfg S rd) {t : Ty} {v : Val} (M : MemberRt F G cfg S R rd t v)
    (hem : emits S t (encodeS S R t v) = false) : v = .none ∧ cnt S t v = 0 := by
  have hv : v = .none := Classical.byContradiction fun hv => by
    simp [emits, encode_not_null R C t v hv (conformsMember_some hv ▸ M.conf) M.mp] at hem
  subst hv
  have : emits S t .null = false := by simpa [encodeS] using hem
  simp [cnt, this]

/-- the loop over a mapping, entered in the middle: `pre` are the finished slots of the members `preF` already passed.
    `putSlot` finds a slot by name, so every step needs the name at hand to be none of `slotNames pre` -/
theorem kvs_rt (C : RtCtx F G cfg S rd) :
    ∀ (fs : Fields) (all preF : Fields) (fvs : List (Text × Val)) (pre : Acc),
      all = preF ++ fs → namesDistinct (all.map (·.1)) = true → slotNames pre = preF.map (·.1) →
      FieldsRt F G cfg S R rd fs fvs →
      decodeKvs F G cfg R all ((encodeFields S R fs fvs).map (fun p => (S.kOut p.1, p.2))) (pre ++ initAcc fs)
        = .good (pre ++ finalSlots S fs fvs)
  | [], _, _, _, _, _, _, _, _ => by simp [encodeFields, decodeKvs, initAcc, finalSlots]
  | (n, t) :: fs, all, preF, fvs, pre, hall, hnd, hsl, h => by
    obtain ⟨v, fvs', rfl, M, hr⟩ := h.cons
    have hlook := lookupField_split hall hnd
    have hnsl : n ∉ slotNames pre := by
      rw [hsl]; subst hall
      exact (namesDistinct_append_cons (preF.map (·.1)) n (fs.map (·.1)) (by simpa using hnd)).1
    have step : ∀ (c : Nat),
        decodeKvs F G cfg R all ((encodeFields S R fs fvs').map (fun p => (S.kOut p.1, p.2))) (pre ++ (n, v, c) :: initAcc fs)
        = .good (pre ++ (n, v, c) :: finalSlots S fs fvs') := by
      intro c
      rw [List.append_cons pre (n, v, c) (initAcc fs), List.append_cons pre (n, v, c) (finalSlots S fs fvs')]
      exact kvs_rt C fs all (preF ++ [(n, t)]) fvs' (pre ++ [(n, v, c)]) (by simp [hall]) hnd (by simp [slotNames, ← hsl]) hr
    cases hem : emits S t (encodeS S R t v)
    · obtain ⟨rfl, hc⟩ := cnt_not_emitted R C M hem
      simp only [encodeFields, hem, Bool.false_eq_true, if_false, List.nil_append, finalSlots, initAcc, List.map_cons, hc]
      exact step 0
    · simp only [encodeFields, hem, if_true, List.singleton_append, finalSlots, initAcc, List.map_cons]
      rw [decodeKvs_cons, (C.hkey n).member, Res.good_bind]
      simp only [hlook]
      rw [member_rt R C M hem n pre _ hnsl, Res.good_bind]
      exact step _

/-- the positional loop, entered in the middle like `kvs_rt`: `preN` are the names already passed -/
theorem pos_rt (C : RtCtx F G cfg S rd) (hlm : S.cas = .list) :
    ∀ (fs : Fields) (all : Fields) (preN : List Text) (fvs : List (Text × Val)) (pre : Acc),
      namesDistinct (preN ++ fs.map (·.1)) = true → slotNames pre = preN → FieldsRt F G cfg S R rd fs fvs →
      decodePos F G cfg R all fs ((encodeFields S R fs fvs).map (·.2)) (pre ++ initAcc fs)
        = .good (pre ++ finalSlots S fs fvs)
  | [], _, _, _, _, _, _, _ => by simp [encodeFields, decodePos, initAcc, finalSlots]
  | (n, t) :: fs, all, preN, fvs, pre, hnd, hsl, h => by
    obtain ⟨v, fvs', rfl, M, hr⟩ := h.cons
    have hnsl : n ∉ slotNames pre := by
      rw [hsl]; exact (namesDistinct_append_cons preN n (fs.map (·.1)) (by simpa using hnd)).1
    have hem : emits S t (encodeS S R t v) = true := by simp [emits, hlm]
    simp only [encodeFields, hem, if_true, List.singleton_append, finalSlots, initAcc, List.map_cons]
    rw [decodePos_cons, member_rt R C M hem n pre _ hnsl, Res.good_bind, List.append_cons pre _ (List.map _ fs),
      List.append_cons pre _ (finalSlots S fs fvs')]
    exact pos_rt C hlm fs all (preN ++ [n]) fvs' (pre ++ [(n, v, _)]) (by simpa using hnd) (by simp [slotNames, ← hsl]) hr

theorem finalSlots_vals (S : Spell) : ∀ (fs : Fields) (fvs : List (Text × Val)), conformsFields fs fvs = true →
    (finalSlots S fs fvs).map (fun s => (s.1, s.2.1)) = fvs := by
  intro fs
  induction fs with
  | nil =>
    intro fvs h
    cases fvs with
    | nil => simp [finalSlots]
    | cons a b => cases (conformsFields_nil _).mp h
  | cons nt fs ih =>
    obtain ⟨n, t⟩ := nt
    intro fvs h
    obtain ⟨v, fvs', rfl, _, hcr⟩ := conformsFields_cons h
    simp [finalSlots, ih fvs' hcr]

theorem cnt_ok (S : Spell) (t : Ty) (v : Val) (hw : occWf t.occ = true) (hcv : conformsMember t v = true) :
    t.occ.countOk (cnt S t v) = true := by
  by_cases hv : v = .none
  · subst hv
    simp only [cnt, emits, Doc.isNull, Bool.not_true, Bool.false_or]
    by_cases hmin : t.occ.minOccurs = 0
    · split
      · exact ((occWf_iff _).mp hw).countOk_one (by omega)
      · exact (Occ.countOk_zero _).mpr hmin
    · have hnr : t.occ.nillable = true ∧ t.occ.repeated = false := by simpa [conformsMember, hmin] using hcv
      have hpos : decide (t.occ.minOccurs > 0) = true := by simp; omega
      simp only [hpos, Bool.true_or, if_true]
      exact ((occWf_iff _).mp hw).countOk_single hnr.2
  · have hcv' := (conformsMember_some hv ▸ hcv)
    cases hr : t.occ.repeated
    · have hc1 : cnt S t v = 1 := by cases v <;> simp [cnt, hr] at hv ⊢
      rw [hc1]; exact ((occWf_iff _).mp hw).countOk_single hr
    · obtain ⟨vs, rfl, hcount, _⟩ := conforms_rep t v hr hv hcv'
      simpa only [cnt, hr, if_true] using hcount

theorem checkFreq_final (S : Spell) : ∀ (fs : Fields) (fvs : List (Text × Val)),
    wfFields fs = true → conformsFields fs fvs = true → checkFreq fs (finalSlots S fs fvs) = true
  | [], _, _, _ => by simp [checkFreq]
  | (n, t) :: fs, fvs, hwf, h => by
    obtain ⟨v, fvs', rfl, hcv, hcr⟩ := conformsFields_cons h
    have hwf' : wfTy t = true ∧ wfFields fs = true := by simpa [wfFields] using hwf
    have nonArr : (∀ m e o, t ≠ .arr m e o) → freqOk t (cnt S t v) = true := fun hna => by
      rw [freqOk_occ hna]; exact cnt_ok S t v (wfTy_occWf t hwf'.1 hna) hcv
    simp only [finalSlots, checkFreq_cons, checkFreq_final S fs fvs' hwf'.2 hcr, Bool.and_true]
    cases t with
    | arr m e o => exact freqOk_arr hwf'.1 _
    | _ => exact nonArr (by intros; simp)

theorem finish_final (cfg : Cfg) (S : Spell) (name : Text) (fs : Fields) (fvs : List (Text × Val))
    (hwf : wfFields fs = true) (hc : conformsFields fs fvs = true) :
    finish cfg name fs (finalSlots S fs fvs) = .good (.obj name fvs) := by
  simp [finish, checkFreq_final S fs fvs hwf hc, finalSlots_vals S fs fvs hc]

theorem body_rt (C : RtCtx F G cfg S rd) (cls : Text) (fs : Fields) (fvs : List (Text × Val))
    (hnd : namesDistinct (fs.map (·.1)) = true) (h : FieldsRt F G cfg S R rd fs fvs) :
    decodeBody F G cfg R cls fs (bodyDoc S (encodeFields S R fs fvs)) = .good (.obj cls fvs) := by
  unfold bodyDoc
  cases hca : S.cas
  · have hk := kvs_rt R C fs fs [] fvs [] rfl (by simpa using hnd) rfl h
    simp only [List.nil_append] at hk
    simp [decodeBody, hk, finish_final cfg S cls fs fvs h.wf h.conf]
  · have hk := pos_rt R C hca fs fs [] fvs [] (by simpa using hnd) rfl h
    simp only [List.nil_append] at hk
    simp [decodeBody, hk, finish_final cfg S cls fs fvs h.wf h.conf]

theorem polyTarget_off (hp : S.poly = false) (name : Text) (fs : Fields) (c : Text) :
    polyTarget S R name fs c = (name, fs) := by simp [polyTarget, hp]

theorem polyTarget_self (name : Text) (fs : Fields) : polyTarget S R name fs name = (name, fs) := by
  simp [polyTarget]

/-- C02 core: every conformant occurrence survives `_to_dict_value` followed by `_from_dict_value` -/
theorem rt_ty (C : RtCtx F G cfg S rd) (t : Ty) : RtOne F G cfg S R rd t := by
  induction t using Ty.induct with
  | hprim p o =>
    intro v hv hwf hc hmp hpl
    rw [conformsOne_prim p o v hv] at hc
    rw [encOne_prim R S p o hc, decode_prim]
    exact C.hleaf p o v hc hmp.leaf
  | harr m e o ih =>
    intro v hv hwf hc hmp hpl
    obtain ⟨vs, rfl, hca⟩ := conformsOne_arr m e o v hv hc
    have := items_rt R C e ih (wfTy_arr hwf) (fun hm h => by simpa [mpReadable] using (hmp hm).2 h) vs
      ((conformsArr_iff e vs).1 hca) (fun hm => by simpa [fitsV] using (hmp hm).1)
      (by simpa [plain, itemTy] using hpl)
    simp [encOne, decode, this]
  | hobj n ns b fields o ih =>
    intro v hv hwf hc hmp hpl
    obtain ⟨fvs, rfl, hcf⟩ := conformsOne_obj n ns b fields o v hv hc
    have hw := wfTy_obj hwf
    have hmpf : cfg.proto.isMsgpack = true → fitsFields F fvs = true ∧ (rd = true → mpReadableFields fields = true) :=
      fun hm => by have := hmp hm; simpa [fitsV, mpReadable] using this
    have hplf : plainFields S.cas fields fvs = true := by simpa [plain] using hpl
    have hb := body_rt R C n fields fvs hw.1 ⟨ih, hw.2, hcf, hmpf, hplf⟩
    have hS := C.unwrapped_eq n
    simp only [encOne, polyTarget_self R]
    cases hu : cfg.unwrapped n
    · rw [hu] at hS
      rw [wrapPairs_wrapped S n _ (C.dict_of_wrapped (Bool.or_eq_false_iff.1 hS).1) hS, decode_obj_wrapped _ _ _ _ hu, (C.hkey n).wrapper, Res.good_bind, resolveClass_self,
        Res.good_bind]
      exact hb
    · rw [hu] at hS
      rw [wrapPairs_unwrapped S n _ (Or.inr hS), decode_obj_unwrapped _ _ _ _ hu _ (bodyDoc_not_flat S _)]
      exact hb

end SpyneModel.Hier
