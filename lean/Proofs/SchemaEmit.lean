/-
  C06 lemmas: the document the XML encoder model writes for a conformant value is valid
  against the schema type its class denotes (`emitted_validS`).
-/
import Proofs.SchemaLists
import Proofs.XmlBasic
namespace SpyneModel
namespace Schema
open Xml


theorem takeWhile_replicate_append {α} [DecidableEq α] (k : α) (n : Nat) (rest : List α)
    (h : ∀ x ∈ rest, x ≠ k) :
    (List.replicate n k ++ rest).takeWhile (fun x => decide (x = k)) = List.replicate n k ∧
    (List.replicate n k ++ rest).dropWhile (fun x => decide (x = k)) = rest := by
  induction n with
  | zero =>
    cases rest with
    | nil => simp
    | cons r rs =>
      have : r ≠ k := h r (by simp)
      simp [this]
  | succ n ih =>
    simp only [List.replicate_succ, List.cons_append, List.takeWhile, List.dropWhile, decide_true]
    exact ⟨by rw [ih.1], ih.2⟩

/-- every list is the run of `k` at its head followed by what `dropWhile` leaves -/
theorem run_split {α} [DecidableEq α] (k : α) (l : List α) :
    ∃ n, l = List.replicate n k ++ l.dropWhile (fun x => decide (x = k)) :=
  ⟨_, ((congrArg (· ++ _) (List.eq_replicate_iff.mpr ⟨rfl, fun b hb =>
    of_decide_eq_true (List.all_eq_true.mp List.all_takeWhile b hb)⟩)).symm.trans List.takeWhile_append_dropWhile).symm⟩

/-- a slot takes the whole run of its name -/
theorem seqOk_block (k : Key) (o : Occ) (ps : List (Key × Occ)) (n : Nat) (rest : List Key) (hrest : ∀ x ∈ rest, x ≠ k) :
    seqOk ((k, o) :: ps) (List.replicate n k ++ rest) = (o.countOk n && seqOk ps rest) := by
  have h := takeWhile_replicate_append k n rest hrest
  simp only [seqOk, h.1, h.2, List.length_replicate]


theorem nilAttr_nil : nilAttr [] = some none := rfl

/-- the two literals every `xsi:nil` rule reads as true -/
theorem nil_true_cases (v : Text) (h : (v = "true".toList || v = "1".toList) = true) :
    nilAttr [(xsiNilKey, v)] = some (some true) ∧ v.isEmpty = false := by
  simp only [Bool.or_eq_true, decide_eq_true_eq] at h
  rw [nilAttr, List.lookup_cons_self]
  rcases h with e | e <;> (subst e; decide)

theorem attrsOk_nilKey (v : Text) : attrsOk [(xsiNilKey, v)] = true := by simp [attrsOk]

/-- an element whose only attribute is an `xsi:nil` read as true is valid exactly when it is nillable and empty,
    whatever its type -/
theorem validS_nil (d : STy) (nillable : Bool) (ns name v : Text) (text : Option Text) (children : List Node)
    (h : nilAttr [(xsiNilKey, v)] = some (some true)) :
    validS d nillable (.elem ns name [(xsiNilKey, v)] text children) = (nillable && text.isNone && children.isEmpty) := by
  unfold validS
  rw [h, attrsOk_nilKey, Bool.true_and]

theorem validS_nilElem (d : STy) (ns name : Text) : validS d true (nilElem ns name) = true :=
  validS_nil _ _ _ _ _ _ _ (nil_true_cases _ (by decide)).1

theorem nodeKey_nilElem (ns name : Text) : nodeKey (nilElem ns name) = (ns, name) := rfl

theorem validS_plain (d : STy) (nillable : Bool) (ns name : Text) (text : Option Text) (children : List Node) :
    validS d nillable (.elem ns name [] text children) =
      match d with
      | .simple b fs => children.isEmpty && simpleOk b fs (text.getD [])
      | .complex ps => textOk ps.isEmpty text && seqOk (slotsS ps) (children.map nodeKey) && validChildrenS ps children := by
  cases d <;> simp [validS, attrsOk, nilAttr_nil]

theorem validS_plain_simple (b : Builtin) (fs : List Facet) (nillable : Bool) (ns name : Text) (s : Text)
    (h : simpleOk b fs s = true) : validS (.simple b fs) nillable (.elem ns name [] (mkText s) []) = true := by
  have e : (mkText s).getD [] = s := by cases s <;> rfl
  simp only [validS_plain, e, h, List.isEmpty_nil, Bool.and_self]

theorem validS_plain_complex (ps : List (Key × Occ × STy)) (nillable : Bool) (ns name : Text) (kids : List Node)
    (h1 : seqOk (slotsS ps) (kids.map nodeKey) = true) (h2 : validChildrenS ps kids = true) :
    validS (.complex ps) nillable (.elem ns name [] none kids) = true := by
  have : textOk ps.isEmpty none = true := by unfold textOk; split <;> rfl
  simp only [validS_plain, this, h1, h2, Bool.and_self]


theorem countOk_unbounded (o : Occ) (hmin : o.minOccurs = 0) (hmax : o.maxOccurs = none) (n : Nat) :
    o.countOk n = true := by
  unfold Occ.countOk; rw [hmin, hmax]; simp

theorem seqOk_one_slot (k : Key) (o : Occ) (names : List Key) (hall : ∀ x ∈ names, x = k)
    (hn : o.countOk names.length = true) : seqOk [(k, o)] names = true := by
  rw [List.eq_replicate_iff.mpr ⟨rfl, hall⟩, ← List.append_nil (List.replicate _ _),
    seqOk_block _ _ _ _ _ (by intro x hx; cases hx), hn]
  rfl

/-- the occurrences written for one element slot: all named `(ns, name)` and valid for `t` -/
def RunOk (pf : PrimTy → List Facet) (tns ns name : Text) (t : Ty) (out : List Node) : Prop :=
  ∀ x ∈ out, nodeKey x = (ns, name) ∧ validS (denote pf tns ns t) t.occ.nillable x = true

/-- what the member loop produces for the members `fs` of a class in namespace `cns` -/
def MembersOk (pf : PrimTy → List Facet) (tns cns : Text) (fs : List (Text × Ty)) (kids : List Node) : Prop :=
  (∀ x ∈ kids, ∃ f ∈ fs, RunOk pf tns cns f.1 f.2 [x]) ∧
  seqOk (slotsS (denoteFields pf tns cns fs)) (kids.map nodeKey) = true

theorem RunOk_nil (pf : PrimTy → List Facet) (tns ns name : Text) (t : Ty) : RunOk pf tns ns name t [] := by
  intro x hx; cases hx

theorem RunOk_one {pf : PrimTy → List Facet} {tns ns name : Text} {t : Ty} {x : Node} (hk : nodeKey x = (ns, name))
    (hv : validS (denote pf tns ns t) t.occ.nillable x = true) : RunOk pf tns ns name t [x] := by
  intro y hy
  rw [List.mem_singleton.mp hy]
  exact ⟨hk, hv⟩

theorem RunOk_nilElem (pf : PrimTy → List Facet) (tns ns name : Text) (t : Ty) (hn : t.occ.nillable = true) :
    RunOk pf tns ns name t [nilElem ns name] :=
  RunOk_one rfl (by rw [hn]; exact validS_nilElem _ _ _)

theorem RunOk_append {pf : PrimTy → List Facet} {tns ns name : Text} {t : Ty} {a b : List Node}
    (ha : RunOk pf tns ns name t a) (hb : RunOk pf tns ns name t b) : RunOk pf tns ns name t (a ++ b) :=
  List.forall_mem_append.mpr ⟨ha, hb⟩

theorem RunOk_keys {pf : PrimTy → List Facet} {tns ns name : Text} {t : Ty} {out : List Node}
    (h : RunOk pf tns ns name t out) : ∀ x ∈ out.map nodeKey, x = (ns, name) := by
  intro x hx
  obtain ⟨y, hy, e⟩ := List.mem_map.mp hx
  rw [← e]; exact (h y hy).1

theorem MembersOk_nil (pf : PrimTy → List Facet) (tns cns : Text) : MembersOk pf tns cns [] [] := by
  exact ⟨fun x hx => (nomatch hx), rfl⟩

/-- a child is looked up among the denoted slots as its name is among the members -/
theorem findS_of_lookupField (pf : PrimTy → List Facet) (tns ns : Text) (fields : List (Text × Ty)) (k : Text) :
    findS (denoteFields pf tns ns fields) (ns, k) =
      (lookupField fields k).map (fun mt => (mt.occ, denote pf tns ns mt)) := by
  induction fields with
  | nil => rfl
  | cons f r ih =>
    obtain ⟨k', t⟩ := f
    by_cases hk : k = k'
    · subst hk
      simp [findS, denoteFields, lookupField, List.lookup]
    · have h1 : (k == k') = false := by simpa using hk
      have h2 : decide ((ns, k') = (ns, k)) = false := by
        simp only [decide_eq_false_iff_not]; intro e; injection e with _ e2; exact hk e2.symm
      simp only [findS, denoteFields, List.find?_cons, h2, lookupField, List.lookup, h1] at ih ⊢
      exact ih

theorem findS_denoteFields (pf : PrimTy → List Facet) (tns ns : Text) (fs : List (Text × Ty)) (hn : namesNodup fs = true)
    (f : Text × Ty) (hf : f ∈ fs) : findS (denoteFields pf tns ns fs) (ns, f.1) = some (f.2.occ, denote pf tns ns f.2) := by
  rw [findS_of_lookupField, lookupField, SpyneModel.lookup_of_mem_nodup ((namesNodup_iff fs).mp hn) hf]
  rfl

section
variable (F : Facts08) (pf : PrimTy → List Facet) (c : PrimTy → Val → Bool)
  (hleaf : ∀ p v, p.valueOk v = true → c p v = true →
    ∃ s, leafToText F p v = some s ∧ simpleOk (builtinOf p) (pf p) s = true)
  (cfg : Cfg) (I : Iface)

/-- what the encoder writes for `v`, at whatever type `v` is a conformant occurrence of: one element, valid for
    the denoted type -/
def ValOk (v : Val) : Prop :=
  ∀ t ns name, conformsOne t v = true → tyWf t = true → leavesOne c t v = true →
    (toParent F cfg I ns name t v).length = 1 ∧ RunOk pf I.tns ns name t (toParent F cfg I ns name t v)

theorem items_ok (vs : List Val) (h : ∀ v ∈ vs, ValOk F pf c cfg I v) (t : Ty) (ns name : Text)
    (hc : ∀ v ∈ vs, conformsOne t v = true) (hw : tyWf t = true) (hr : leavesItems c t vs = true) :
    (itemsToParent F cfg I ns name t vs).length = vs.length ∧
    RunOk pf I.tns ns name t (itemsToParent F cfg I ns name t vs) := by
  induction vs with
  | nil => exact ⟨rfl, RunOk_nil _ _ _ _ _⟩
  | cons v r ih =>
    simp only [leavesItems, Bool.and_eq_true] at hr
    have a := h v (by simp) t ns name (hc v (by simp)) hw hr.1
    have b := ih (fun x hx => h x (by simp [hx])) (fun x hx => hc x (by simp [hx])) hr.2
    simp only [itemsToParent, List.length_append, a.1, b.1, List.length_cons]
    exact ⟨by omega, RunOk_append a.2 b.2⟩

theorem arr_wrapper (member : Text) (elem : Ty) (o : Occ) (ns name : Text) (items : List Val)
    (h : ∀ v ∈ items, ValOk F pf c cfg I v) (hc : conformsArr elem items = true) (hw : tyWf (.arr member elem o) = true)
    (hr : leavesItems c elem items = true) :
    validS (denote pf I.tns ns (.arr member elem o)) o.nillable
      (.elem ns name [] none
        (itemsToParent F cfg I (memberNs I.tns ns member elem) (memberLocal member) elem items)) = true := by
  obtain ⟨hmin, hmax, hwe, hfree⟩ := tyWf_arr hw
  have a := items_ok F pf c cfg I items h elem (memberNs I.tns ns member elem) (memberLocal member)
    ((conformsArr_iff elem items).mp hc) hwe hr
  simp only [denote]
  apply validS_plain_complex
  · exact seqOk_one_slot _ _ _ (RunOk_keys a.2) (countOk_unbounded _ hmin hmax _)
  · refine validChildrenS_of_mem _ _ (fun x hx => ⟨elem.occ, denote pf I.tns ns elem, ?_, ?_⟩)
    · rw [(a.2 x hx).1]; simp [findS]
    · rw [denote_ctx pf I.tns ns (memberNs I.tns ns member elem) elem hfree]; exact (a.2 x hx).2

theorem other_value (cns k : Text) (t : Ty) (w : Val) (h1 : ValOk F pf c cfg I w)
    (hcond : conforms t w = true) (hw : tyWf t = true) (hr : leavesOne c t w = true)
    (hnl : ∀ items, w ≠ .list items) (hnn : w ≠ .none)
    (hout : memberNodes F cfg I cns k t w = if t.occ.repeated then [] else toParent F cfg I cns k t w) :
    RunOk pf I.tns cns k t (memberNodes F cfg I cns k t w) ∧ t.occ.countOk (memberNodes F cfg I cns k t w).length = true := by
  have hrep : t.occ.repeated = false := by
    cases hrp : t.occ.repeated with
    | false => rfl
    | true =>
      unfold conforms at hcond
      rw [if_pos hrp] at hcond
      cases w <;> simp_all
  unfold conforms at hcond
  rw [hrep] at hcond
  rw [hout, hrep]
  have a := h1 t cns k hcond hw hr
  exact ⟨a.2, by rw [if_neg Bool.false_ne_true, a.1]; exact ((occWf_iff _).mp (occWf_of_tyWf t hw)).countOk_single hrep⟩

def arrField (t : Ty) : Bool :=
  match t with
  | .arr _ _ o => !o.repeated
  | _ => true

theorem memberNodes_ok (cns k : Text) (t : Ty) (v : Val) (h1 : ValOk F pf c cfg I v)
    (h3 : ∀ items, v = .list items → ∀ w ∈ items, ValOk F pf c cfg I w)
    (hcond : conformsMember t v = true) (hw : tyWf t = true) (hr : leaves c t v = true) :
    RunOk pf I.tns cns k t (memberNodes F cfg I cns k t v) ∧ t.occ.countOk (memberNodes F cfg I cns k t v).length = true := by
  have hocc := (occWf_iff _).mp (occWf_of_tyWf t hw)
  cases v with
  | none =>
    simp only [conformsMember, Bool.or_eq_true, decide_eq_true_eq, Bool.and_eq_true, Bool.not_eq_true'] at hcond
    simp only [memberNodes]
    by_cases hm : t.occ.minOccurs > 0
    · rw [if_pos hm]
      have hc : t.occ.nillable = true ∧ t.occ.repeated = false := hcond.resolve_left (by omega)
      exact ⟨RunOk_nilElem _ _ _ _ _ hc.1, hocc.countOk_single hc.2⟩
    · rw [if_neg hm]
      exact ⟨RunOk_nil _ _ _ _ _, (Occ.countOk_zero _).mpr (by omega)⟩
  | list items =>
    simp only [conformsMember, conforms] at hcond
    simp only [leaves] at hr
    simp only [memberNodes]
    cases hrp : t.occ.repeated with
    | true =>
      rw [hrp] at hcond hr
      simp only [if_true, Bool.and_eq_true] at hcond hr ⊢
      have a := items_ok F pf c cfg I items (h3 items rfl) t cns k ((conformsItems_iff t items).mp hcond.2) hw hr
      exact ⟨a.2, by rw [a.1]; exact hcond.1⟩
    | false =>
      rw [hrp] at hcond hr
      simp only [Bool.false_eq_true, if_false] at hcond hr ⊢
      cases t with
      | arr m e o =>
        simp only [conformsOne] at hcond
        simp only [leavesOne] at hr
        exact ⟨RunOk_one rfl (arr_wrapper F pf c cfg I m e o cns k items (h3 items rfl) hcond hw hr), hocc.countOk_single hrp⟩
      | _ => simp [conformsOne, PrimTy.valueOk] at hcond
  | _ =>
    exact other_value F pf c cfg I cns k t _ h1 hcond hw (by simpa [leaves] using hr) (by intro i e; cases e)
      (by intro e; cases e) rfl

theorem members_ok (cns : Text) : ∀ (vs : List (Text × Val)) (fs : List (Text × Ty)),
    (∀ kv ∈ vs, ValOk F pf c cfg I kv.2 ∧ ∀ items, kv.2 = .list items → ∀ w ∈ items, ValOk F pf c cfg I w) →
    conformsFields fs vs = true → fieldsWf fs = true → namesNodup fs = true → leavesFields c fs vs = true →
    MembersOk pf I.tns cns fs (membersToParent F cfg I cns fs vs)
  | [], [], _, _, _, _, _ => MembersOk_nil _ _ _
  | [], _ :: _, _, hc, _, _, _ => by simp [conformsFields] at hc
  | _ :: _, [], _, hc, _, _, _ => by simp [conformsFields] at hc
  | (k', v) :: r, (k, t) :: fs', h, hc, hw, hn, hr => by
    simp only [conformsFields_cons_eq, Bool.and_eq_true, decide_eq_true_eq] at hc
    obtain ⟨⟨rfl, hcond⟩, hcr⟩ := hc
    simp only [fieldsWf, Bool.and_eq_true, decide_eq_true_eq] at hw
    obtain ⟨⟨⟨_, hwt⟩, harr⟩, hwr⟩ := hw
    simp only [namesNodup, Bool.and_eq_true, Bool.not_eq_true', List.any_eq_false, decide_eq_true_eq] at hn
    simp only [leavesFields, Bool.and_eq_true] at hr
    have a := memberNodes_ok F pf c cfg I cns k t v (h (k, v) (by simp)).1 (h (k, v) (by simp)).2 hcond hwt hr.1
    have b := members_ok cns r fs' (fun kv hkv => h kv (by simp [hkv])) hcr hwr hn.2 hr.2
    rw [membersToParent_cons]
    -- the members after `k` write elements of other names
    have hrest : ∀ x ∈ (membersToParent F cfg I cns fs' r).map nodeKey, x ≠ (cns, k) := by
      intro x hx e
      obtain ⟨y, hy, e'⟩ := List.mem_map.mp hx
      obtain ⟨g, hg, hy'⟩ := b.1 y hy
      exact hn.1 g hg (Prod.mk.inj ((hy' y (by simp)).1.symm.trans (e'.trans e))).2
    refine ⟨fun x hx => ?_, ?_⟩
    · rcases List.mem_append.mp hx with h | h
      · exact ⟨(k, t), by simp, RunOk_one (a.1 x h).1 (a.1 x h).2⟩
      · obtain ⟨g, hg, hx'⟩ := b.1 x h
        exact ⟨g, by simp [hg], hx'⟩
    · rw [List.map_append, List.eq_replicate_iff.mpr ⟨rfl, RunOk_keys a.1⟩]
      simp only [denoteFields, slotsS, List.map_cons]
      rw [seqOk_block _ _ _ _ _ hrest, List.length_map, a.2]
      exact b.2

include hleaf in
/-- a value is written well when its parts are: the member values of an object (and the items of its list-valued
    members), the items of an array -/
theorem valOk_of_parts (v : Val)
    (hF : ∀ cls vs, v = .obj cls vs → ∀ kv ∈ vs,
      ValOk F pf c cfg I kv.2 ∧ ∀ items, kv.2 = .list items → ∀ w ∈ items, ValOk F pf c cfg I w)
    (hL : ∀ items, v = .list items → ∀ w ∈ items, ValOk F pf c cfg I w) : ValOk F pf c cfg I v := by
  intro t ns name hc hw hr
  cases v with
  | none =>
    exact ⟨rfl, RunOk_nilElem _ _ _ _ _ ((conformsOne_none t).symm.trans hc)⟩
  | obj cls vs =>
    cases t with
    | obj cname cns b fields o =>
      simp only [conformsOne, Bool.and_eq_true, decide_eq_true_eq] at hc
      obtain ⟨rfl, hcf⟩ := hc
      simp only [tyWf, Bool.and_eq_true] at hw
      simp only [leavesOne] at hr
      have m := members_ok F pf c cfg I cns vs fields (hF cls vs rfl) hcf hw.2 hw.1.2 hr
      simp only [toParent, polyTarget_self]
      refine ⟨rfl, RunOk_one rfl (validS_plain_complex _ _ _ _ _ m.2 (validChildrenS_of_mem _ _ (fun x hx => ?_)))⟩
      obtain ⟨f, hf, hx'⟩ := m.1 x hx
      exact ⟨_, _, by rw [(hx' x (by simp)).1]; exact findS_denoteFields pf I.tns cns fields hw.1.2 f hf, (hx' x (by simp)).2⟩
    | _ => simp [conformsOne, PrimTy.valueOk] at hc
  | list items =>
    cases t with
    | arr m e o =>
      simp only [conformsOne] at hc
      simp only [leavesOne] at hr
      exact ⟨rfl, RunOk_one rfl (arr_wrapper F pf c cfg I m e o ns name items (hL items rfl) hc hw hr)⟩
    | _ => simp [conformsOne, PrimTy.valueOk] at hc
  | _ =>
    cases t with
    | prim p o =>
      simp only [conformsOne] at hc
      simp only [leavesOne] at hr
      obtain ⟨s, hs', hok⟩ := hleaf p _ hc hr
      simp only [toParent, hs']
      exact ⟨rfl, RunOk_one rfl (validS_plain_simple _ _ _ _ _ _ hok)⟩
    | _ => simp [conformsOne] at hc

include hleaf in
theorem valOk (v : Val) : ValOk F pf c cfg I v :=
  (Val.induct (P := fun v => ValOk F pf c cfg I v ∧ ∀ items, v = .list items → ∀ w ∈ items, ValOk F pf c cfg I w)
    (fun v hl => ⟨valOk_of_parts F pf c hleaf cfg I v (fun _ _ e => by subst e; cases hl) (fun _ e => by subst e; cases hl),
      fun _ e => by subst e; cases hl⟩)
    (fun vs ih => ⟨valOk_of_parts F pf c hleaf cfg I _ (fun _ _ e => by cases e) (fun _ e w hw => by cases e; exact (ih w hw).1),
      fun _ e w hw => by cases e; exact (ih w hw).1⟩)
    (fun cls ws ih => ⟨valOk_of_parts F pf c hleaf cfg I _ (fun _ _ e kv hkv => by cases e; exact ih kv hkv) (fun _ e => by cases e),
      fun _ e => by cases e⟩) v).1

include hleaf in
/-- the encoder side of C06 (`emitted_valid`): the element written for a conformant value of `t` is valid for the schema type `t` denotes -/
theorem emitted_validS (t : Ty) (v : Val) (ns name : Text)
    (hc : conformsOne t v = true) (hw : tyWf t = true) (hr : leavesOne c t v = true) :
    ∃ x, encode F cfg I ns name t v = [x] ∧ nodeKey x = (ns, name) ∧
      validS (denote pf I.tns ns t) t.occ.nillable x = true := by
  have h := valOk F pf c hleaf cfg I v t ns name hc hw hr
  unfold encode
  cases hl : toParent F cfg I ns name t v with
  | nil => rw [hl] at h; simp at h
  | cons x r =>
    rw [hl] at h
    cases r with
    | nil => exact ⟨x, rfl, h.2 x (by simp)⟩
    | cons y r' => simp at h

end
end Schema
end SpyneModel
