/-
  xs:duration: the Recommendation's grammar (`XsdLex.durationLit`) is the implementation's pattern (`parseDurLit`) without
  the literals that end in the `P` or in a `T` (`durationLit_eq`); so its literals are read into the same components.
-/
import SpyneModel.Prim2
import Proofs.Prim
namespace SpyneModel

/-- reading an optional component moves the question "which character is the last one" to the rest: the component's
    designator if it was there, what it was before if not -/
theorem optComp_last (X c : Char) (s : Text) :
    s.getLast?.getD c = (optComp X s).2.getLast?.getD (if (optComp X s).1.isSome then X else c) := by
  obtain ⟨hs, -, -⟩ := spanDigits_spec s
  unfold optComp
  generalize spanDigits s = p at hs
  obtain ⟨ds, r⟩ := p
  cases r with
  | nil => rfl
  | cons x r' =>
    simp only at hs ⊢
    split
    · rename_i h
      simp only [Bool.and_eq_true, decide_eq_true_eq] at h
      rw [hs, h.2]
      simp [List.getLast?_append, List.getLast?_cons]
    · rfl

theorem optSeconds_last (c : Char) (s : Text) :
    s.getLast?.getD c = (optSeconds s).2.getLast?.getD (if (optSeconds s).1.isSome then 'S' else c) := by
  obtain ⟨hs, -, -⟩ := spanDigits_spec s
  unfold optSeconds
  generalize spanDigits s = p at hs
  obtain ⟨ds, r⟩ := p
  simp only at hs
  split
  · rename_i h
    cases h
    split
    · rfl
    · rw [hs]; simp [List.getLast?_append, List.getLast?_cons]
  · rename_i r1 h
    cases h
    split
    · rfl
    · obtain ⟨h1, -, -⟩ := spanDigits_spec r1
      generalize spanDigits r1 = q at h1
      obtain ⟨fs, r'⟩ := q
      simp only at h1
      split
      · rename_i h
        cases h
        split
        · rfl
        · rw [hs, h1]; simp [List.getLast?_append, List.getLast?_cons]
      · rfl
  · rfl

/-- after the `T`: the Recommendation's grammar is the implementation's pattern without the bare `T` -/
theorem durTimePart_eq (r4 : Text) :
    XsdLex.durTimePart r4 =
      if r4.getLast?.getD 'T' = 'P' ∨ r4.getLast?.getD 'T' = 'T' then none else parseDurTimePart r4 := by
  unfold XsdLex.durTimePart parseDurTimePart
  have e1 := optComp_last 'H' 'T' r4
  generalize optComp 'H' r4 = a at e1 ⊢
  obtain ⟨h, r5⟩ := a
  simp only at e1 ⊢
  have e2 := optComp_last 'M' (if h.isSome then 'H' else 'T') r5
  generalize optComp 'M' r5 = b at e2 ⊢
  obtain ⟨mi, r6⟩ := b
  simp only at e2 ⊢
  have e3 := optSeconds_last (if mi.isSome then 'M' else if h.isSome then 'H' else 'T') r6
  generalize optSeconds r6 = c at e3 ⊢
  obtain ⟨sec, r7⟩ := c
  simp only at e3 ⊢
  rw [e1, e2, e3]
  cases r7 with
  | cons x t => simp
  | nil => cases h <;> cases mi <;> cases sec <;> simp

theorem durationLit_body (neg : Bool) (s r0 : Text) (hsm : splitMinus s = (neg, 'P' :: r0))
    (hp : parseDurLit s = parseDurBody neg r0) (hl : s.getLast? = some (r0.getLast?.getD 'P')) :
    XsdLex.durationLit s = if s.getLast? = some 'P' ∨ s.getLast? = some 'T' then none else parseDurLit s := by
  unfold XsdLex.durationLit
  rw [hsm, hp, hl]
  simp only [if_true, Option.some.injEq]
  unfold parseDurBody
  have e1 := optComp_last 'Y' 'P' r0
  generalize optComp 'Y' r0 = a at e1 ⊢
  obtain ⟨y, r1⟩ := a
  simp only at e1 ⊢
  have e2 := optComp_last 'M' (if y.isSome then 'Y' else 'P') r1
  generalize optComp 'M' r1 = b at e2 ⊢
  obtain ⟨mo, r2⟩ := b
  simp only at e2 ⊢
  have e3 := optComp_last 'D' (if mo.isSome then 'M' else if y.isSome then 'Y' else 'P') r2
  generalize optComp 'D' r2 = c at e3 ⊢
  obtain ⟨d, r3⟩ := c
  simp only at e3 ⊢
  rw [e1, e2, e3]
  cases r3 with
  | nil => cases y <;> cases mo <;> cases d <;> simp
  | cons t r4 =>
    by_cases ht : t = 'T'
    · subst ht
      simp only [if_true, durTimePart_eq, List.getLast?_cons, Option.getD_some]
      by_cases hc : r4.getLast?.getD 'T' = 'P' ∨ r4.getLast?.getD 'T' = 'T'
      · rw [if_pos hc, if_pos hc]
      · rw [if_neg hc, if_neg hc]; rfl
    · simp [ht]

/-- the Recommendation's grammar of xs:duration is the implementation's pattern without the literals that end in the
    `P` or in a `T`: at least one component, and at least one after a `T` -/
theorem durationLit_eq (s : Text) :
    XsdLex.durationLit s = if s.getLast? = some 'P' ∨ s.getLast? = some 'T' then none else parseDurLit s := by
  cases s with
  | nil => rfl
  | cons c t =>
    by_cases hc : c = '-'
    · subst hc
      cases t with
      | nil => rfl
      | cons p r0 =>
        by_cases hp : p = 'P'
        · subst hp
          exact durationLit_body true _ r0 (by simp [splitMinus]) rfl (by simp [List.getLast?_cons])
        · simp [XsdLex.durationLit, splitMinus, parseDurLit, hp]
    · by_cases hp : c = 'P'
      · subst hp
        exact durationLit_body false _ t (by simp [splitMinus]) rfl (by simp [List.getLast?_cons])
      · simp [XsdLex.durationLit, splitMinus, parseDurLit, hc, hp]

/-- an xs:duration literal is read by the implementation's pattern into the same components -/
theorem parseDurLit_of_xsd (s : Text) (l : DurLit) (h : XsdLex.durationLit s = some l) : parseDurLit s = some l := by
  rw [durationLit_eq] at h
  split at h
  · cases h
  · exact h

theorem durFromText_xsd (F : Facts08) (hP : F.durParse = .exactDecimal) (s : Text) (l : DurLit)
    (h : XsdLex.durationLit s = some l) (hmax : l.micros ≤ maxDurUs)
    (hmin : l.neg = true → l.micros ≤ 999999999 * usPerDay) :
    durFromText F s = .ok (if l.neg then -(l.micros : Int) else (l.micros : Int)) := by
  unfold durFromText
  rw [hP]
  simp only [parseDurLit_of_xsd s l h]
  have h1 : ¬ (l.micros > maxDurUs) := by omega
  simp only [h1, if_false]
  cases hn : l.neg with
  | true =>
    have := hmin hn
    have h2 : ¬ (l.micros > 999999999 * usPerDay) := by omega
    simp [h2]
  | false => simp

theorem micros_dayTime (l : DurLit) (hy : l.years = 0) (hm : l.months = 0) (hf : l.secFrac.length ≤ 6) :
    l.micros = XsdLex.dayTimeMicros l := by
  rw [DurLit.micros_of_short l hf, hy, hm]
  simp only [Nat.mul_zero, Nat.add_zero]
  rfl

end SpyneModel
