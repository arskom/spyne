/-
  C14: the table.  What it gives: the protocols' own events, with which `fill` completes a skeleton, are seen by no view
  of the specification (`filterMap_fill`), so every run is judged by the row of its skeleton (`run_row`).

  How it is proved, by symmetry: a row of the table reads the measured facts only through what nine functions
  fire, and `truth` asks of the listener outcomes `co`, `ro` only whether a listener raises.  When these functions fire
  the same events for a `Fault` as for any other exception, and `finalize_context` the same whether or not the output
  protocol left `ctx.out_string` empty (`Facts14.Uniform`), two rows that differ only in the kind of an exception or in
  one of the two flags are the same row: of the 1728 rows, the 96 in `plainRows` (transport × stage × does a
  `method_call` listener raise × does a `method_return_object` listener raise) are all that has to be evaluated.
-/
import Proofs.EventsViews
namespace SpyneModel.Events

theorem mem_allInj (i : Inj) : i ∈ allInj := by
  obtain ⟨s, k, b⟩ := i
  simp only [allInj, List.mem_flatMap, List.mem_map]
  exact ⟨s, by cases s <;> decide, k, by cases k <;> decide, b, by cases b <;> decide, rfl⟩

theorem mem_allOptKind (o : Option ExcKind) : o ∈ allOptKind := by
  rcases o with _ | k
  · decide
  · cases k <;> decide

theorem mem_allRows (x : Row) : x ∈ allRows := by
  obtain ⟨a, b, t, st, k, co, ro⟩ := x
  simp only [allRows, List.mem_flatMap, List.mem_map]
  exact ⟨a, by cases a <;> decide, b, by cases b <;> decide, t, by cases t <;> decide,
    st, by cases st <;> decide, k, by cases k <;> decide,
    co, mem_allOptKind co, ro, mem_allOptKind ro, rfl⟩

theorem row_of_table (F : Facts14) (h : allRows.all (rowOk F) = true) (x : Row) : rowOk F x = true :=
  List.all_eq_true.1 h x (mem_allRows x)

/-- a slot is filled with firings of the protocols' own managers only: a projection of the steps that ignores these
    sees of a filled skeleton the skeleton without its slots -/
theorem filterMap_fill {β : Type} (f : Step → Option β) (hin : ∀ ev, f (.fire .inProt ev) = none)
    (hout : ∀ ev, f (.fire .outProt ev) = none) (F : Facts14) (c : Cfg) (inner : Bool) (l : List SStep) :
    (l.flatMap (fill F c inner)).filterMap f = (unslot l).filterMap f := by
  induction l with
  | nil => rfl
  | cons x l ih =>
    rw [List.flatMap_cons, List.filterMap_append, ih]
    cases x with
    | step s => exact List.filterMap_append.symm
    | slot sl =>
      cases sl with
      | deserBefore | deserAfter | serErr => simp [fill, fires, unslot, hin, hout]
      | deserPartial | serPartial | serOk => simp only [fill, unslot]; split <;> simp [fires, hin, hout]

theorem views_fill (F : Facts14) (c : Cfg) (inner : Bool) (l : List SStep) :
    methodView (l.flatMap (fill F c inner)) = methodView (unslot l) ∧
    descEvents (l.flatMap (fill F c inner)) = descEvents (unslot l) ∧
    transportView (l.flatMap (fill F c inner)) = transportView (unslot l) := by
  simp only [methodView_eq, descEvents_eq .svc (.inl rfl), transportView_eq]
  exact ⟨filterMap_fill _ (fun _ => rfl) (fun _ => rfl) F c inner l,
    filterMap_fill _ (fun _ => rfl) (fun _ => rfl) F c inner l,
    filterMap_fill _ (fun _ => rfl) (fun _ => rfl) F c inner l⟩

theorem truth_inner (s : Stage) (k : ExcKind) (b : Bool) (co ro : Option ExcKind) :
    truth ⟨s, k, b⟩ co ro = truth ⟨s, k, false⟩ co ro := rfl

theorem run_row (F : Facts14) (htable : allRows.all (rowOk F) = true)
    (hsig : ∀ sg pc, F.proc sg pc = F.proc .single pc) (c : Cfg) (inj : Inj)
    (co ro : Option ExcKind) :
    let r := run F c inj co ro
    let tr := truth inj co ro
    r.escaped = (tr.serFail && c.transport == .serverBase) ∧ descScopeOk r.steps = true ∧
    (r.escaped = false →
      final (methodView r.steps) = .done tr.userRan tr.returned tr.faulted ∧
      transportOk c.transport r.steps tr.faulted = true) := by
  have h := row_of_table F htable
    ⟨!c.presetDoc && F.leavesNone c.outp (effShape c inj), F.leavesNoneFault c.outp, c.transport, inj.stage, inj.kind, co, ro⟩
  obtain ⟨v1, v2, v3⟩ := views_fill F c inj.inner (skelOf F c inj co ro).steps
  have hP : F.proc c.sig = F.proc .single := funext (hsig c.sig)
  obtain ⟨st, k, b⟩ := inj
  simp only [rowOk, Bool.and_eq_true, Bool.or_eq_true, beq_iff_eq] at h
  obtain ⟨⟨h1, h2⟩, h3⟩ := h
  simp only [run, skelOf, truth_inner st k b, hP] at v1 v2 v3 ⊢
  refine ⟨h1, ?_, ?_⟩
  · simpa [descScopeOk, v2] using h2
  · intro hne
    rcases h3 with h3 | h3
    · rw [hne] at h3; cases h3
    · refine ⟨by rw [v1]; exact h3.1, ?_⟩
      have := h3.2
      simpa [transportOk, v3] using this

/-- What is assumed of the measured facts: no measured function distinguishes a `Fault` from another exception, and
    `finalize_context` does not look at whether `ctx.out_string` is None.  (`proc` is read for one signature only:
    `run_row` takes the agreement of the signatures as a hypothesis of its own.) -/
structure Facts14.Uniform (F : Facts14) : Prop where
  -- ServerBase.generate_contexts, WsgiApplication.handle_rpc refusing the input, ServerBase.get_in_object
  genCtx : F.genCtx .exc = F.genCtx .fault
  wsgiRefuse : F.wsgiRefuse .exc = F.wsgiRefuse .fault
  getIn : F.getIn .exc = F.getIn .fault
  -- WsgiApplication.handle_rpc running a generator up to its first item
  wsgiGenFail : F.wsgiGenFail .exc = F.wsgiGenFail .fault
  -- Application.process_request: a method_call listener, call_wrapper, the function, a method_return_object listener
  callRaise : F.proc .single (.callRaise .exc) = F.proc .single (.callRaise .fault)
  dispatchRaise : F.proc .single (.dispatchRaise .exc) = F.proc .single (.dispatchRaise .fault)
  userRaise : F.proc .single (.userRaise .exc) = F.proc .single (.userRaise .fault)
  retRaise : F.proc .single (.retRaise .exc) = F.proc .single (.retRaise .fault)
  -- ServerBase.finalize_context, without and with a fault
  finReturn : F.fin false true = F.fin false false
  finFault : F.fin true true = F.fin true false

/-- the kind of the exception forgotten -/
def ProcCase.anyKind : ProcCase → ProcCase
  | .callRaise _ => .callRaise .fault
  | .dispatchRaise _ => .dispatchRaise .fault
  | .userRaise _ => .userRaise .fault
  | .retRaise _ => .retRaise .fault
  | pc => pc

/-- a listener outcome with the kind forgotten -/
def asFault (o : Option ExcKind) : Option ExcKind := o.map fun _ => .fault

/-- the rows without flags and kinds -/
def plainRows : List Row :=
  allTransport.flatMap fun t => allStage.flatMap fun st => [none, some .fault].flatMap fun co =>
    [none, some .fault].map fun ro => ⟨false, false, t, st, .fault, co, ro⟩

theorem mem_plainRows (t : Transport) (st : Stage) (co ro : Option ExcKind) :
    (⟨false, false, t, st, .fault, asFault co, asFault ro⟩ : Row) ∈ plainRows := by
  have hk : ∀ o : Option ExcKind, asFault o ∈ [none, some ExcKind.fault] := by
    intro o
    cases o with
    | none => exact .head _
    | some _ => exact .tail _ (.head _)
  simp only [plainRows, List.mem_flatMap, List.mem_map]
  exact ⟨t, by cases t <;> decide, st, by cases st <;> decide, _, hk co, _, hk ro, rfl⟩

theorem anyKind_faulted (pc : ProcCase) : pc.anyKind.faulted = pc.faulted := by
  cases pc <;> rfl

theorem procCase_anyKind (st : Stage) (k : ExcKind) (co ro : Option ExcKind) :
    (procCase ⟨st, k, false⟩ co ro).anyKind = procCase ⟨st, .fault, false⟩ (asFault co) (asFault ro) := by
  cases st <;> cases co <;> cases ro <;> rfl

theorem truth_anyKind (st : Stage) (k : ExcKind) (co ro : Option ExcKind) :
    truth ⟨st, k, false⟩ co ro = truth ⟨st, .fault, false⟩ (asFault co) (asFault ro) := by
  cases co <;> cases ro <;> rfl

theorem of_exc {α : Type} {f : ExcKind → α} (h : f .exc = f .fault) (k : ExcKind) : f k = f .fault := by
  cases k
  · rfl
  · exact h

theorem skeleton_uniform (F : Facts14) (hF : F.Uniform) (P : ProcCase → Meas) (hP : ∀ pc, P pc = P pc.anyKind)
    (a b : Bool) (t : Transport) (st : Stage) (k : ExcKind) (co ro : Option ExcKind) :
    skeleton F P a b t st k co ro = skeleton F P false false t st .fault (asFault co) (asFault ro) := by
  -- `process_request` enters the skeleton through `P (procCase …)` and `(procCase …).faulted` only
  have e := procCase_anyKind st k co ro
  have eP : P (procCase ⟨st, k, false⟩ co ro) = P (procCase ⟨st, .fault, false⟩ (asFault co) (asFault ro)) := by
    rw [hP, e]
  have ef : (procCase ⟨st, k, false⟩ co ro).faulted = (procCase ⟨st, .fault, false⟩ (asFault co) (asFault ro)).faulted := by
    rw [← anyKind_faulted, e]
  have ha : F.fin false a = F.fin false false := by cases a; rfl; exact hF.finReturn
  have hb : F.fin true b = F.fin true false := by cases b; rfl; exact hF.finFault
  simp only [skeleton, errTail, of_exc hF.genCtx k, of_exc hF.wsgiRefuse k, of_exc hF.getIn k, of_exc hF.wsgiGenFail k,
    ha, hb, eP, ef]

theorem proc_anyKind (F : Facts14) (hF : F.Uniform) (pc : ProcCase) : F.proc .single pc = F.proc .single pc.anyKind := by
  cases pc with
  | callRaise k => exact of_exc (f := fun k => F.proc .single (.callRaise k)) hF.callRaise k
  | dispatchRaise k => exact of_exc (f := fun k => F.proc .single (.dispatchRaise k)) hF.dispatchRaise k
  | userRaise k => exact of_exc (f := fun k => F.proc .single (.userRaise k)) hF.userRaise k
  | retRaise k => exact of_exc (f := fun k => F.proc .single (.retRaise k)) hF.retRaise k
  | _ => rfl

theorem rowOk_uniform (F : Facts14) (hF : F.Uniform) (a b : Bool) (t : Transport) (st : Stage) (k : ExcKind)
    (co ro : Option ExcKind) :
    rowOk F ⟨a, b, t, st, k, co, ro⟩ = rowOk F ⟨false, false, t, st, .fault, asFault co, asFault ro⟩ := by
  simp only [rowOk, skeleton_uniform F hF _ (proc_anyKind F hF) a b t st k co ro, truth_anyKind st k co ro]

theorem table_of_uniform (F : Facts14) (hF : F.Uniform) (h : plainRows.all (rowOk F) = true) :
    allRows.all (rowOk F) = true := by
  refine List.all_eq_true.2 fun x _ => ?_
  obtain ⟨a, b, t, st, k, co, ro⟩ := x
  rw [rowOk_uniform F hF]
  exact List.all_eq_true.1 h _ (mem_plainRows t st co ro)

end SpyneModel.Events
