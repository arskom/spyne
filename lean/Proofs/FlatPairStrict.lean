/-
  `strict_arrays = True` with increments. Index-sorted keys of an array arrive element by element
  (`elems_sorted_cons`); when the array is numbered 0, 1, 2, … the first key of an element addresses the next position
  (the element is made and counted in, `strictSlot_next`), the others address the last element (`strictSlot_at`).
  No idxmap is involved.
-/
import Proofs.FlatPair
import Proofs.FlatStrict
namespace SpyneModel.Flat
open SpyneModel

theorem KSorted.heads {k : Text} {es : List KEntry} (h : KSorted es)
    (hf : ∀ e, e ∈ es → ∃ (i : Nat) (y : KEntry), e = y.push k (some i)) :
    (es.map headIdx).Pairwise (· ≤ ·) := by
  rw [List.pairwise_map]
  refine List.Pairwise.imp_of_mem ?_ h
  intro a b ha hb hab
  obtain ⟨i, y, rfl⟩ := hf a ha
  obtain ⟨j, z, rfl⟩ := hf b hb
  simp only [KEntry.push] at hab
  rw [KLe] at hab
  exact (hab rfl).1

/-- a list sorted by `f` whose values start at `c`: the elements with value `c` come first -/
theorem sorted_split {α : Type} (f : α → Nat) (c : Nat) :
    ∀ l : List α, (l.map f).Pairwise (· ≤ ·) → (∀ a, a ∈ l → c ≤ f a) →
      l = l.filter (fun a => f a = c) ++ l.filter (fun a => f a ≠ c) := by
  intro l
  induction l with
  | nil => intro _ _; rfl
  | cons a l ih =>
    intro hs hb
    rw [List.map_cons, List.pairwise_cons] at hs
    by_cases h : f a = c
    · simp only [List.filter_cons, h, decide_true, if_true, ne_eq, not_true_eq_false, decide_false,
        Bool.false_eq_true, if_false, List.cons_append]
      rw [← ih hs.2 (fun b hb' => hb b (List.mem_cons_of_mem _ hb'))]
    · have hall : ∀ b, b ∈ a :: l → f b ≠ c := by
        intro b hb'
        rcases List.mem_cons.mp hb' with rfl | hb'
        · exact h
        · have h1 := hs.1 (f b) (List.mem_map_of_mem (f := f) hb')
          have h2 := hb a List.mem_cons_self
          omega
      rw [List.filter_eq_nil_iff.mpr (fun b hb' => by simpa using hall b hb'),
        List.filter_eq_self.mpr (fun b hb' => by simpa using hall b hb')]
      rfl

/-- index-sorted keys of an array whose indexes increase: the keys of the first element come first, index-sorted among
    themselves, then those of the other elements, index-sorted -/
theorem elems_sorted_cons (sub : List Fld) (k : Text) (i : Nat) (ms : Members) (rest : List (Nat × Members))
    (hinc : (i :: rest.map Prod.fst).Pairwise (· < ·))
    {es : List KEntry} (hp : es.Perm (kentriesElems sub k ((i, ms) :: rest))) (hs : KSorted es) :
    ∃ ys es', ys.Perm (kentries sub ms) ∧ KSorted ys ∧ es'.Perm (kentriesElems sub k rest) ∧ KSorted es' ∧
      es = ys.map (KEntry.push k (some i)) ++ es' := by
  have hlt := (List.pairwise_cons.mp hinc).1
  have hform : ∀ e, e ∈ es → ∃ (j : Nat) (y : KEntry), e = y.push k (some j) := by
    intro e he
    obtain ⟨j, _, y, _, _, rfl⟩ := kentriesElems_form sub k _ e (hp.subset he)
    exact ⟨j, y, rfl⟩
  have hge : ∀ e, e ∈ es → i ≤ headIdx e := by
    intro e he
    obtain ⟨j, ms', y, hel, _, rfl⟩ := kentriesElems_form sub k _ e (hp.subset he)
    rcases List.mem_cons.mp hel with h | h
    · cases h; exact Nat.le_refl _
    · exact Nat.le_of_lt (hlt j (List.mem_map_of_mem (f := Prod.fst) h))
  obtain ⟨ys, hys, hB⟩ : ∃ ys : List KEntry, ys.Perm (kentries sub ms) ∧
      es.filter (fun e => headIdx e = i) = ys.map (KEntry.push k (some i)) := by
    have hnd : (((i, ms) :: rest).map Prod.fst).Nodup := hinc.imp Nat.ne_of_lt
    rcases elems_group sub k _ hnd hp i with ⟨hj, _⟩ | ⟨ms', ys, hel, hys, hyseq⟩
    · exact absurd (by simp) hj
    · rw [unique_of_nodup _ hnd hel List.mem_cons_self] at hys
      exact ⟨ys, hys, hyseq⟩
  refine ⟨ys, es.filter (fun e => headIdx e ≠ i), hys, ?_, ?_, hs.filter _, ?_⟩
  · have : KSorted (ys.map (KEntry.push k (some i))) := by rw [← hB]; exact hs.filter _
    exact this.of_push
  · have := hp.filter (fun e => headIdx e ≠ i)
    have h1 : ((kentries sub ms).map (KEntry.push k (some i))).filter (fun e => headIdx e ≠ i) = [] :=
      List.filter_eq_nil_iff.mpr fun e he => by
        obtain ⟨y, _, rfl⟩ := List.mem_map.mp he
        simp [headIdx, KEntry.push]
    have h2 : (kentriesElems sub k rest).filter (fun e => headIdx e ≠ i) = kentriesElems sub k rest :=
      List.filter_eq_self.mpr fun e he => by
        obtain ⟨j, ms', y, hel, _, rfl⟩ := kentriesElems_form sub k rest e he
        exact decide_eq_true (Nat.ne_of_gt (hlt j (List.mem_map_of_mem (f := Prod.fst) hel)))
    simpa only [kentriesElems, List.filter_append, h1, h2, List.nil_append] using this
  · rw [← hB]
    exact sorted_split headIdx i es (hs.heads hform) hge

/-- `strict_arrays`: the index after the last position appends an element (also to the empty list, whose first
    element Python makes before looking at the index) and counts it in -/
theorem strictSlot_next (sub : List Fld) (ev : Ev) (touch : Nat → List Ev) (items : List Node) :
    strictSlot sub ev touch items items.length = .ok (items ++ [fresh sub], ev :: touch items.length) := by
  unfold strictSlot
  cases items with
  | nil => rfl
  | cons a r => simp

/-- `strict_arrays`: an existing position is taken as it is -/
theorem strictSlot_at (sub : List Fld) (ev : Ev) (touch : Nat → List Ev) {items : List Node} {i : Nat}
    (h : i < items.length) : strictSlot sub ev touch items i = .ok (items, []) := by
  unfold strictSlot
  cases items with
  | nil => simp at h
  | cons a r =>
    have h1 : ¬ i > (a :: r).length := by omega
    have h2 : ¬ i = (a :: r).length := by omega
    simp only [List.isEmpty_cons, Bool.false_eq_true, if_false, h1, h2]

/-! From here on `k` is a member of `fields` holding a list of objects of the class with members `sub`, and the labels of
the frequency table are member names. -/
section
variable (G : Facts03) (hG : G.freqScope = .perMember) {fields : List Fld} {k : Text} {occ : Occ} {cid : Nat}
  {sub : List Fld} (hl : lookupFld fields k = some (k, occ, .obj cid sub)) (hm : occ.many = true)
include hG hl hm

/-- strict arrays, the key addresses the next position: the element is made, counted in, and gets its entry -/
theorem stepMember_arr_next (items : List Node) (q : Text) (rest : List Text) (idxs : List Nat) (pl : Payload) :
    stepMember G true fields (.arr [] items) k (q :: rest) (items.length :: idxs) pl =
      obind (stepMember G true sub (getAttr (freshAttrs sub) q) q rest idxs pl) fun r =>
        .ok (.arr [] (items ++ [.obj (setAttr (freshAttrs sub) q r.1)]),
             (⟨[], specOf fields, k, 1⟩ : Ev) ::
               ((if G.freqTouch then [(⟨[], specOf sub, [], 0⟩ : Ev)] else []) ++ r.2).map (Ev.under [(k, items.length)])) := by
  simp only [stepMember, hl, hm, if_true, hG, popIdx, strictSlot_next, obind_ok, fresh, List.getElem?_concat_length,
    setAt_append_last, List.map_append, ← entry_under, List.cons_append]

/-- strict arrays, the key addresses the last element: nothing is counted in -/
theorem stepMember_arr_last (pre : List Node) (child : Attrs) (q : Text) (rest : List Text) (idxs : List Nat) (pl : Payload) :
    stepMember G true fields (.arr [] (pre ++ [.obj child])) k (q :: rest) (pre.length :: idxs) pl =
      obind (stepMember G true sub (getAttr child q) q rest idxs pl) fun r =>
        .ok (.arr [] (pre ++ [.obj (setAttr child q r.1)]), r.2.map (Ev.under [(k, pre.length)])) := by
  have hlt : pre.length < (pre ++ [Node.obj child]).length := by simp
  simp only [stepMember, hl, hm, if_true, hG, popIdx, strictSlot_at sub _ _ hlt, obind_ok, List.getElem?_concat_length,
    setAt_append_last, List.nil_append]

/-- strict arrays: the keys of the next element, taken together; the first one makes the element and counts it in -/
theorem foldO_updP_elem_next (items : List Node) (evk : List Ev) (ys : List KEntry) (hys : ∀ y, y ∈ ys → y.segs ≠ [])
    (hne : ys ≠ []) :
    foldO (updP G true fields k) (.arr [] items, evk) (ys.map (KEntry.push k (some items.length))) =
      omap (fun r => (Node.arr [] (items ++ [.obj r.1]),
          evk ++ (⟨[], specOf fields, k, 1⟩ : Ev) ::
            ((if G.freqTouch then [(⟨[], specOf sub, [], 0⟩ : Ev)] else []) ++ r.2).map (Ev.under [(k, items.length)])))
        (foldO (walkP G true sub) (freshAttrs sub, []) ys) := by
  have := foldO_updP_new G true (sub := sub) (child := freshAttrs sub) (some items.length) (k, items.length)
    (fun c => .arr [] (items ++ [.obj c]))
    ((⟨[], specOf fields, k, 1⟩ : Ev) ::
      (if G.freqTouch then [(⟨[], specOf sub, [], 0⟩ : Ev)] else []).map (Ev.under [(k, items.length)]))
    (fun q rest idxs pl => by
      rw [Option.toList_some, List.singleton_append, stepMember_arr_next G hG hl hm]
      simp only [List.cons_append, List.map_append])
    (fun child q rest idxs pl => by
      rw [Option.toList_some, List.singleton_append]
      exact stepMember_arr_last G hG hl hm items child q rest idxs pl)
    ys hys hne evk
  simpa only [List.cons_append, ← List.map_append] using this

/-- strict arrays: index-sorted keys of the elements numbered from the current length on build these elements
    one after the other, each counted in once; when the elements respect their occurrence constraints the increments
    below every element still pass the deep check -/
theorem arr_blocks_counted :
    ∀ (elems : List (Nat × Members)) (items : List Node) (evk : List Ev) (es : List KEntry),
      elems.map Prod.fst = List.range' items.length elems.length →
      (∀ i ms, (i, ms) ∈ elems → kentries sub ms ≠ []) →
      (∀ i ms, (i, ms) ∈ elems → ∀ ys : List KEntry, ys.Perm (kentries sub ms) → KSorted ys →
        ∃ st', foldO (walkP G true sub) (freshAttrs sub, []) ys = .ok st' ∧
          eraseAttrs st'.1 = expInto sub ms (freshAttrs sub) ∧ (FreqConf sub ms → freqOk sub st'.2 = true)) →
      es.Perm (kentriesElems sub k elems) → KSorted es →
      (∀ j, items.length ≤ j → evsUnder (k, j) evk = []) →
      ∃ v built, foldO (updP G true fields k) (.arr [] items, evk) es = .ok v ∧ v.1 = .arr [] (items ++ built) ∧
        eraseItems built = expElems sub elems ∧ evCount v.2 [] k = evCount evk [] k + elems.length ∧
        (FreqConfElems sub elems → (∀ j, freqDeep (evsUnder (k, j) evk) = true) →
          ∀ j, freqDeep (evsUnder (k, j) v.2) = true) := by
  intro elems
  induction elems with
  | nil =>
    intro items evk es _ _ _ hp _ _
    rw [hp.eq_nil]
    exact ⟨_, [], rfl, by simp, rfl, rfl, fun _ h => h⟩
  | cons el rest ih =>
    obtain ⟨i, ms⟩ := el
    intro items evk es hkeys hnonempty hchild hp hs hevk
    obtain ⟨ys, es', hys, hBs, hR, hRs, rfl⟩ := elems_sorted_cons sub k i ms rest
      (by
        show (((i, ms) :: rest).map Prod.fst).Pairwise (· < ·)
        rw [hkeys]
        exact List.pairwise_lt_range') hp hs
    simp only [List.map_cons, List.length_cons, List.range'_succ, List.cons.injEq] at hkeys
    obtain ⟨rfl, hrest⟩ := hkeys
    have hysne : ys ≠ [] := by
      intro e; subst e
      exact hnonempty _ ms List.mem_cons_self hys.symm.eq_nil
    obtain ⟨st', hst', hce, hfo⟩ := hchild _ ms List.mem_cons_self ys hys hBs
    -- the table after the keys of this element, read at element `j`
    have hunder : ∀ j, evsUnder (k, j) (evk ++ (⟨[], specOf fields, k, 1⟩ : Ev) ::
          ((if G.freqTouch then [(⟨[], specOf sub, [], 0⟩ : Ev)] else []) ++ st'.2).map (Ev.under [(k, items.length)])) =
        evsUnder (k, j) evk ++ if j = items.length then
          (if G.freqTouch then [(⟨[], specOf sub, [], 0⟩ : Ev)] else []) ++ st'.2 else [] :=
      fun j => by rw [evsUnder_append, evsUnder_own, evsUnder_under]
    obtain ⟨v, built, hv, hv1, hb, hcnt, hdeep⟩ := ih (items ++ [.obj st'.1]) _ es'
      (by simpa using hrest)
      (fun j ms' h1 => hnonempty j ms' (List.mem_cons_of_mem _ h1))
      (fun j ms' h1 => hchild j ms' (List.mem_cons_of_mem _ h1))
      hR hRs
      (fun j hj => by
        simp only [List.length_append, List.length_singleton] at hj
        rw [hunder, hevk j (by omega), if_neg (by omega)]
        rfl)
    refine ⟨v, .obj st'.1 :: built, ?_, by rw [hv1]; simp, ?_, ?_, fun hC hD => hdeep hC.2 fun j => ?_⟩
    · rw [foldO_append, foldO_updP_elem_next G hG hl hm items evk ys
        (fun y hy => kentries_segs_ne sub ms y (hys.subset hy)) hysne, hst']
      exact hv
    · simp only [eraseItems, expElems, eraseNode, hce, hb]
    · rw [hcnt, evCount_append, evCount_cons, evCount_under_nil]
      simp only [List.length_cons, and_self, if_true]
      omega
    · rw [hunder]
      split
      · rename_i h
        rw [h, hevk _ (Nat.le_refl _), List.nil_append]
        exact freqDeep_with_entry _ (hfo hC.1)
      · rw [List.append_nil]
        exact hD j

/-- The keys of an array member `k` under `strict_arrays`, from `None`, index-sorted, the array numbered 0, 1, 2, …:
    the same conclusion as with the idxmap (`arr_member_idxmap`). -/
theorem arr_member_strict {elems : List (Nat × Members)} (hne : elems ≠ []) (hcontig : elems.map Prod.fst = List.range elems.length)
    (hnonempty : ∀ i ms, (i, ms) ∈ elems → kentries sub ms ≠ [])
    (hchild : ∀ i ms, (i, ms) ∈ elems → ∀ ys : List KEntry, ys.Perm (kentries sub ms) → KSorted ys →
        ∃ st', foldO (walkP G true sub) (freshAttrs sub, []) ys = .ok st' ∧
          eraseAttrs st'.1 = expInto sub ms (freshAttrs sub) ∧ (FreqConf sub ms → freqOk sub st'.2 = true))
    (es : List KEntry) (hp : es.Perm (kentriesElems sub k elems)) (hs : KSorted es) :
    ∃ v, foldO (updP G true fields k) (.none, []) es = .ok v ∧ eraseNode v.1 = .arr [] (expElems sub elems) ∧
      evCount v.2 [] k = elems.length ∧ (FreqConfElems sub elems → ∀ j, freqDeep (evsUnder (k, j) v.2) = true) := by
  obtain ⟨v, built, hv, hv1, hb, hcnt, hdeep⟩ := arr_blocks_counted G hG hl hm elems [] [] es
    (by rw [hcontig, List.range_eq_range']; rfl) hnonempty hchild hp hs (fun _ _ => rfl)
  rw [foldO_updP_arr_none G true hl hm hne hnonempty es hp]
  exact ⟨v, hv, by rw [hv1]; simp only [List.nil_append, eraseNode, hb], by simpa [evCount_nil] using hcnt,
    fun hC => hdeep hC fun _ => rfl⟩

end

end SpyneModel.Flat
