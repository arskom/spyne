/-
  From the flat document (text) to the walk (structure): the member table holds every member under its joined path
  (`sti_mem`; conversely every row is a member's: `stiFields_sound`, FlatSound), the text of a conformant leaf is
  read back as the leaf (`leafFrom_leafText`), so a documented key as written does what its entry says
  (`stepKey_render`), and the decoder's loop over any permutation of a documented request is the walk over its
  entries (`stepKeys_as_walk`).
-/
import Proofs.FlatEntries
import Proofs.FlatKeys
import Proofs.LeafLaws
import Proofs.Types
namespace SpyneModel.Flat
open SpyneModel

theorem stiTy_head (delim : Text) (path : List Text) (occ : Occ) (t : Ty) :
    (joinKey delim path, memOf path occ t) ∈ stiTy delim path occ t := by
  cases t <;> simp [stiTy, memOf]

theorem stiTy_sub (delim : Text) (path : List Text) (occ : Occ) (cid : Nat) (sub : List Fld) :
    ∀ x, x ∈ stiFields delim path sub → x ∈ stiTy delim path occ (.obj cid sub) := by
  intro x hx; simp [stiTy, hx]

theorem sti_lookup_sub (delim : Text) (pre : List Text) (fields : List Fld) (n : Text) (f : Fld)
    (h : lookupFld fields n = some f) :
    ∀ x, x ∈ stiTy delim (pre ++ [n]) f.2.1 f.2.2 → x ∈ stiFields delim pre fields := by
  induction fields with
  | nil => simp [lookupFld] at h
  | cons a r ih =>
    obtain ⟨an, aocc, at'⟩ := a
    intro x hx
    simp only [lookupFld] at h
    simp only [stiFields, List.mem_append]
    split at h
    · rename_i hn
      simp only [Option.some.injEq] at h
      subst h
      have hn' : an = n := hn
      subst hn'
      exact Or.inl hx
    · exact Or.inr (ih h x hx)

theorem sti_mem (delim : Text) : ∀ (path pre : List Text) (fields : List Fld) (occ : Occ) (ty : Ty),
    memberAt fields path = some (occ, ty) →
      (joinKey delim (pre ++ path), memOf (pre ++ path) occ ty) ∈ stiFields delim pre fields := by
  intro path
  induction path with
  | nil => intro pre fields occ ty h; simp [memberAt] at h
  | cons n rest ih =>
    intro pre fields occ ty h
    cases rest with
    | nil =>
      simp only [memberAt, Option.map_eq_some_iff] at h
      obtain ⟨f, hf, heq⟩ := h
      simp only [Prod.mk.injEq] at heq
      have := sti_lookup_sub delim pre fields n f hf _ (stiTy_head delim (pre ++ [n]) f.2.1 f.2.2)
      rw [heq.1, heq.2] at this
      exact this
    | cons m rest' =>
      simp only [memberAt] at h
      split at h
      · rename_i fn focc cid sub hl
        have := ih (pre ++ [n]) sub occ ty h
        rw [List.append_assoc] at this
        apply sti_lookup_sub delim pre fields n _ hl
        exact stiTy_sub delim (pre ++ [n]) focc cid sub _ this
      · simp at h

theorem intText_ne_nil (i : Int) : intText i ≠ [] := by
  unfold intText
  split
  · simp
  · exact natText_ne_nil _

theorem fitsGuard_eq (F : Facts03) (p : PK) (v : Leaf) : fitsGuard F p v = leafFits F.leaf p v := by
  unfold fitsGuard leafFits
  split
  · rfl
  · rename_i h
    split
    · exact (h _ _ rfl rfl).elim
    · rfl

theorem intFromText_nil (F8 : Facts08) (k : IntKind) : intFromText F8 k [] = .fault := by
  unfold intFromText
  split
  · rfl
  · rfl

/-- the text of a conformant value is read back as the value by HttpRpc's leaf reader, and passes
    both stages of soft validation -/
theorem leafFrom_leafText (F : Facts03) (L : LeafLaws F.leaf) (p : PK) (v : Leaf) (h : LeafOk F p v)
    (soft nillable : Bool) :
    ∃ s, leafText F p v = some s ∧ nativeOf F soft nillable p (some s) = .ok v := by
  obtain ⟨s, hs, hfrom, hsoft⟩ := L.text h.1 (by rw [← fitsGuard_eq]; exact h.2)
  refine ⟨s, hs, ?_⟩
  have hvn := PrimTy.valueOk_ne_none h.1
  -- HttpRpc's reader agrees with the shared one on this text
  have hmine : leafFrom F p (some s) = .ok v := by
    cases p with
    | integer k r =>
      simp only [leafFrom]
      have hne : s.isEmpty = false := by
        cases s with
        | nil =>
          simp only [leafFromText, intFromText_nil, Outcome.map] at hfrom
          exact absurd hfrom (by simp)
        | cons _ _ => rfl
      simp only [hne, Bool.false_and, Bool.false_eq_true, if_false]
      exact hfrom
    | boolean =>
      cases v <;> simp [leafToText] at hs
      rename_i b
      subst hs
      cases b <;> simp [leafFrom, boolFromHttp, boolToText, Outcome.map, asciiLower] <;> decide
    | _ => exact hfrom
  unfold nativeOf
  have h1 : softString F nillable p (some s) = true := hsoft.1
  have h2 : softNative nillable p v = true := by
    cases v <;> first | exact absurd rfl hvn | exact hsoft.2
  simp [h1, hmine, h2]

theorem toNative_texts (F : Facts03) (L : LeafLaws F.leaf) (soft nillable : Bool) (p : PK) (vs : List Leaf)
    (h : ∀ v, v ∈ vs → LeafOk F p v) :
    toNative F soft nillable p (vs.map (leafText F p)) = .ok vs := by
  induction vs with
  | nil => rfl
  | cons v r ih =>
    obtain ⟨s, hs, hn⟩ := leafFrom_leafText F L p v (h v List.mem_cons_self) soft nillable
    simp only [List.map_cons, toNative, hs, hn, obind_ok]
    rw [ih (fun v' hv' => h v' (List.mem_cons_of_mem _ hv'))]
    rfl

/-- the values a key carries fit the member it names. The cases are those of `PlOk` (FlatSound); the leaves differ:
    here spelled values, whose text is read back (`LeafOk`), there whatever soft validation lets through (`LeafV`). -/
def KVOk (F : Facts03) (occ : Occ) : Ty → KV → Prop
  | .prim p, .prims p' many vs => p' = p ∧ occ.many = many ∧ ∀ v, v ∈ vs → LeafOk F p v
  | .obj _ _, .emptyArr => occ.many = true
  | .obj _ sub', .emptyObj sub => occ.many = false ∧ sub = sub'
  | _, _ => False

theorem memberAt_push {fields : List Fld} {n : Text} {occ : Occ} {cid : Nat} {sub : List Fld}
    (hl : lookupFld fields n = some (n, occ, .obj cid sub)) (i : Option Nat) (y : KEntry) (hy : y.segs ≠ []) :
    memberAt fields (y.push n i).path = memberAt sub y.path := by
  obtain ⟨segs, kv⟩ := y
  cases segs with
  | nil => exact absurd rfl hy
  | cons s r => simp [KEntry.push, KEntry.path, memberAt, hl]

theorem name_nobr {fields : List Fld} (h : NamesOk fields) {n : Text} {f : Fld} (hl : lookupFld fields n = some f) :
    ∀ c, c ∈ n → c ≠ '[' := by
  obtain ⟨h1, h2⟩ := lookupFld_some hl
  have := h.2 n (h2 ▸ List.mem_map_of_mem (f := Prod.fst) h1)
  intro c hc e
  exact this (e ▸ hc)

/-- a key fits the signature: its path leads to a member, its values fit that member, and the
    names it is written with are plain -/
def KeyOk (F : Facts03) (fields : List Fld) (ke : KEntry) : Prop :=
  ∃ occ ty, memberAt fields ke.path = some (occ, ty) ∧ KVOk F occ ty ke.kv ∧
    ∀ s, s ∈ ke.segs → ∀ c, c ∈ s.1 → c ≠ '['

theorem KeyOk.single {F : Facts03} {fields : List Fld} {n : Text} {occ : Occ} {ty : Ty} (hnames : NamesOk fields)
    (hl : lookupFld fields n = some (n, occ, ty)) {kv : KV} (hkv : KVOk F occ ty kv) :
    KeyOk F fields ⟨[(n, none)], kv⟩ := by
  refine ⟨occ, ty, by simp [KEntry.path, memberAt, hl], hkv, ?_⟩
  intro s hs
  simp only [List.mem_singleton] at hs
  subst hs
  exact name_nobr hnames hl

theorem KeyOk.push {F : Facts03} {fields : List Fld} {n : Text} {occ : Occ} {cid : Nat} {sub : List Fld}
    (hnames : NamesOk fields) (hl : lookupFld fields n = some (n, occ, .obj cid sub)) (i : Option Nat)
    {y : KEntry} (hy : y.segs ≠ []) (h : KeyOk F sub y) : KeyOk F fields (y.push n i) := by
  obtain ⟨occ', ty', h1, h2, h3⟩ := h
  refine ⟨occ', ty', by rw [memberAt_push hl i y hy]; exact h1, h2, ?_⟩
  intro s hs
  rcases List.mem_cons.mp hs with rfl | hs
  · exact name_nobr hnames hl
  · exact h3 s hs

theorem kentries_valid (F : Facts03) (fields : List Fld) (ms : Members) :
    NamesOk fields → WfFields fields → WtMembers F fields ms →
    ∀ ke, ke ∈ kentries fields ms → KeyOk F fields ke := by
  induction ms using Members.induct generalizing fields with
  | step ms ih =>
    intro hnames hwf hwt ke hke
    obtain ⟨n, sv, hmem, hke'⟩ := kentries_mem fields ms ke hke
    have hwv := (WtMembers_unpack hwt).2 n sv hmem
    have ih := ih n sv hmem
    cases sv with
    | leaf v =>
      obtain ⟨occ, p, hl, hm, hok⟩ := hwv
      simp only [kentriesVal, List.mem_singleton] at hke'
      subst hke'
      exact KeyOk.single hnames hl ⟨by simp [primOf, hl], hm, by simpa using hok⟩
    | leaves vs =>
      obtain ⟨occ, p, hl, hm, _, hok⟩ := hwv
      simp only [kentriesVal, List.mem_singleton] at hke'
      subst hke'
      exact KeyOk.single hnames hl ⟨by simp [primOf, hl], hm, hok⟩
    | emptyObj =>
      obtain ⟨occ, cid, sub, hl, hm⟩ := hwv
      simp only [kentriesVal, List.mem_singleton] at hke'
      subst hke'
      exact KeyOk.single hnames hl ⟨hm, subOf_eq hl⟩
    | obj ms' =>
      obtain ⟨occ, cid, sub, hl, hm, hne', hwt'⟩ := hwv
      simp only [kentriesVal, subOf_eq hl, List.mem_map] at hke'
      obtain ⟨y, hy, rfl⟩ := hke'
      obtain ⟨hsn, hswf⟩ := Wf_sub hwf hl
      exact KeyOk.push hnames hl none (kentries_segs_ne sub ms' y hy) (ih sub hsn hswf hwt' y hy)
    | arr elems =>
      obtain ⟨occ, cid, sub, hl, hm, hinc, hwe⟩ := hwv
      simp only [kentriesVal, subOf_eq hl] at hke'
      split at hke'
      · simp only [List.mem_singleton] at hke'
        subst hke'
        exact KeyOk.single hnames hl hm
      · obtain ⟨i, ms', y, hel, hy, rfl⟩ := kentriesElems_form sub n elems ke hke'
        obtain ⟨hsn, hswf⟩ := Wf_sub hwf hl
        exact KeyOk.push hnames hl (some i) (kentries_segs_ne sub ms' y hy)
          (ih i ms' hel sub hsn hswf (WtElems_unpack hwe i ms' hel).2 y hy)

theorem walkP_graph (F G : Facts03) (strict : Bool) (fields : List Fld) {st st' : PSt} (h : st.1 = st'.1) (e : KEntry) :
    omap Prod.fst (walkP F strict fields st e) = omap Prod.fst (walkP G strict fields st' e) := by
  unfold walkP
  rw [h]
  refine omap_obind_congr Prod.fst Prod.fst (walk_graph F G strict fields st'.1 e.path e.idxs e.kv.payload) _ _ ?_
  intro r r' hr
  simp only [omap_ok, hr]

/-- a documented key, as it is written, does to the instance and its increments what the key says -/
theorem stepKey_render (F : Facts03) (L : LeafLaws F.leaf) (strict soft : Bool) {fields : List Fld} {delim : Text}
    (hk : KeysOk delim fields) {ke : KEntry} (hke : KeyOk F fields ke) (st : PSt) :
    stepKey F ⟨strict, soft, delim⟩ fields (stiFields delim [] fields) st (renderKey delim ke.segs, ke.kv.texts F) =
      walkP F strict fields st ke := by
  obtain ⟨occ, ty, hm, hkv, hnb⟩ := hke
  have hd : ∀ c, c ∈ delim → c ≠ '[' := fun c hc e => hk.2 (e ▸ hc)
  have hget : stiGet (stiFields delim [] fields) (stripIdx (renderKey delim ke.segs)) =
      some (memOf ke.path occ ty) := by
    rw [stripIdx_renderKey delim ke.segs hd hnb]
    have := sti_mem delim ke.path [] fields occ ty hm
    simp only [List.nil_append] at this
    exact stiGet_of_mem hk.1 this
  unfold stepKey
  simp only [hget, findIdx_renderKey delim ke.segs hd hnb]
  obtain ⟨segs, kv⟩ := ke
  cases ty with
  | prim p =>
    cases kv with
    | prims p' many vs =>
      obtain ⟨h0, h1, h2⟩ := hkv
      subst h0
      simp only [memOf, KV.texts, toNative_texts F L soft occ.nillable p' vs h2, obind_ok, h1]
      rfl
    | _ => exact hkv.elim
  | obj cid sub' =>
    cases kv with
    | prims p' many vs => exact hkv.elim
    | emptyArr =>
      simp only [KVOk] at hkv
      simp only [memOf, KV.texts, if_true, hkv]
      rfl
    | emptyObj sub =>
      obtain ⟨h1, h2⟩ := hkv
      subst h2
      simp only [memOf, KV.texts, if_true, h1, Bool.false_eq_true, if_false]
      rfl

/-- the object graph the keys build does not depend on the facts -/
theorem foldO_walkP_graph (F G : Facts03) (strict : Bool) (fields : List Fld) (es : List KEntry) :
    ∀ st st' : PSt, st.1 = st'.1 →
      omap Prod.fst (foldO (walkP F strict fields) st es) = omap Prod.fst (foldO (walkP G strict fields) st' es) := by
  induction es with
  | nil => intro st st' h; simp only [foldO_nil, omap_ok, h]
  | cons e r ih =>
    intro st st' h
    exact omap_obind_congr Prod.fst Prod.fst (walkP_graph F G strict fields h e) _ _ fun s s' hs => ih s s' hs

/-- the loop of the decoder over a permutation of a documented request is the walk, with increments, over the entries
    of the request in the order `sorted` leaves their keys in -/
theorem stepKeys_as_walk (F : Facts03) (L : LeafLaws F.leaf) (cfg : Cfg) (fields : List Fld) (ms : Members) (doc : Doc)
    (hwf : WfSig fields) (hkeys : KeysOk cfg.delim fields) (hwt : WtMembers F fields ms)
    (hp : doc.Perm (docOf F cfg.delim fields ms)) :
    ∃ ys : List KEntry, ys.Perm (kentries fields ms) ∧
      sortDoc F doc = ys.map (fun e => (renderKey cfg.delim e.segs, e.kv.texts F)) ∧
      (∀ y, y ∈ ys → ∀ s, s ∈ y.segs → ∀ c, c ∈ s.1 → c ≠ '[') ∧
      foldO (stepKey F cfg fields (stiFields cfg.delim [] fields)) (freshAttrs fields, []) (sortDoc F doc) =
        foldO (walkP F cfg.strict fields) (freshAttrs fields, []) ys := by
  obtain ⟨ys, hys, hyseq⟩ := perm_map_pullback _ _ _ ((sortBy_perm _ doc).trans hp)
  have hvalid := fun a (ha : a ∈ ys) =>
    kentries_valid F fields ms hwf.1 hwf.2 hwt a (hys.subset ha)
  refine ⟨ys, hys, hyseq, fun y hy => by obtain ⟨_, _, _, _, h3⟩ := hvalid y hy; exact h3, ?_⟩
  rw [show sortDoc F doc = _ from hyseq, foldO_map]
  apply foldO_congr
  intro s a ha
  exact stepKey_render F L cfg.strict cfg.soft hkeys (hvalid a ha) s

end SpyneModel.Flat
