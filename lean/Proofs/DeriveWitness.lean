/-
  C15: the concrete histories behind the non-vacuity examples of Props.C15 (declared in its namespace), each group
  run once. Every lookup of the model compares attribute names, and the kernel compares strings byte by byte, so
  running a history is what the examples cost; the facts about one history are therefore checked together.
-/
import SpyneModel.DeriveApply
import SpyneModel.Generated.Facts15
namespace SpyneModel.Props.C15
open SpyneModel.Derive SpyneModel.Generated

def s1 := apply facts15 1000 (initHeap facts15) (.subclass none "A" (some "ns") [("a", 0), ("b", 1)] [] none [] false)
def s2 := apply facts15 1000 s1.heap (.subclass (some 12) "B" none [("c", 3)] [] (some [("foo", .int 42)]) [] false)
def s3 := apply facts15 1000 s2.heap (.customize 12 [("min_occurs", .int 1)] none none none none none)
def s4 := apply facts15 1000 s3.heap (.customize 13 [] none (some [("nillable", .bool false)]) none none none)
def s5 := apply facts15 1000 s4.heap (.append 13 "w" 1)
def s6 := apply facts15 1000 s5.heap (.array 0 none [] false false)
def s7 := apply facts15 1000 s6.heap (.mandatory 21)
def s8 := apply facts15 1000 s7.heap (.customize 3 [("ge", .int 0)] none none none none none)

/-- class A; class B(A) with its own `Attributes`; A.customize; B.customize(child_attrs_all); B.append_field;
    Array(Integer); Mandatory(that array); Integer32(ge=0).  The pool has 12 classes (0 Integer, 1 Unicode,
    3 Integer32) and every step appends: A is 12, B 13, their variants 14 and 15 (17: the variant of B's base A that
    `B.customize` makes), the array 21, its Mandatory 23, Integer32(ge=0) 25 -/
theorem history_s :
    (s1.heap.cls.length = 13 ∧ s3.heap.cls.length = 15 ∧ s4.heap.cls.length = 20)
    ∧ (variantsOf s4.heap 12 = [14, 17] ∧ variantsOf s4.heap 13 = [15])
    ∧ touched facts15 s4.heap (.append 13 "w" 1) = [13, 15]
    ∧ ((s5.heap.cls[13]?).map (fun c => keysOf c.fields) = some ["c", "w"]
      ∧ (s5.heap.cls[15]?).map (fun c => keysOf c.fields) = some ["c", "w"]
      ∧ (s5.heap.cls[14]?).map (fun c => keysOf c.fields) = some ["a", "b"])
    ∧ flatKeys s5.heap 15 = ["a", "b", "c", "w"]
    ∧ obs1 facts15 s7.heap 21 = obs1 facts15 s6.heap 21
    ∧ ((s7.heap.cls[23]?).bind (fun c => (c.fields.head?).map (fun p => attrOf s7.heap p.2 "min_occurs")))
        = some (some (.int 1))
    ∧ (attrOf s8.heap 25 "max_str_len" = attrOf s8.heap 3 "max_str_len" ∧ attrOf s8.heap 25 "ge" = some (.int 0))
    ∧ (12 ∉ touched facts15 s4.heap (.append 13 "w" 1) ∧ 12 ∉ touched facts15 s5.heap (.array 0 none [] false false)
      ∧ 12 ∉ touched facts15 s6.heap (.mandatory 21)) := by
  decide +kernel

-- Unicode(pattern='[a-z]+')(pattern='[0-9]+'): validation follows the second pattern
def p1 := apply facts15 1000 (initHeap facts15) (.customize 1 [("pattern", .str "[a-z]+")] none none none none none)
def p2 := apply facts15 1000 p1.heap (.customize 12 [("pattern", .str "[0-9]+")] none none none none none)
theorem history_p :
    (attrOf p2.heap 13 "_pattern_re" = some (.str "[0-9]+") ∧ attrOf p2.heap 12 "_pattern_re" = some (.str "[a-z]+"))
    ∧ (p2.heap.cls[13]?).map (fun c => (verdicts p2.heap c).drop 15) =
        some [false, false, false, false, false, false, true, true, false] := by
  decide +kernel

/-! Seven shorter histories; each starts from the same pool. They are run in two declarations, by what the examples
    ask of them. -/

-- class Base; class Sub(Base); Sub.customize(...), Mandatory(Sub), Array(Sub): Base's `_subclasses` stay [Sub]
def b1 := apply facts15 1000 (initHeap facts15) (.subclass none "Base" (some "ns") [("a", 0)] [] none [] false)
def b2 := apply facts15 1000 b1.heap (.subclass (some 12) "Sub" (some "ns") [("b", 0)] [] none [] false)
def b3 := apply facts15 1000 b2.heap (.customize 13 [("min_occurs", .int 1)] none (some [("nillable", .bool false)]) none none none)
def b4 := apply facts15 1000 b3.heap (.mandatory 13)
def b5 := apply facts15 1000 b4.heap (.array 13 none [] false false)
def a1 := apply facts15 1000 (initHeap facts15) (.array 0 none [] false false)
def a2 := apply facts15 1000 a1.heap (.customize 12 [("max_occurs", .int 3)] none none none none (some [("min_occurs", .int 1)]))
-- Code = Unicode(max_len=32); Code(pk=True); Code(min_len=2): only the pk flavour is a primary key
def c1 := apply facts15 1000 (initHeap facts15) (.customize 1 [("max_len", .int 32)] none none none none none)
def c2 := apply facts15 1000 c1.heap (.customize 12 [("pk", .bool true)] none none none none none)
def c3 := apply facts15 1000 c2.heap (.customize 12 [("min_len", .int 2), ("autoincrement", .bool true)] none none none none none)

/-- what the classes of a history look like from outside (`obs1`) -/
theorem history_obs :
    ((obs1 facts15 b2.heap 12).map (·.subs) = some (some [13]) ∧ obs1 facts15 b5.heap 12 = obs1 facts15 b2.heap 12)
    ∧ (obs1 facts15 a2.heap 12 = obs1 facts15 a1.heap 12 ∧ obs1 facts15 a2.heap 13 = obs1 facts15 a1.heap 13)
    ∧ ((obs1 facts15 c3.heap 12).map (·.col) = some (some [])
      ∧ (obs1 facts15 c3.heap 13).map (·.col) = some (some [("primary_key", .bool true)])
      ∧ (obs1 facts15 c3.heap 14).map (·.col) = some (some [("autoincrement", .bool true)])
      ∧ (obs1 facts15 c3.heap 1).map (·.col) = some none) := by
  decide +kernel

-- child_attrs_noexc, `order`, serializer_attrs on a concrete history
def n1 := apply facts15 1000 (initHeap facts15) (.subclass none "NA" (some "ns") [("a", 0), ("b", 1), ("c", 0)] [] none [] false)
def n2 := apply facts15 1000 n1.heap (.customize 12 [] (some [("b", [("min_occurs", .int 2)])]) (some [("min_occurs", .int 1)]) none
  (some [("a", [("max_occurs", .int 2)])]) none)
def o1 := apply facts15 1000 (initHeap facts15) (.customize 1 [("order", .int 0)] none none none none none)
def o2 := apply facts15 1000 o1.heap (.customize 0 [("order", .int 1)] none none none none none)
def o3 := apply facts15 1000 o2.heap (.subclass none "OB" (some "ns") [("x", 0), ("y", 12), ("z", 13), ("w", 1)] [] none [] false)
-- class M1: __mixin__ = True; x, y   class M2 (mixin): z   class K(M1, M2, A): own c, y  ->  x, y, z, c  (A's fields by base)
def m1 := apply facts15 1000 (initHeap facts15) (.subclass none "M1" (some "ns") [("x", 0), ("y", 1)] [] none [] true)
def m2 := apply facts15 1000 m1.heap (.subclass none "M2" (some "ns") [("z", 0)] [] none [] true)
def m3 := apply facts15 1000 m2.heap (.subclass none "A" (some "ns") [("a", 0)] [] none [] false)
def m4 := apply facts15 1000 m3.heap (.subclass (some 14) "K" (some "ns") [("c", 0), ("y", 0)] [] none [12, 13] false)
-- A.customize(child_attrs_all={min_occurs: 1}, child_attrs={later: {min_occurs: 2}}); A.append_field('later', Integer):
-- in the variant the field carries the specific value
def d1 := apply facts15 1000 (initHeap facts15) (.subclass none "A" none [("a", 0)] [] none [] false)
def d2 := apply facts15 1000 d1.heap (.customize 12 [] (some [("later", [("min_occurs", .int 2)])]) (some [("min_occurs", .int 1)]) none none none)
def d3 := apply facts15 1000 d2.heap (.append 12 "later" 0)

/-- the fields of the classes made, and the attributes of their types -/
theorem history_fields :
    ((n2.heap.cls[13]?).map (fun c => c.fields.map (fun p => (p.1, attrOf n2.heap p.2 "exc", attrOf n2.heap p.2 "min_occurs")))
      = some [("a", some (.bool false), some (.int 1)), ("b", some (.bool true), some (.int 2)), ("c", some (.bool true), some (.int 1))])
    ∧ (o3.heap.cls[14]?).map (fun c => keysOf c.fields) = some ["y", "z", "x", "w"]
    ∧ ((m4.heap.cls[15]?).map (fun c => keysOf c.fields) = some ["x", "y", "z", "c"]
      ∧ flatKeys m4.heap 15 = ["a", "x", "y", "z", "c"])
    ∧ (((d3.heap.cls[13]?).bind (fun c => (odictGet c.fields "later").map (fun t => attrOf d3.heap t "min_occurs")))
        = some (some (.int 2))
      ∧ ((d3.heap.cls[13]?).bind (fun c => (odictGet c.fields "a").map (fun t => attrOf d3.heap t "min_occurs")))
        = some (some (.int 1))) := by
  decide +kernel

end SpyneModel.Props.C15
