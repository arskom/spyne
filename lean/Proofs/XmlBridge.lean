/-
  The registry-aware predicates of XmlSpec against the registry-free ones, `conforms` (the shared specification,
  Types.lean) and `norm` (Xml.lean). Three facts: `okEq`, without polymorphism and strictness `okX` is `conforms`;
  `okMono`, `okX` survives switching polymorphism on and strictness off; `normEq`, on conformant values `normX`
  is `norm`.

  `okX` and `normX` are `conforms`' and `norm`'s recipe over the single-occurrence functions (`okX_def`,
  `normX_def`); `okX_nonrep`, `okOneX_leaf`, `okFieldsX_cons` with `fieldOk`, `fieldOk_rep` say what the predicates
  ask on each form of input (C01 and C05 read them through these). Each of the three facts is proved for one value
  from its parts (`Val.induct`); the statements about item lists and member lists follow by list induction.
-/
import SpyneModel.XmlSpec
import Proofs.Types
namespace SpyneModel

namespace Xml

theorem leafOk_false (p : PrimTy) (o : Occ) (v : Val) : leafOk false p o v = p.valueOk v := by
  simp [leafOk]

theorem okX_def (I : Iface) (p s : Bool) (t : Ty) (v : Val) :
    okX I p s t v =
      if t.occ.repeated then
        (match v with
         | .none => decide (t.occ.minOccurs = 0)
         | .list vs => t.occ.countOk vs.length && okItemsX I p s t vs
         | _ => false)
      else okOneX I p s t v := by
  rw [okX.eq_def, okOneX.eq_def]
  generalize t.occ.repeated = r
  cases r <;> cases v <;> rfl

theorem okX_nonrep {I : Iface} {poly strict : Bool} {t : Ty} {v : Val} (hr : t.occ.repeated = false) :
    okX I poly strict t v = okOneX I poly strict t v := by
  rw [okX_def, hr]
  rfl

theorem okOneX_leaf {I : Iface} {poly strict : Bool} {t : Ty} {v : Val} (hl : v.isLeaf = true) (hn : v ≠ .none) :
    okOneX I poly strict t v = (match t with | .prim p o => leafOk strict p o v | _ => false) := by
  cases v <;> first | rfl | exact Bool.noConfusion hl | exact absurd rfl hn

/-- the `okFieldsX` condition on one member -/
def fieldOk (I : Iface) (poly strict : Bool) (t : Ty) (v : Val) : Bool :=
  match v with
  | .none => decide (t.occ.minOccurs = 0) || (t.occ.nillable && !t.occ.repeated)
  | w => okX I poly strict t w

theorem fieldOk_some {I : Iface} {poly strict : Bool} {t : Ty} {v : Val} (hv : v ≠ .none) :
    fieldOk I poly strict t v = okX I poly strict t v := by
  cases v <;> first | rfl | exact absurd rfl hv

theorem okFieldsX_cons {I : Iface} {poly strict : Bool} {k k' : Text} {t : Ty} {v : Val}
    {fs : List (Text × Ty)} {vs : List (Text × Val)} :
    okFieldsX I poly strict ((k, t) :: fs) ((k', v) :: vs) =
      (decide (k = k') && fieldOk I poly strict t v && okFieldsX I poly strict fs vs) := by
  cases v <;> simp [okFieldsX, fieldOk]

/-- a conformant repeated member holds None (and may be absent) or a list within the occurrence bounds -/
theorem fieldOk_rep {I : Iface} {poly strict : Bool} {t : Ty} {v : Val} (hr : t.occ.repeated = true)
    (hf : fieldOk I poly strict t v = true) :
    (v = .none ∧ t.occ.minOccurs = 0) ∨
    ∃ items, v = .list items ∧ t.occ.countOk items.length = true ∧ okItemsX I poly strict t items = true := by
  by_cases hv : v = .none
  · subst hv
    simp only [fieldOk, hr, Bool.not_true, Bool.and_false, Bool.or_false, decide_eq_true_eq] at hf
    exact Or.inl ⟨rfl, hf⟩
  · rw [fieldOk_some hv, okX_def, if_pos hr] at hf
    cases v <;> first
      | exact absurd rfl hv
      | exact Bool.noConfusion hf
      | exact Or.inr ⟨_, rfl, by simpa using hf⟩

theorem normX_def (I : Iface) (t : Ty) (v : Val) :
    normX I t v =
      if t.occ.repeated then
        (match v with
         | .list [] => .none
         | .list vs => .list (normItemsX I t vs)
         | v => v)
      else normOneX I t v := by
  rw [normX.eq_def, normOneX.eq_def]
  generalize t.occ.repeated = r
  cases r <;> cases v <;> first | rfl | (rename_i x; cases x <;> rfl)

theorem norm_def (t : Ty) (v : Val) :
    norm t v =
      if t.occ.repeated then
        (match v with
         | .list [] => .none
         | .list vs => .list (normItems t vs)
         | v => v)
      else normOne t v := by
  rw [norm.eq_def, normOne.eq_def]
  generalize t.occ.repeated = r
  cases r <;> cases v <;> first | rfl | (rename_i x; cases x <;> rfl)


theorem okX_eq_of {I : Iface} {t : Ty} {v : Val} (h1 : okOneX I false false t v = conformsOne t v)
    (h2 : ∀ vs, v = .list vs → okItemsX I false false t vs = conformsItems t vs) :
    okX I false false t v = conforms t v := by
  rw [okX_def, h1]
  unfold conforms
  cases v with
  | list vs => simp only [h2 vs rfl]
  | _ => rfl

/-- the induction carries the single-occurrence and the full predicate together, at every type: an array asks its
    items through `okOneX`, an object its members through `okX` -/
def OkEq (I : Iface) (v : Val) : Prop :=
  ∀ t, okOneX I false false t v = conformsOne t v ∧ okX I false false t v = conforms t v

theorem okItemsX_eq_of {I : Iface} (t : Ty) : (vs : List Val) → (∀ v ∈ vs, OkEq I v) →
    okItemsX I false false t vs = conformsItems t vs
  | [], _ => by simp only [okItemsX, conformsItems]
  | v :: vs, h => by
    simp only [okItemsX, conformsItems, (h v List.mem_cons_self t).1,
      okItemsX_eq_of t vs (fun w hw => h w (List.mem_cons_of_mem _ hw))]

theorem okFieldsX_eq_of {I : Iface} : (fs : List (Text × Ty)) → (vs : List (Text × Val)) →
    (∀ kv ∈ vs, OkEq I kv.2) → okFieldsX I false false fs vs = conformsFields fs vs
  | [], [], _ => by simp only [okFieldsX, conformsFields]
  | [], _ :: _, _ => by simp only [okFieldsX, conformsFields]
  | _ :: _, [], _ => by simp only [okFieldsX, conformsFields]
  | (k, t) :: fs, (k', v) :: vs, h => by
    rw [okFieldsX_cons, conformsFields_cons_eq, okFieldsX_eq_of fs vs (fun kv hkv => h kv (List.mem_cons_of_mem _ hkv))]
    congr 2
    cases v <;> first | rfl | exact (h (k', _) List.mem_cons_self t).2

theorem okEq (I : Iface) : ∀ v, OkEq I v := by
  refine Val.induct (fun v hl t => ?_) (fun vs ih t => ?_) (fun cls ws ih t => ?_)
  · have h1 : okOneX I false false t v = conformsOne t v := by
      cases v <;> first
        | exact Bool.noConfusion hl
        | (cases t <;> simp only [okOneX, conformsOne, leafOk_false])
    exact ⟨h1, okX_eq_of h1 (fun vs e => by subst e; cases hl)⟩
  · have h1 : okOneX I false false t (.list vs) = conformsOne t (.list vs) := by
      cases t with
      | arr m el o => simp only [okOneX, conformsOne, conformsArr_eq, okItemsX_eq_of el vs ih]
      | prim p o => cases p <;> simp [okOneX, conformsOne, PrimTy.valueOk]
      | obj a b c d e => simp only [okOneX, conformsOne]
    exact ⟨h1, okX_eq_of h1 (fun items e => by cases e; exact okItemsX_eq_of t vs ih)⟩
  · have h1 : okOneX I false false t (.obj cls ws) = conformsOne t (.obj cls ws) := by
      cases t with
      | obj name ns base fields o =>
        simp only [okOneX, conformsOne, okFieldsX_eq_of fields ws ih]
        by_cases hc : cls = name <;> simp [hc]
      | prim p o => cases p <;> simp [okOneX, conformsOne, PrimTy.valueOk]
      | arr a b c => simp only [okOneX, conformsOne]
    exact ⟨h1, okX_eq_of h1 (fun items e => by cases e)⟩

theorem okX_eq (I : Iface) (t : Ty) : (v : Val) → okX I false false t v = conforms t v :=
  fun v => (okEq I v t).2

theorem okOneX_eq (I : Iface) (t : Ty) : (v : Val) → okOneX I false false t v = conformsOne t v :=
  fun v => (okEq I v t).1

theorem okItemsX_eq (I : Iface) (t : Ty) : (vs : List Val) → okItemsX I false false t vs = conformsItems t vs :=
  fun vs => okItemsX_eq_of t vs (fun v _ => okEq I v)

theorem okArrX_eq (I : Iface) (t : Ty) : (vs : List Val) → okItemsX I false false t vs = conformsArr t vs :=
  fun vs => by rw [conformsArr_eq]; exact okItemsX_eq I t vs

theorem okFieldsX_eq (I : Iface) : (fs : List (Text × Ty)) → (vs : List (Text × Val)) →
    okFieldsX I false false fs vs = conformsFields fs vs :=
  fun fs vs => okFieldsX_eq_of fs vs (fun kv _ => okEq I kv.2)


theorem leafOk_mono {s s' : Bool} (hs : s' = true → s = true) (p : PrimTy) (o : Occ) (v : Val)
    (h : leafOk s p o v = true) : leafOk s' p o v = true := by
  cases s' with
  | false => simp only [leafOk, Bool.and_eq_true] at h ⊢; simp [h.1]
  | true => rw [hs rfl] at h; exact h

theorem okX_mono_of {I : Iface} {p p' s s' : Bool} {t : Ty} {v : Val}
    (h1 : okOneX I p s t v = true → okOneX I p' s' t v = true)
    (h2 : ∀ vs, v = .list vs → okItemsX I p s t vs = true → okItemsX I p' s' t vs = true) :
    okX I p s t v = true → okX I p' s' t v = true := by
  rw [okX_def, okX_def]
  split
  · cases v with
    | list vs =>
      simp only [Bool.and_eq_true]
      exact fun h => ⟨h.1, h2 vs rfl h.2⟩
    | _ => exact id
  · exact h1

section mono
variable (I : Iface) {p p' s s' : Bool} (hp : p = true → p' = true) (hs : s' = true → s = true)

/-- from `(p, s)` to `(p', s')` where polymorphism may only be switched on (more instances conform) and strictness
    only off (`leafOk_mono`: strictness adds the empty-bytes clause) -/
def OkMono (I : Iface) (p p' s s' : Bool) (v : Val) : Prop :=
  ∀ t, (okOneX I p s t v = true → okOneX I p' s' t v = true) ∧ (okX I p s t v = true → okX I p' s' t v = true)

theorem okItemsX_mono_of (t : Ty) : (vs : List Val) → (∀ v ∈ vs, OkMono I p p' s s' v) →
    okItemsX I p s t vs = true → okItemsX I p' s' t vs = true
  | [], _, _ => by simp only [okItemsX]
  | v :: vs, ih, h => by
    simp only [okItemsX, Bool.and_eq_true] at h ⊢
    exact ⟨(ih v List.mem_cons_self t).1 h.1, okItemsX_mono_of t vs (fun w hw => ih w (List.mem_cons_of_mem _ hw)) h.2⟩

theorem okFieldsX_mono_of : (fs : List (Text × Ty)) → (vs : List (Text × Val)) →
    (∀ kv ∈ vs, OkMono I p p' s s' kv.2) → okFieldsX I p s fs vs = true → okFieldsX I p' s' fs vs = true
  | [], [], _, _ => by simp only [okFieldsX]
  | [], _ :: _, _, h => by simp [okFieldsX] at h
  | _ :: _, [], _, h => by simp [okFieldsX] at h
  | (k, t) :: fs, (k', v) :: vs, ih, h => by
    rw [okFieldsX_cons] at h ⊢
    simp only [Bool.and_eq_true] at h ⊢
    refine ⟨⟨h.1.1, ?_⟩, okFieldsX_mono_of fs vs (fun kv hkv => ih kv (List.mem_cons_of_mem _ hkv)) h.2⟩
    have h1 := h.1.2
    cases v <;> first | exact h1 | exact (ih (k', _) List.mem_cons_self t).2 h1

include hp hs in
theorem okMono : ∀ v, OkMono I p p' s s' v := by
  refine Val.induct (fun v hl t => ?_) (fun vs ih t => ?_) (fun cls ws ih t => ?_)
  · have h1 : okOneX I p s t v = true → okOneX I p' s' t v = true := by
      cases v <;> first
        | exact Bool.noConfusion hl
        | (cases t <;> simp only [okOneX] <;> first | exact id | exact leafOk_mono hs _ _ _)
    exact ⟨h1, okX_mono_of h1 (fun vs e => by subst e; cases hl)⟩
  · have h1 : okOneX I p s t (.list vs) = true → okOneX I p' s' t (.list vs) = true := by
      cases t <;> simp only [okOneX] <;> first | exact id | exact okItemsX_mono_of I _ vs ih
    exact ⟨h1, okX_mono_of h1 (fun items e => by cases e; exact okItemsX_mono_of I t vs ih)⟩
  · have h1 : okOneX I p s t (.obj cls ws) = true → okOneX I p' s' t (.obj cls ws) = true := by
      cases t with
      | obj name ns base fields o =>
        simp only [okOneX]
        split
        · exact okFieldsX_mono_of I fields ws ih
        · simp only [Bool.and_eq_true]
          intro h
          refine ⟨⟨hp h.1.1, h.1.2⟩, ?_⟩
          have h2 := h.2
          split at h2
          · exact okFieldsX_mono_of I _ ws ih h2
          · cases h2
      | _ => simp only [okOneX]; exact id
    exact ⟨h1, okX_mono_of h1 (fun items e => by cases e)⟩

end mono

theorem okX_mono (I : Iface) {p p' s s' : Bool} (hp : p = true → p' = true) (hs : s' = true → s = true) (t : Ty) :
    (v : Val) → okX I p s t v = true → okX I p' s' t v = true :=
  fun v => (okMono I hp hs v t).2

theorem okOneX_mono (I : Iface) {p p' s s' : Bool} (hp : p = true → p' = true) (hs : s' = true → s = true)
    (t : Ty) : (v : Val) → okOneX I p s t v = true → okOneX I p' s' t v = true :=
  fun v => (okMono I hp hs v t).1

theorem okItemsX_mono (I : Iface) {p p' s s' : Bool} (hp : p = true → p' = true) (hs : s' = true → s = true)
    (t : Ty) : (vs : List Val) → okItemsX I p s t vs = true → okItemsX I p' s' t vs = true :=
  fun vs => okItemsX_mono_of I t vs (fun v _ => okMono I hp hs v)

theorem okFieldsX_mono (I : Iface) {p p' s s' : Bool} (hp : p = true → p' = true) (hs : s' = true → s = true) :
    (fs : List (Text × Ty)) → (vs : List (Text × Val)) → okFieldsX I p s fs vs = true →
    okFieldsX I p' s' fs vs = true :=
  fun fs vs => okFieldsX_mono_of I fs vs (fun kv _ => okMono I hp hs kv.2)


theorem normX_eq_of {I : Iface} {t : Ty} {v : Val} (h1 : conformsOne t v = true → normOneX I t v = normOne t v)
    (h2 : ∀ vs, v = .list vs → conformsItems t vs = true → normItemsX I t vs = normItems t vs)
    (h : conforms t v = true) : normX I t v = norm t v := by
  rw [normX_def, norm_def]
  unfold conforms at h
  split
  · rename_i hr
    simp only [hr, if_true] at h
    cases v with
    | list vs =>
      simp only [Bool.and_eq_true] at h
      cases vs with
      | nil => rfl
      | cons w ws => simp only [h2 _ rfl h.2]
    | _ => rfl
  · rename_i hr
    simp only [hr] at h
    exact h1 h

def NormEq (I : Iface) (v : Val) : Prop :=
  ∀ t, (conformsOne t v = true → normOneX I t v = normOne t v) ∧ (conforms t v = true → normX I t v = norm t v)

theorem normItemsX_eq_of {I : Iface} (t : Ty) : (vs : List Val) → (∀ v ∈ vs, NormEq I v) →
    conformsItems t vs = true → normItemsX I t vs = normItems t vs
  | [], _, _ => by simp only [normItemsX, normItems]
  | v :: vs, ih, h => by
    simp only [conformsItems, Bool.and_eq_true] at h
    rw [normItemsX, normItems, (ih v List.mem_cons_self t).1 h.1,
      normItemsX_eq_of t vs (fun w hw => ih w (List.mem_cons_of_mem _ hw)) h.2]

theorem normFieldsX_eq_of {I : Iface} : (fs : List (Text × Ty)) → (vs : List (Text × Val)) →
    (∀ kv ∈ vs, NormEq I kv.2) → conformsFields fs vs = true → normFieldsX I fs vs = normFields fs vs
  | [], [], _, _ => by simp only [normFieldsX, normFields]
  | [], _ :: _, _, h => by simp [conformsFields] at h
  | _ :: _, [], _, h => by simp [conformsFields] at h
  | (k, t) :: fs, (k', v) :: vs, ih, h => by
    rw [conformsFields.eq_def] at h
    simp only [Bool.and_eq_true] at h
    rw [normFieldsX, normFields, normFieldsX_eq_of fs vs (fun kv hkv => ih kv (List.mem_cons_of_mem _ hkv)) h.2]
    have hx := (ih (k', v) List.mem_cons_self t).2
    have h1 := h.1.2
    cases v with
    | none => rw [normX_def, norm_def]; split <;> rfl
    | _ => rw [hx h1]

theorem normEq (I : Iface) : ∀ v, NormEq I v := by
  refine Val.induct (fun v hl t => ?_) (fun vs ih t => ?_) (fun cls ws ih t => ?_)
  · have h1 : conformsOne t v = true → normOneX I t v = normOne t v := by
      intro hc
      cases v <;> first
        | exact Bool.noConfusion hl
        | (simp only [normOneX, normOne]; done)
        | (rename_i bs; cases bs <;> simp only [normOneX, normOne])
    exact ⟨h1, normX_eq_of h1 (fun vs e => by subst e; cases hl)⟩
  · have h1 : conformsOne t (.list vs) = true → normOneX I t (.list vs) = normOne t (.list vs) := by
      intro h
      cases t with
      | arr m el o =>
        simp only [conformsOne, conformsArr_eq] at h
        simp only [normOneX, normOne, normItemsX_eq_of el vs ih h]
      | _ => simp only [normOneX, normOne]
    exact ⟨h1, normX_eq_of h1 (fun items e => by cases e; exact normItemsX_eq_of t vs ih)⟩
  · have h1 : conformsOne t (.obj cls ws) = true → normOneX I t (.obj cls ws) = normOne t (.obj cls ws) := by
      intro h
      cases t with
      | obj name ns base fields o =>
        simp only [conformsOne, Bool.and_eq_true, decide_eq_true_eq] at h
        simp only [normOneX, normOne, h.1, if_true, normFieldsX_eq_of fields ws ih h.2]
      | _ => simp only [normOneX, normOne]
    exact ⟨h1, normX_eq_of h1 (fun items e => by cases e)⟩

theorem normX_eq (I : Iface) (t : Ty) : (v : Val) → conforms t v = true → normX I t v = norm t v :=
  fun v => (normEq I v t).2

theorem normOneX_eq (I : Iface) (t : Ty) : (v : Val) → conformsOne t v = true → normOneX I t v = normOne t v :=
  fun v => (normEq I v t).1

theorem normItemsX_eq (I : Iface) (t : Ty) : (vs : List Val) → conformsItems t vs = true →
    normItemsX I t vs = normItems t vs :=
  fun vs => normItemsX_eq_of t vs (fun v _ => normEq I v)

theorem normArrX_eq (I : Iface) (t : Ty) : (vs : List Val) → conformsArr t vs = true →
    normItemsX I t vs = normItems t vs :=
  fun vs h => normItemsX_eq I t vs (by rw [← conformsArr_eq]; exact h)

theorem normFieldsX_eq (I : Iface) : (fs : List (Text × Ty)) → (vs : List (Text × Val)) →
    conformsFields fs vs = true → normFieldsX I fs vs = normFields fs vs :=
  fun fs vs => normFieldsX_eq_of fs vs (fun kv _ => normEq I kv.2)

end Xml
end SpyneModel
