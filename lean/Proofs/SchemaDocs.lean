import Proofs.SchemaCompile
import Proofs.InsertionSort
/-!
  The set of schema documents (C06): one document per namespace, imports sorted, every import has a
  document, the generated set compiles (`gen_compiles`), every QName written with the interface's
  prefixes resolves to the component meant.
-/
namespace SpyneModel
namespace Schema


/-- `textLe` decides the lexicographic order of core on texts -/
theorem textLe_iff : ∀ a b : Text, textLe a b = true ↔ a ≤ b
  | [], _ => by simp [textLe]
  | _ :: _, [] => by simp [textLe]
  | x :: xs, y :: ys => by
    rw [textLe, List.cons_le_cons_iff, ← textLe_iff xs ys]
    simp only [Bool.or_eq_true, Bool.and_eq_true, decide_eq_true_eq, beq_iff_eq, Char.toNat_inj]
    exact or_congr_left (by rw [Char.lt_def, UInt32.lt_iff_toNat_lt]; rfl)

theorem textLe_refl : ∀ a : Text, textLe a a = true := fun a => (textLe_iff a a).mpr (List.le_refl a)

theorem mem_sortTexts (x : Text) (l : List Text) : x ∈ sortTexts l ↔ x ∈ l :=
  (InsertionSort.sort_perm (sort := sortTexts) rfl (fun _ _ => rfl)
    (fun a => InsertionSort.insert_perm (ins := insertText a) rfl fun _ _ => rfl) l).mem_iff

theorem pairwise_sortTexts (l : List Text) : List.Pairwise (fun a b => textLe a b = true) (sortTexts l) :=
  InsertionSort.sort_pairwise (sort := sortTexts) rfl (fun _ _ => rfl)
    (fun a => InsertionSort.insert_pairwise (ins := insertText a) rfl (fun _ _ => rfl) (fun _ h => h)
      (fun b h => (textLe_iff b a).mpr ((List.le_total a b).resolve_left (mt (textLe_iff a b).mpr h)))
      fun _ _ h1 h2 => (textLe_iff _ _).mpr (List.le_trans ((textLe_iff _ _).mp h1) ((textLe_iff _ _).mp h2))) l

theorem doc_imports (S : Schema) (ns : Text) :
    List.Pairwise (fun a b => textLe a b = true) (S.doc ns).imports ∧
    ∀ n, n ∈ (S.doc ns).imports ↔ (ns, n) ∈ S.imports := by
  constructor
  · exact pairwise_sortTexts _
  · intro n
    simp only [Schema.doc, mem_sortTexts, List.mem_map, List.mem_filter, beq_iff_eq]
    constructor
    · rintro ⟨⟨a, b⟩, ⟨h, e⟩, rfl⟩
      simp only at e; subst e; exact h
    · intro h; exact ⟨(ns, n), ⟨h, rfl⟩, rfl⟩

theorem doc_complex (S : Schema) (e : Key × ComplexDef) (he : e ∈ S.complex) :
    e ∈ (S.doc e.1.1).complex ∧ e.1.1 ∈ S.docNs :=
  ⟨by simp [Schema.doc, he], mem_docNs.mpr (Or.inr (Or.inr (Or.inl ⟨e, he, rfl⟩)))⟩

theorem doc_simple (S : Schema) (e : Key × SimpleDef) (he : e ∈ S.simple) :
    e ∈ (S.doc e.1.1).simple ∧ e.1.1 ∈ S.docNs :=
  ⟨by simp [Schema.doc, he], mem_docNs.mpr (Or.inr (Or.inl ⟨e, he, rfl⟩))⟩

theorem defined_has_doc (S : Schema) (k : Key) (h : (S.hasSimple k || S.hasComplex k) = true) : k.1 ∈ S.docNs := by
  rw [Bool.or_eq_true] at h
  rcases h with h | h
  · obtain ⟨v, hv⟩ := lookup_isSome_mem h
    exact (doc_simple S (k, v) hv).2
  · obtain ⟨v, hv⟩ := lookup_isSome_mem h
    exact (doc_complex S (k, v) hv).2


theorem imports_have_docs (A : App) (hwf : A.wf = true) : ∀ i ∈ (gen A).imports, i.2 ∈ (gen A).docNs := by
  have hc := closed_of_wf A hwf
  intro i hi
  obtain ⟨D, hD, hm⟩ := mem_gen_imports.mp hi
  rcases List.mem_append.mp (mem_classImports.mp hm).2.2 with h | h
  · cases hp : parentOf A.iface D with
    | none => rw [hp] at h; cases h
    | some P =>
      rw [hp] at h
      rw [List.mem_singleton.mp h]
      apply defined_has_doc (gen A) (P.ns, P.name)
      simp [Schema.hasComplex, hc.cplx P (parent_mem A D P hp)]
  · obtain ⟨f, hf, hr⟩ := List.mem_filterMap.mp h
    cases hrr : refOf A D.ns D.name f.1 f.2 with
    | builtin b => rw [hrr] at hr; cases hr
    | named key =>
      rw [hrr] at hr
      rw [← Option.some.inj hr]
      exact defined_has_doc (gen A) key (refOk_iff.mp (refOk_field A D hD f hf (hc.pos D hD f hf)) key hrr).2

/-- **gen_compiles.** The schema generated for a well-formed application passes every check libxml2
    applies to this subset of XSD. -/
theorem gen_compiles (A : App) (G : A.leaf.Good) (hwf : A.wf = true) : (gen A).compiles = true := by
  have hc := closed_of_wf A hwf
  have hfields : ∀ D ∈ A.allClasses, ∀ f ∈ ownFields A.iface D, tyWf f.2 = true :=
    fun D hD f hf => tyWf_of_mem D.fields (hc.fwf D hD) f (ownFields_sub _ _ f hf)
  refine (compiles_iff _).mpr
    { simple := gen_simple_nodup A
      complex := gen_complex_nodup A
      elements := nodupKeys_map_self _ (gen_complex_nodup A)
      disjoint := fun e he => ?_
      simpleOk := fun e he => ?_
      complexOk := fun e he => ?_
      elemOk := fun e he => ?_
      imports := imports_have_docs A hwf }
  · rw [Schema.hasComplex, gen_complex_lookup, hc.noClash.disj e (mem_gen_simple he)]; rfl
  · obtain ⟨D, hD, f, hf, hed⟩ := mem_rawSimple.mp (mem_gen_simple he)
    exact tyDefs_simple_ok A G hc.valuesWf D.ns D.name f.1 f.2 (hfields D hD f hf) e hed
  · obtain ⟨D, hD, ⟨f, hf, hed⟩ | rfl⟩ := mem_rawComplex.mp (mem_gen_complex he)
    · exact tyDefs_complex_ok A D.ns D.name f.1 f.2 (hfields D hD f hf) (hc.arrNs D hD f hf) (hc.pos D hD f hf) e hed
    · exact (class_definition_ok A hwf D hD).1
  · obtain ⟨y, hy, rfl⟩ := mem_gen_elements.mp he
    simp only [Schema.hasComplex, lookup_isSome_of_mem _ y hy, Bool.true_or, Schema.visible, decide_true, and_self]

theorem lookup_swap_of_ok (pm : PrefMap) (h : pm.all (fun e => (pm.map (fun e => (e.2, e.1))).lookup e.2 == some e.1) = true)
    (n p : Text) (hl : pm.lookup n = some p) : (pm.map (fun e => (e.2, e.1))).lookup p = some n := by
  rw [List.all_eq_true] at h
  exact beq_iff_eq.mp (h (n, p) (SpyneModel.mem_of_lookup hl))

theorem qname_roundtrip (pm : PrefMap) (S : Schema) (hp : prefixesOk pm S = true) (k : Key) (hk : k.1 ∈ S.docNs) :
    ∃ q, qnameOf pm k = some q ∧ resolveQ pm q = some k := by
  unfold prefixesOk at hp
  simp only [Bool.and_eq_true] at hp
  have h1 := (List.all_eq_true.mp hp.1) k.1 hk
  cases hl : pm.lookup k.1 with
  | none => rw [hl] at h1; cases h1
  | some p =>
    refine ⟨(p, k.2), by simp [qnameOf, hl], ?_⟩
    simp [resolveQ, lookup_swap_of_ok pm hp.2 k.1 p hl]

/-- **no dangling QName**: in a set of documents that compiles, every `type=` / `base=` — written
    with the interface's prefixes — reads back as the name meant, that name is defined in the set,
    and it is in the referring document's own namespace or in one it imports, which has a document -/
theorem no_dangling_qname (S : Schema) (hc : S.compiles = true) (pm : PrefMap) (hp : prefixesOk pm S = true) :
    ∀ r ∈ S.namedRefs,
      (∃ q, qnameOf pm r.2 = some q ∧ resolveQ pm q = some r.2) ∧
      (S.hasSimple r.2 || S.hasComplex r.2) = true ∧
      (r.2.1 = r.1 ∨ r.2.1 ∈ (S.doc r.1).imports) ∧ r.2.1 ∈ S.docNs := by
  have hcx := ((compiles_iff S).mp hc).complexOk
  have hel := ((compiles_iff S).mp hc).elemOk
  have main : ∀ (d : Text) (k : Key), S.visible d k = true → (S.hasSimple k || S.hasComplex k) = true →
      (∃ q, qnameOf pm k = some q ∧ resolveQ pm q = some k) ∧ (S.hasSimple k || S.hasComplex k) = true ∧
      (k.1 = d ∨ k.1 ∈ (S.doc d).imports) ∧ k.1 ∈ S.docNs := by
    intro d k hv hd
    have hdoc := defined_has_doc S k hd
    refine ⟨qname_roundtrip pm S hp k hdoc, hd, ?_, hdoc⟩
    simp only [Schema.visible, Bool.or_eq_true, decide_eq_true_eq] at hv
    rcases hv with hv | hv
    · exact Or.inl hv
    · exact Or.inr (((doc_imports S d).2 k.1).mpr (List.contains_iff_mem.mp hv))
  intro r hr
  unfold Schema.namedRefs at hr
  rcases List.mem_append.mp hr with hr | hr
  · obtain ⟨e, he, hr⟩ := List.mem_flatMap.mp hr
    have hok := complexDefOk_iff.mp (hcx e he)
    rcases List.mem_append.mp hr with hr | hr
    · cases hb : e.2.base with
      | none => rw [hb] at hr; cases hr
      | some b =>
        rw [hb] at hr
        obtain rfl := List.mem_singleton.mp hr
        exact main e.1.1 b (hok.base b hb).1 (by simp [(hok.base b hb).2])
    · obtain ⟨p, hp', hr⟩ := List.mem_filterMap.mp hr
      cases ht : p.type with
      | builtin b => rw [ht] at hr; cases hr
      | named k =>
        rw [ht] at hr
        obtain rfl := Option.some.inj hr
        obtain ⟨hv, hd⟩ := refOk_iff.mp (hok.parts p hp').1 k ht
        exact main e.1.1 k hv hd
  · obtain ⟨e, he, rfl⟩ := List.mem_map.mp hr
    exact main e.1.1 e.2 (hel e he).1 (by rw [Bool.or_comm]; exact (hel e he).2)

end Schema
end SpyneModel
