/- C07: the schema phase, `XmlSchema.add` over the toposorted classes. One induction over `add` (`addCls_preserves`)
   carries every invariant of the state; `New` / `Done` say that a class a call tags is complete when the call returns
   (`addCls_new`). -/
import SpyneModel.Wsdl
import Proofs.Assoc
namespace SpyneModel.Wsdl
open SpyneModel
variable (F : Facts07) (I : IState)


theorem mem_upsert {κ β : Type} [DecidableEq κ] (k : κ) (v : β) (l : List (κ × β)) (kv : κ × β)
    (h : kv ∈ upsert k v l) : kv = (k, v) ∨ kv ∈ l := by
  induction l with
  | nil => simp [upsert] at h; exact Or.inl h
  | cons x r ih =>
    simp only [upsert] at h
    split at h
    · rcases List.mem_cons.mp h with h | h
      · exact Or.inl h
      · exact Or.inr (List.mem_cons_of_mem _ h)
    · rcases List.mem_cons.mp h with h | h
      · exact Or.inr (h ▸ List.mem_cons_self)
      · rcases ih h with h | h
        · exact Or.inl h
        · exact Or.inr (List.mem_cons_of_mem _ h)

theorem upsert_keys {κ β : Type} [DecidableEq κ] (k : κ) (v : β) (l : List (κ × β)) :
    (upsert k v l).map (·.1) = if k ∈ l.map (·.1) then l.map (·.1) else l.map (·.1) ++ [k] := by
  induction l with
  | nil => simp [upsert]
  | cons x r ih =>
    simp only [upsert]
    split
    · rename_i heq
      simp [heq]
    · rename_i hne
      simp only [List.map_cons, ih, List.mem_cons]
      have hne' : ¬ k = x.1 := fun h => hne h.symm
      by_cases hk : k ∈ r.map (·.1)
      · simp [hk]
      · simp [hk, hne']

theorem keys_upsert {κ β : Type} [DecidableEq κ] (k : κ) (v : β) (l : List (κ × β)) (x : κ) :
    x ∈ (upsert k v l).map (·.1) ↔ x = k ∨ x ∈ l.map (·.1) := by
  rw [upsert_keys]
  split
  · rename_i hk
    exact ⟨Or.inr, fun h => h.elim (fun h => h ▸ hk) id⟩
  · simp only [List.mem_append, List.mem_singleton]
    exact Or.comm

theorem mem_upsert_self {κ β : Type} [DecidableEq κ] (k : κ) (v : β) (l : List (κ × β)) : (k, v) ∈ upsert k v l := by
  induction l with
  | nil => exact List.mem_cons_self
  | cons x r ih =>
    simp only [upsert]
    split
    · exact List.mem_cons_self
    · exact List.mem_cons_of_mem _ ih

/-- `get_schema_info` followed by the update is an `upsert` of the updated old entry (the empty one where the namespace
    is new), so what `modifyInfo` does to keys and entries is read off `upsert` -/
theorem modifyInfo_eq_upsert (ns : String) (f : SInfo → SInfo) (infos : List (String × SInfo)) :
    modifyInfo ns f infos = upsert ns (f ((infos.lookup ns).getD ⟨[], []⟩)) infos := by
  induction infos with
  | nil => rfl
  | cons x r ih =>
    obtain ⟨k, v⟩ := x
    by_cases h : k = ns
    · simp [modifyInfo, upsert, h]
    · simp [modifyInfo, upsert, List.lookup_cons, h, beq_false_of_ne (Ne.symm h), ih]

theorem modifyInfo_keys (ns : String) (f : SInfo → SInfo) (infos : List (String × SInfo)) :
    (modifyInfo ns f infos).map (·.1) = if ns ∈ infos.map (·.1) then infos.map (·.1) else infos.map (·.1) ++ [ns] := by
  rw [modifyInfo_eq_upsert, upsert_keys]

theorem mem_modifyInfo (ns : String) (f : SInfo → SInfo) (infos : List (String × SInfo)) (kv : String × SInfo)
    (h : kv ∈ modifyInfo ns f infos) :
    kv ∈ infos ∨ (kv.1 = ns ∧ ∃ old, (old = ⟨[], []⟩ ∨ (ns, old) ∈ infos) ∧ kv.2 = f old) := by
  rw [modifyInfo_eq_upsert] at h
  refine (mem_upsert _ _ _ _ h).symm.imp_right fun e => ?_
  subst e
  refine ⟨rfl, _, ?_, rfl⟩
  cases hl : infos.lookup ns with
  | none => exact Or.inl rfl
  | some old => exact Or.inr (mem_of_lookup hl)

theorem modifyInfo_keeps (ns : String) (f : SInfo → SInfo) (infos : List (String × SInfo)) (ns' : String) (info : SInfo)
    (h : (ns', info) ∈ infos) :
    (ns', info) ∈ modifyInfo ns f infos ∨ (ns' = ns ∧ (ns, f info) ∈ modifyInfo ns f infos) := by
  induction infos with
  | nil => cases h
  | cons x r ih =>
    simp only [modifyInfo]
    split
    · rename_i heq
      rcases List.mem_cons.mp h with h | h
      · subst h
        exact Or.inr ⟨heq, List.mem_cons_self⟩
      · exact Or.inl (List.mem_cons_of_mem _ h)
    · rcases List.mem_cons.mp h with h | h
      · exact Or.inl (h ▸ List.mem_cons_self)
      · rcases ih h with h | ⟨h1, h2⟩
        · exact Or.inl (List.mem_cons_of_mem _ h)
        · exact Or.inr ⟨h1, List.mem_cons_of_mem _ h2⟩

theorem modifyInfo_has (ns : String) (f : SInfo → SInfo) (infos : List (String × SInfo)) :
    ∃ old, (ns, f old) ∈ modifyInfo ns f infos :=
  ⟨_, modifyInfo_eq_upsert ns f infos ▸ mem_upsert_self _ _ _⟩


abbrev HasType (infos : List (String × SInfo)) (ns tn : String) : Prop :=
  ∃ info, (ns, info) ∈ infos ∧ tn ∈ info.types.map (·.1)

abbrev HasElem (infos : List (String × SInfo)) (ns n : String) : Prop :=
  ∃ info, (ns, info) ∈ infos ∧ n ∈ info.elements.map (·.1)

/-- the state only grows -/
structure Le (a b : SSt) : Prop where
  tags : ∀ j ∈ a.tags, j ∈ b.tags
  trace : ∀ x ∈ a.trace, x ∈ b.trace
  types : ∀ ns tn, HasType a.infos ns tn → HasType b.infos ns tn
  elems : ∀ ns n, HasElem a.infos ns n → HasElem b.infos ns n

theorem Le.refl (a : SSt) : Le a a := ⟨fun _ h => h, fun _ h => h, fun _ _ h => h, fun _ _ h => h⟩

theorem Le.trans {a b c : SSt} (h1 : Le a b) (h2 : Le b c) : Le a c :=
  ⟨fun j h => h2.tags j (h1.tags j h), fun x h => h2.trace x (h1.trace x h),
   fun ns tn h => h2.types ns tn (h1.types ns tn h), fun ns n h => h2.elems ns n (h1.elems ns n h)⟩

theorem le_trace (st : SSt) (l : List String) : Le st { st with trace := st.trace ++ l } :=
  ⟨fun _ h => h, fun _ h => List.mem_append_left _ h, fun _ _ h => h, fun _ _ h => h⟩

theorem le_touch (st : SSt) (ns : String) : Le st (st.touch ns) := le_trace st [ns]

theorem le_touchOpt (st : SSt) (I : IState) (o : Option Nat) : Le st (st.touchOpt I o) := by
  cases o with
  | none => exact Le.refl st
  | some b => exact le_touch st _

theorem le_tag (st : SSt) (i : Nat) : Le st { st with tags := i :: st.tags } :=
  ⟨fun _ h => List.mem_cons_of_mem _ h, fun _ h => h, fun _ _ h => h, fun _ _ h => h⟩

theorem has_modify (keys : SInfo → List String) (f : SInfo → SInfo) (hf : ∀ i k, k ∈ keys i → k ∈ keys (f i))
    (infos : List (String × SInfo)) (ns k ns' : String) (h : ∃ info, (ns, info) ∈ infos ∧ k ∈ keys info) :
    ∃ info, (ns, info) ∈ modifyInfo ns' f infos ∧ k ∈ keys info := by
  obtain ⟨info, hi, hk⟩ := h
  rcases modifyInfo_keeps ns' f infos ns info hi with h | ⟨h1, h2⟩
  · exact ⟨info, h, hk⟩
  · subst h1
    exact ⟨_, h2, hf info k hk⟩

theorem le_addType (st : SSt) (c : Cls) (node : TypeDef) : Le st (addType st c node) := by
  refine ⟨fun _ h => h, fun x h => List.mem_append_left _ h, fun ns tn h => ?_, fun ns n h => ?_⟩
  · refine has_modify (fun i => i.types.map (·.1)) _ ?_ st.infos ns tn c.ns h
    exact fun i k hk => (keys_upsert c.tn node i.types k).mpr (Or.inr hk)
  · refine has_modify (fun i => i.elements.map (·.1)) _ ?_ st.infos ns n c.ns h
    exact fun _ _ hk => hk

theorem le_addElement (tns : String) (st : SSt) (c : Cls) (node : ElemDecl) : Le st (addElement tns st c node) := by
  refine ⟨fun _ h => h, fun x h => List.mem_append_left _ h, fun ns tn h => ?_, fun ns n h => ?_⟩
  · refine has_modify (fun i => i.types.map (·.1)) _ ?_ st.infos ns tn (c.elemNs tns) h
    exact fun _ _ hk => hk
  · refine has_modify (fun i => i.elements.map (·.1)) _ ?_ st.infos ns n (c.elemNs tns) h
    exact fun i k hk => (keys_upsert c.elemName node i.elements k).mpr (Or.inr hk)

theorem addType_has (st : SSt) (c : Cls) (node : TypeDef) :
    HasType (addType st c node).infos c.ns c.tn ∧ c.ns ∈ (addType st c node).trace := by
  refine ⟨?_, by simp [addType]⟩
  obtain ⟨old, h⟩ := modifyInfo_has c.ns (fun i => { i with types := upsert c.tn node i.types }) st.infos
  exact ⟨_, h, (keys_upsert c.tn node old.types c.tn).mpr (Or.inl rfl)⟩

theorem addElement_has (tns : String) (st : SSt) (c : Cls) (node : ElemDecl) :
    HasElem (addElement tns st c node).infos (c.elemNs tns) c.elemName ∧ c.elemNs tns ∈ (addElement tns st c node).trace := by
  refine ⟨?_, by simp [addElement]⟩
  obtain ⟨old, h⟩ := modifyInfo_has (c.elemNs tns) (fun i => { i with elements := upsert c.elemName node i.elements }) st.infos
  exact ⟨_, h, (keys_upsert c.elemName node old.elements c.elemName).mpr (Or.inl rfl)⟩


/-- class `j` has been rendered completely -/
def Done (I : IState) (st : SSt) (j : Nat) : Prop :=
  (I.cls j).kind = .builtin ∨
  (HasType st.infos (I.cls j).ns (I.cls j).tn ∧ (I.cls j).ns ∈ st.trace ∧
   ((I.cls j).kind = .complex →
      HasElem st.infos ((I.cls j).elemNs I.tns) (I.cls j).elemName ∧ (I.cls j).elemNs I.tns ∈ st.trace ∧
      (∀ f ∈ (I.cls j).fields, f.isAttr = false → f.isData = false → f.ty ∈ st.tags) ∧
      (∀ f ∈ (I.cls j).fields, f.isData = true → f.inner ∈ st.tags)))

theorem Done.mono {I : IState} {a b : SSt} (h : Le a b) {j : Nat} (hd : Done I a j) : Done I b j := by
  rcases hd with hd | ⟨h1, h2, h3⟩
  · exact Or.inl hd
  · refine Or.inr ⟨h.types _ _ h1, h.trace _ h2, fun hc => ?_⟩
    obtain ⟨e1, e2, e3, e4⟩ := h3 hc
    exact ⟨h.elems _ _ e1, h.trace _ e2, fun f hf ha hd => h.tags _ (e3 f hf ha hd), fun f hf hd => h.tags _ (e4 f hf hd)⟩

/-- the acyclic numbering of the class table, as far as `add` needs it -/
def Ranked (I : IState) : Prop :=
  ∀ i, i < I.classes.length → ∀ f ∈ (I.cls i).fields,
    (f.isAttr = false → f.isData = false → f.ty < i) ∧ (f.isData = true → f.inner < i)

theorem fieldsLoop_preserves (rec : Nat → SSt → SSt) (P : SSt → Prop)
    (hrec : ∀ k st, P st → P (rec k st)) (htrace : ∀ st l, P st → P { st with trace := st.trace ++ l })
    (fs : List Field) (st : SSt) (h : P st) : P (fieldsLoop I rec fs st) := by
  induction fs generalizing st with
  | nil => exact h
  | cons f fs ih =>
    simp only [fieldsLoop]
    split
    · exact ih st h
    · exact ih _ (htrace _ _ (hrec f.ty st h))

theorem dataLoop_preserves (rec : Nat → SSt → SSt) (P : SSt → Prop)
    (hrec : ∀ k st, P st → P (rec k st)) (htrace : ∀ st l, P st → P { st with trace := st.trace ++ l })
    (fs : List Field) (st : SSt) (h : P st) : P (dataLoop I rec fs st) := by
  induction fs generalizing st with
  | nil => exact h
  | cons f fs ih =>
    simp only [dataLoop]
    split
    · exact ih _ (htrace _ _ (hrec f.inner st h))
    · exact ih st h

/-- `add` does four things to the state: it tags a class, requests prefixes, and registers the type and the
    element of a class it has tagged. A property that each of the four preserves holds after `add`. -/
theorem addCls_preserves (fuel : Nat) : ∀ (P : SSt → Prop),
    (∀ st i, P st → P { st with tags := i :: st.tags }) →
    (∀ st l, P st → P { st with trace := st.trace ++ l }) →
    (∀ st i, i ∈ st.tags → (I.cls i).kind ≠ .builtin → P st → P (addType st (I.cls i) (nodeOf I (I.cls i)))) →
    (∀ st i, i ∈ st.tags → (I.cls i).kind = .complex → P st →
      P (addElement I.tns st (I.cls i) ⟨(I.cls i).elemName, typeQN (I.cls i)⟩)) →
    ∀ i st, P st → P (addCls I fuel i st) := by
  induction fuel with
  | zero => intro P _ _ _ _ i st h; exact h
  | succ fuel ih =>
    intro P htag htrace htype helem i st h
    have hopt : ∀ st, P st → P (st.touchOpt I (I.cls i).ext) := by
      intro st h
      cases (I.cls i).ext with
      | none => exact h
      | some b => exact htrace _ _ h
    simp only [addCls]
    split
    · exact h
    · have h1 := htag st i h
      have hi : i ∈ ({ st with tags := i :: st.tags } : SSt).tags := List.mem_cons_self
      cases hk : (I.cls i).kind with
      | builtin => exact h1
      | simple => exact hopt _ (htype _ i hi (by rw [hk]; nofun) h1)
      | enum => exact htype _ i hi (by rw [hk]; nofun) (htrace _ _ h1)
      | complex =>
        -- the members are added with `i` tagged all along
        have hrec : ∀ k s, P s ∧ i ∈ s.tags → P (addCls I fuel k s) ∧ i ∈ (addCls I fuel k s).tags :=
          ih (fun s => P s ∧ i ∈ s.tags) (fun _ _ h => ⟨htag _ _ h.1, List.mem_cons_of_mem _ h.2⟩)
            (fun _ _ h => ⟨htrace _ _ h.1, h.2⟩) (fun _ j hj hk h => ⟨htype _ j hj hk h.1, h.2⟩)
            (fun _ j hj hk h => ⟨helem _ j hj hk h.1, h.2⟩)
        have hS := fieldsLoop_preserves I (addCls I fuel) _ hrec (fun _ _ h => ⟨htrace _ _ h.1, h.2⟩) (I.cls i).fields _
          (dataLoop_preserves I (addCls I fuel) _ hrec (fun _ _ h => ⟨htrace _ _ h.1, h.2⟩) (I.cls i).fields _
            ⟨hopt _ h1, by cases (I.cls i).ext <;> exact hi⟩)
        exact helem _ i hS.2 hk (htrace _ _ (htype _ i hS.2 (by rw [hk]; nofun) (htrace _ _ hS.1)))

theorem mainLoop_preserves (P : SSt → Prop) (hadd : ∀ i st, P st → P (addCls I I.classes.length i st))
    (order : List Nat) (st : SSt) (h : P st) : P (mainLoop I order st) := by
  induction order generalizing st with
  | nil => exact h
  | cons i is ih => exact ih _ (hadd i st h)

/-- every class tagged between `a` and `b` is rendered completely in `b` -/
def New (I : IState) (a b : SSt) : Prop := ∀ j ∈ b.tags, j ∈ a.tags ∨ Done I b j

theorem New.refl (a : SSt) : New I a a := fun _ h => Or.inl h

theorem New.trans {a b c : SSt} (h1 : New I a b) (h2 : New I b c) (hl : Le b c) : New I a c := fun j hj =>
  (h2 j hj).elim (fun h => (h1 j h).imp_right (Done.mono hl)) Or.inr

theorem le_addCls (fuel i : Nat) (st : SSt) : Le st (addCls I fuel i st) :=
  addCls_preserves I fuel (Le st) (fun s i h => h.trans (le_tag s i)) (fun s l h => h.trans (le_trace s l))
    (fun s _ _ _ h => h.trans (le_addType s _ _)) (fun s _ _ _ h => h.trans (le_addElement I.tns s _ _)) i st (Le.refl st)

theorem le_fieldsLoop (fuel : Nat) (fs : List Field) (st : SSt) : Le st (fieldsLoop I (addCls I fuel) fs st) :=
  fieldsLoop_preserves I _ (Le st) (fun k s h => h.trans (le_addCls I fuel k s)) (fun s l h => h.trans (le_trace s l)) fs st
    (Le.refl st)

theorem le_dataLoop (fuel : Nat) (fs : List Field) (st : SSt) : Le st (dataLoop I (addCls I fuel) fs st) :=
  dataLoop_preserves I _ (Le st) (fun k s h => h.trans (le_addCls I fuel k s)) (fun s l h => h.trans (le_trace s l)) fs st
    (Le.refl st)

/-- a loop over members that calls `add` on those `sel` picks (the element members, the XmlData members) -/
theorem loop_new (fuel : Nat) (loop : List Field → SSt → SSt) (sel : Field → Bool) (ty : Field → Nat)
    (hnil : ∀ st, loop [] st = st)
    (hcons : ∀ f fs st, loop (f :: fs) st =
      if sel f then loop fs ((addCls I fuel (ty f) st).touch (I.cls (ty f)).ns) else loop fs st)
    (hle : ∀ fs st, Le st (loop fs st)) (fs : List Field)
    (hrec : ∀ f ∈ fs, sel f = true → ∀ st, New I st (addCls I fuel (ty f) st) ∧ ty f ∈ (addCls I fuel (ty f) st).tags)
    (st : SSt) : New I st (loop fs st) ∧ ∀ f ∈ fs, sel f = true → ty f ∈ (loop fs st).tags := by
  induction fs generalizing st with
  | nil => rw [hnil]; exact ⟨New.refl I st, fun f hf => by cases hf⟩
  | cons f fs ih =>
    rw [hcons]
    have ih' := fun st => ih (fun g hg => hrec g (List.mem_cons_of_mem _ hg)) st
    by_cases hs : sel f = true
    · rw [if_pos hs]
      obtain ⟨n0, t0⟩ := hrec f List.mem_cons_self hs st
      obtain ⟨n1, t1⟩ := ih' ((addCls I fuel (ty f) st).touch (I.cls (ty f)).ns)
      have n0' : New I st ((addCls I fuel (ty f) st).touch (I.cls (ty f)).ns) :=
        New.trans I n0 (fun j hj => Or.inl hj) (le_touch _ _)
      refine ⟨New.trans I n0' n1 (hle _ _), fun g hg hgs => ?_⟩
      rcases List.mem_cons.mp hg with rfl | hg
      · exact (hle _ _).tags _ t0
      · exact t1 g hg hgs
    · rw [if_neg hs]
      obtain ⟨n1, t1⟩ := ih' st
      refine ⟨n1, fun g hg hgs => ?_⟩
      rcases List.mem_cons.mp hg with rfl | hg
      · exact absurd hgs hs
      · exact t1 g hg hgs

theorem fieldsLoop_cons (rec : Nat → SSt → SSt) (f : Field) (fs : List Field) (st : SSt) :
    fieldsLoop I rec (f :: fs) st =
      if (!(f.isAttr || f.isData)) = true then fieldsLoop I rec fs ((rec f.ty st).touch (I.cls f.ty).ns) else fieldsLoop I rec fs st := by
  simp only [fieldsLoop]
  cases (f.isAttr || f.isData) <;> rfl

/-- **`add` renders the class and everything its members need**: every class the call tags is complete when it returns -/
theorem addCls_new (hr : Ranked I) (fuel : Nat) :
    ∀ (i : Nat), i < fuel → fuel ≤ I.classes.length → ∀ st : SSt,
      New I st (addCls I fuel i st) ∧ i ∈ (addCls I fuel i st).tags := by
  induction fuel with
  | zero => intro i hi; cases hi
  | succ fuel ih =>
    intro i hi hlen st
    simp only [addCls]
    by_cases ht : st.tags.contains i = true
    · simp only [ht, if_true]
      exact ⟨New.refl I st, by simpa using ht⟩
    · simp only [ht, Bool.false_eq_true, if_false]
      -- whatever the handler does after tagging `i`: the classes tagged meanwhile are complete, and so is `i` at the end
      have close : ∀ (S : SSt), New I { st with tags := i :: st.tags } S → Done I S i → New I st S := fun S hn hd j hj =>
        (hn j hj).elim (fun h => (List.mem_cons.mp h).elim (fun e => Or.inr (e ▸ hd)) Or.inl) Or.inr
      have same : ∀ {a b : SSt}, Le a b → (∀ j ∈ b.tags, j ∈ a.tags) → New I a b := fun _ hs j hj => Or.inl (hs j hj)
      cases hk : (I.cls i).kind with
      | builtin => exact ⟨close _ (New.refl I _) (Or.inl hk), List.mem_cons_self⟩
      | simple =>
        simp only
        have l1 := le_addType { st with tags := i :: st.tags } (I.cls i) (nodeOf I (I.cls i))
        have l2 := le_touchOpt (addType { st with tags := i :: st.tags } (I.cls i) (nodeOf I (I.cls i))) I (I.cls i).ext
        have hh := addType_has { st with tags := i :: st.tags } (I.cls i) (nodeOf I (I.cls i))
        refine ⟨close _ (same (l1.trans l2) (fun j hj => by
            cases he : (I.cls i).ext <;> simpa [SSt.touchOpt, he, SSt.touch, addType] using hj)) ?_,
          (l1.trans l2).tags _ List.mem_cons_self⟩
        exact Or.inr ⟨l2.types _ _ hh.1, l2.trace _ hh.2, fun hc => by rw [hk] at hc; cases hc⟩
      | enum =>
        simp only
        have l1 := le_touch { st with tags := i :: st.tags } "http://www.w3.org/2001/XMLSchema"
        have l2 := le_addType (({ st with tags := i :: st.tags } : SSt).touch "http://www.w3.org/2001/XMLSchema") (I.cls i) (nodeOf I (I.cls i))
        have hh := addType_has (({ st with tags := i :: st.tags } : SSt).touch "http://www.w3.org/2001/XMLSchema") (I.cls i) (nodeOf I (I.cls i))
        refine ⟨close _ (same (l1.trans l2) (fun j hj => by simpa [addType, SSt.touch] using hj)) ?_,
          (l1.trans l2).tags _ List.mem_cons_self⟩
        exact Or.inr ⟨hh.1, hh.2, fun hc => by rw [hk] at hc; cases hc⟩
      | complex =>
        simp only
        have hi' : i < I.classes.length := Nat.lt_of_lt_of_le hi hlen
        have l0 := le_touchOpt { st with tags := i :: st.tags } I (I.cls i).ext
        have n0 : New I { st with tags := i :: st.tags } (({ st with tags := i :: st.tags } : SSt).touchOpt I (I.cls i).ext) :=
          same l0 (fun j hj => by cases he : (I.cls i).ext <;> simpa [SSt.touchOpt, he, SSt.touch] using hj)
        obtain ⟨nd, td⟩ := loop_new I fuel (dataLoop I (addCls I fuel)) (·.isData) (·.inner) (fun _ => rfl)
          (fun f fs st => by simp only [dataLoop]) (le_dataLoop I fuel) (I.cls i).fields
          (fun f hf hd st' => ih f.inner (by have := (hr i hi' f hf).2 hd; omega) (by omega) st')
          (({ st with tags := i :: st.tags } : SSt).touchOpt I (I.cls i).ext)
        have ld := le_dataLoop I fuel (I.cls i).fields (({ st with tags := i :: st.tags } : SSt).touchOpt I (I.cls i).ext)
        generalize dataLoop I (addCls I fuel) (I.cls i).fields (({ st with tags := i :: st.tags } : SSt).touchOpt I (I.cls i).ext) = D
          at nd td ld
        obtain ⟨nf, tf⟩ := loop_new I fuel (fieldsLoop I (addCls I fuel)) (fun f => !(f.isAttr || f.isData)) (·.ty) (fun _ => rfl)
          (fieldsLoop_cons I _) (le_fieldsLoop I fuel) (I.cls i).fields
          (fun f hf hs st' => ih f.ty (by
            have hs' : f.isAttr = false ∧ f.isData = false := by simpa using hs
            have := (hr i hi' f hf).1 hs'.1 hs'.2; omega) (by omega) st') D
        have lf := le_fieldsLoop I fuel (I.cls i).fields D
        generalize fieldsLoop I (addCls I fuel) (I.cls i).fields D = S at nf tf lf
        have nS : New I { st with tags := i :: st.tags } S := New.trans I (New.trans I n0 nd ld) nf lf
        have l2 := le_trace S (attrTrace I (I.cls i).fields)
        have l3 := le_addType { S with trace := S.trace ++ attrTrace I (I.cls i).fields } (I.cls i) (nodeOf I (I.cls i))
        have h3 := addType_has { S with trace := S.trace ++ attrTrace I (I.cls i).fields } (I.cls i) (nodeOf I (I.cls i))
        generalize hS3 : addType { S with trace := S.trace ++ attrTrace I (I.cls i).fields } (I.cls i) (nodeOf I (I.cls i)) = S3 at l3 h3
        have l4 := le_touch S3 (I.cls i).ns
        have l5 := le_addElement I.tns (S3.touch (I.cls i).ns) (I.cls i) ⟨(I.cls i).elemName, typeQN (I.cls i)⟩
        have h5 := addElement_has I.tns (S3.touch (I.cls i).ns) (I.cls i) ⟨(I.cls i).elemName, typeQN (I.cls i)⟩
        have lall := l2.trans (l3.trans (l4.trans l5))
        have nall : New I { st with tags := i :: st.tags } (addElement I.tns (S3.touch (I.cls i).ns) (I.cls i) ⟨(I.cls i).elemName, typeQN (I.cls i)⟩) :=
          New.trans I nS (same lall (fun j hj => by rw [← hS3] at hj; simpa [addElement, SSt.touch, addType] using hj)) lall
        refine ⟨close _ nall ?_, lall.tags _ (lf.tags _ (ld.tags _ (l0.tags _ List.mem_cons_self)))⟩
        refine Or.inr ⟨(l4.trans l5).types _ _ h3.1, (l4.trans l5).trace _ h3.2, fun _ => ⟨h5.1, h5.2, ?_, ?_⟩⟩
        · exact fun f hf ha hd => lall.tags _ (tf f hf (by simp [ha, hd]))
        · exact fun f hf hd => lall.tags _ (lf.tags _ (td f hf hd))

/-- after the loop over the toposorted classes, started with nothing tagged, every tagged class is complete -/
theorem mainLoop_new (hr : Ranked I) (order : List Nat) (ho : ∀ i ∈ order, i < I.classes.length) (st : SSt) :
    New I st (mainLoop I order st) ∧ Le st (mainLoop I order st) ∧ ∀ i ∈ order, i ∈ (mainLoop I order st).tags := by
  induction order generalizing st with
  | nil => exact ⟨New.refl I st, Le.refl st, fun i hi => by cases hi⟩
  | cons i is ih =>
    simp only [mainLoop]
    obtain ⟨n1, t1⟩ := addCls_new I hr I.classes.length i (ho i List.mem_cons_self) (Nat.le_refl _) st
    obtain ⟨n2, l2, t2⟩ := ih (fun j hj => ho j (List.mem_cons_of_mem _ hj)) (addCls I I.classes.length i st)
    refine ⟨New.trans I n1 n2 l2, (le_addCls I _ i st).trans l2, fun j hj => ?_⟩
    rcases List.mem_cons.mp hj with rfl | hj
    · exact l2.tags _ t1
    · exact t2 j hj

end SpyneModel.Wsdl
