/-
  `dt_format` / `date_format`: `strptime` reads back what `strftime` renders for a well-formed format.
-/
import Proofs.Numeral
namespace SpyneModel

/-- what `strptime` is expected to fill in: the fields the format mentions -/
def applyFmt (f : Fields) : Fmt → Fields → Fields
  | [], acc => acc
  | .dir D :: rest, acc => applyFmt f rest (acc.set D (f.get D))
  | .lit _ :: rest, acc => applyFmt f rest acc

def Fields.inRange (f : Fields) : Prop :=
  1 ≤ f.y ∧ f.y ≤ 9999 ∧ 1 ≤ f.m ∧ f.m ≤ 12 ∧ 1 ≤ f.d ∧ f.d ≤ 31 ∧ f.H < 24 ∧ f.M < 60 ∧ f.S < 60

theorem yearText_pad4 (F : Facts08x) (y : Nat) (hpad : F.oldYearPad = .zero ∨ 1000 ≤ y) (hy : y ≤ 9999) :
    yearText F y = pad4 y := by
  unfold yearText
  by_cases h : y > 1900
  · simp [h]
  · simp only [h, if_false]
    rcases hpad with hp | hp
    · rw [hp]
    · cases hF : F.oldYearPad with
      | zero => rfl
      | space | other =>
        simp only
        -- four digits already: nothing to pad
        have h4 : natText y = pad4 y := by
          rw [natText_ge y (by omega), natText_ge (y / 10) (by omega), natText_ge (y / 10 / 10) (by omega),
            natText_lt (y / 10 / 10 / 10) (by omega)]
          simp [pad4, (div_pow10 y).1, (div_pow10 y).2.1]
        rw [h4]; simp [pad4]

theorem dirText_digits (F : Facts08x) (f : Fields) (hr : f.inRange) (hpad : F.oldYearPad = .zero ∨ 1000 ≤ f.y) (D : Dir) :
    (dirText F f D).all isDigit = true ∧ dirValue D (dirText F f D) = some (f.get D) ∧
    (∃ c t, dirText F f D = c :: t ∧ isDigit c = true) := by
  obtain ⟨hy1, hy2, hm1, hm2, hd1, hd2, hH, hM, hS⟩ := hr
  -- every directive writes a padded field, and the directive's pattern accepts a field of that width in its range
  have key : ∀ k n, Padded (k + 1) n (dirText F f D) → dirValue D (dirText F f D) = some n → n = f.get D →
      (dirText F f D).all isDigit = true ∧ dirValue D (dirText F f D) = some (f.get D) ∧
      (∃ c t, dirText F f D = c :: t ∧ isDigit c = true) :=
    fun k n hp hv e => ⟨hp.digits, e ▸ hv, hp.head⟩
  cases D with
  | Y =>
    have hp := pad4_padded f.y (by omega)
    rw [← yearText_pad4 F f.y hpad hy2] at hp
    exact key 3 _ hp (by simp [dirValue, dirText, hp.length, hp.value]) rfl
  | m =>
    have hp := pad2_padded f.m (by omega)
    exact key 1 _ hp (by simp [dirValue, dirText, Fields.get, hp.length, hp.value, hm1, hm2]) rfl
  | d =>
    have hp := pad2_padded f.d (by omega)
    exact key 1 _ hp (by simp [dirValue, dirText, Fields.get, hp.length, hp.value, hd1, hd2]) rfl
  | H =>
    have hp := pad2_padded f.H (by omega)
    exact key 1 _ hp (by simp [dirValue, dirText, Fields.get, hp.length, hp.value]; omega) rfl
  | M =>
    have hp := pad2_padded f.M (by omega)
    exact key 1 _ hp (by simp [dirValue, dirText, Fields.get, hp.length, hp.value]; omega) rfl
  | S =>
    have hp := pad2_padded f.S (by omega)
    exact key 1 _ hp (by simp [dirValue, dirText, Fields.get, hp.length, hp.value]; omega) rfl

/-- first character of what a well-formed format renders: never a blank after a blank, never a digit after a
    directive -/
theorem renderFmt_head (F : Facts08x) (f : Fields) (hr : f.inRange) (hpad : F.oldYearPad = .zero ∨ 1000 ≤ f.y)
    (i : FmtItem) (rest : Fmt) :
    ∃ c t, renderFmt F f (i :: rest) = c :: t ∧
      (i.isLitNonDigit = true → isDigit c = false) ∧ (i.isSpaceLit = false → isPyUSpace c = false) := by
  cases i with
  | lit c => exact ⟨c, _, rfl, by simp [FmtItem.isLitNonDigit], by simp [FmtItem.isSpaceLit]⟩
  | dir D =>
    obtain ⟨_, _, c, t, hct, hc⟩ := dirText_digits F f hr hpad D
    refine ⟨c, t ++ renderFmt F f rest, by simp [renderFmt, hct], by simp [FmtItem.isLitNonDigit], ?_⟩
    intro _
    exact digit_not_uspace c hc

theorem strptime_render (F : Facts08x) (f : Fields) (hr : f.inRange) (hpad : F.oldYearPad = .zero ∨ 1000 ≤ f.y) :
    ∀ (fmt : Fmt), fmt.wf = true → ∀ acc, strptimeFmt fmt (renderFmt F f fmt) acc = some (applyFmt f fmt acc) := by
  intro fmt
  induction fmt with
  | nil => intro _ acc; simp [strptimeFmt, renderFmt, applyFmt]
  | cons i rest ih =>
    intro hwf acc
    cases i with
    | lit c =>
      simp only [Fmt.wf, Bool.and_eq_true, Bool.not_eq_true', decide_eq_true_eq] at hwf
      obtain ⟨⟨⟨hcd, hcp⟩, hsp⟩, hrest⟩ := hwf
      simp only [renderFmt, applyFmt]
      unfold strptimeFmt
      by_cases hs : isPyUSpace c = true
      · simp only [hs, if_true]
        -- what follows is not a blank
        have hdw : (c :: renderFmt F f rest).dropWhile isPyUSpace = renderFmt F f rest := by
          simp only [List.dropWhile, hs]
          cases rest with
          | nil => simp [renderFmt]
          | cons j rest' =>
            simp only [hs, Bool.true_and] at hsp
            obtain ⟨c', t, hct, _, hns⟩ := renderFmt_head F f hr hpad j rest'
            rw [hct]
            exact dropWhile_head_false c' t (hns hsp)
        rw [hdw]
        exact ih hrest acc
      · simp only [hs]
        exact ih hrest acc
    | dir D =>
      simp only [Fmt.wf, Bool.and_eq_true, Bool.not_eq_true'] at hwf
      obtain ⟨⟨hnext, _⟩, hrest⟩ := hwf
      obtain ⟨hdig, hval, c, t, hct, hc⟩ := dirText_digits F f hr hpad D
      simp only [renderFmt, applyFmt]
      unfold strptimeFmt
      have hskip : skipDaySpace D (dirText F f D ++ renderFmt F f rest) = dirText F f D ++ renderFmt F f rest := by
        have hne : c ≠ ' ' := by intro e; subst e; simp [isDigit] at hc
        rw [hct]
        unfold skipDaySpace
        cases D <;> (try rfl)
        cases hh : (t ++ renderFmt F f rest) with
        | nil => simp [hh]
        | cons x r => simp [hh, hne]
      rw [hskip]
      have hsp : spanDigits (dirText F f D ++ renderFmt F f rest) = (dirText F f D, renderFmt F f rest) := by
        apply spanDigits_all _ hdig
        intro c' r' hcr
        cases rest with
        | nil => simp [renderFmt] at hcr
        | cons j rest' =>
          simp only at hnext
          obtain ⟨c'', t'', hct'', hnd, _⟩ := renderFmt_head F f hr hpad j rest'
          rw [hct''] at hcr
          simp at hcr
          rw [← hcr.1]
          exact hnd hnext
      simp only [hsp, hval]
      exact ih hrest _

theorem Fields.get_set (a : Fields) (D D' : Dir) (v : Nat) :
    (a.set D v).get D' = if D = D' then v else a.get D' := by
  cases D <;> cases D' <;> simp [Fields.set, Fields.get]

theorem applyFmt_get (f : Fields) : ∀ (fmt : Fmt) (acc : Fields) (D : Dir),
    (applyFmt f fmt acc).get D = if fmt.contains (.dir D) then f.get D else acc.get D := by
  intro fmt
  induction fmt with
  | nil => intro acc D; simp [applyFmt]
  | cons i rest ih =>
    intro acc D
    cases i with
    | lit c => simp [applyFmt, ih]
    | dir D' =>
      by_cases h2 : D' = D
      · subst h2; simp [applyFmt, ih, Fields.get_set]
      · have h3 : ¬ (D = D') := fun e => h2 e.symm
        simp [applyFmt, ih, Fields.get_set, h2, h3]

theorem Fields.ext_get (a b : Fields) (h : ∀ D, a.get D = b.get D) : a = b := by
  have hY := h .Y; have hm := h .m; have hd := h .d; have hH := h .H; have hM := h .M; have hS := h .S
  cases a; cases b
  simp [Fields.get] at hY hm hd hH hM hS
  simp [hY, hm, hd, hH, hM, hS]

def Fmt.hasAll (fmt : Fmt) (ds : List Dir) : Bool := ds.all (fun D => fmt.contains (.dir D))

theorem applyFmt_all (f : Fields) (fmt : Fmt) (acc : Fields)
    (h : fmt.hasAll [.Y, .m, .d, .H, .M, .S] = true) : applyFmt f fmt acc = f := by
  simp [Fmt.hasAll] at h
  apply Fields.ext_get
  intro D
  rw [applyFmt_get]
  cases D <;> simp [h]

theorem fieldsOf_inRange (d : Date) (t : Time) (hd : d.valid = true) (ht : t.valid = true) :
    (fieldsOf d t).inRange ∧ (fieldsOf d t).validDT = true := by
  obtain ⟨hy1, hy2, hm1, hm2, hd1, hd2⟩ := (Date.valid_iff d).1 hd
  obtain ⟨hh, hmi, hs, hus⟩ := (Time.valid_iff t).1 ht
  have hd3 := Nat.le_trans hd2 (daysInMonth_le _ _)
  refine ⟨⟨hy1, hy2, hm1, hm2, hd1, hd3, hh, hmi, hs⟩, ?_⟩
  obtain ⟨y, m, dd⟩ := d
  obtain ⟨h, mi, s, us⟩ := t
  simp only [fieldsOf, Fields.validDT, Bool.and_eq_true]
  exact ⟨hd, by simp [Time.valid]; simp at hh hmi hs; omega⟩

/-- `DateTime(dt_format=fmt)`: what is written is read back as the same wall clock, to the second
    (`%f` and `%z` are outside the modelled directives: microseconds and offset are not written);
    with `as_timezone` on top (a value converted to the zone first) the zone is put back on -/
theorem dateTimeFromTextFmt_render (F : Facts08x) (fmt : Fmt) (hwf : fmt.wf = true)
    (hall : fmt.hasAll [.Y, .m, .d, .H, .M, .S] = true) (x : DateTime) (hx : x.valid = true)
    (hpad : F.oldYearPad = .zero ∨ 1000 ≤ x.date.y) (asTz : Option Int) (hF : asTz ≠ none → F.fmtAsTz = .replace) :
    dateTimeFromTextFmt F fmt asTz (renderFmt F (fieldsOf x.date x.time) fmt) =
      .ok ⟨x.date, ⟨x.time.h, x.time.mi, x.time.s, 0⟩, asTz⟩ := by
  obtain ⟨hd, ht, _⟩ := (DateTime.valid_iff _).1 hx
  obtain ⟨hr, hv⟩ := fieldsOf_inRange x.date x.time hd ht
  unfold dateTimeFromTextFmt
  rw [strptime_render F _ hr hpad fmt hwf, applyFmt_all _ fmt _ hall]
  simp only [hv, if_true]
  cases asTz with
  | none => rfl
  | some o => simp only [hF (by simp)]; rfl

/-- `Date(date_format=fmt)` -/
theorem dateFromTextFmt_render (F : Facts08x) (G : Facts08) (fmt : Fmt) (hwf : fmt.wf = true)
    (hall : fmt.hasAll [.Y, .m, .d] = true) (x : Date) (hx : x.valid = true)
    (hpad : F.oldYearPad = .zero ∨ 1000 ≤ x.y) :
    dateFromTextFmt G fmt (dateToTextFmt F false fmt x) = .ok x := by
  have ht0 : Time.valid ⟨0, 0, 0, 0⟩ = true := by decide
  obtain ⟨hr, hv⟩ := fieldsOf_inRange x ⟨0, 0, 0, 0⟩ hx ht0
  unfold dateFromTextFmt dateToTextFmt
  simp only [Bool.false_and, Bool.false_eq_true, if_false]
  rw [strptime_render F _ hr hpad fmt hwf]
  simp [Fmt.hasAll] at hall
  -- the fields the format does not name keep their defaults, which are midnight as well
  have happ : applyFmt (fieldsOf x ⟨0, 0, 0, 0⟩) fmt {} = ⟨x.y, x.m, x.d, 0, 0, 0⟩ := by
    apply Fields.ext_get
    intro D
    rw [applyFmt_get]
    cases D <;> simp [hall, Fields.get, fieldsOf]
  have hvd : Fields.validDT ⟨x.y, x.m, x.d, 0, 0, 0⟩ = true := by
    simp only [Fields.validDT, Bool.and_eq_true]
    exact ⟨hx, by decide⟩
  simp only [happ, hvd, if_true]

end SpyneModel
