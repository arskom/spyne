/-
  Two-digit numbers in a mixed radix: `hi * k + lo` with `lo < k` has quotient `hi` and remainder `lo`
  (the remainder on `Nat` is core's `Nat.mul_add_mod_of_lt`) and lies below `m * k` when `hi < m`.  Base64 and UTF-8
  groups (Proofs/Base64Digits, Proofs/Utf8Digits), digit strings and the bytes of a UUID (Proofs/Text, Proofs/Uuid), the
  minute of the day (Proofs/AsTimezone) and the index of a table key (Proofs/Hostile) are read off through these instead
  of by linear arithmetic over `/` and `%`.
-/
namespace SpyneModel.Radix

theorem div_mul_add {k hi lo : Nat} (h : lo < k) : (hi * k + lo) / k = hi := by
  rw [Nat.mul_comm, Nat.mul_add_div (Nat.zero_lt_of_lt h), Nat.div_eq_of_lt h, Nat.add_zero]

theorem lt_mul_add {k m hi lo : Nat} (hh : hi < m) (hl : lo < k) : hi * k + lo < m * k :=
  calc hi * k + lo < hi * k + k := Nat.add_lt_add_left hl _
    _ = (hi + 1) * k := (Nat.succ_mul hi k).symm
    _ ≤ m * k := Nat.mul_le_mul_right k hh

theorem ediv_emod_mul_add {k q r : Int} (h0 : 0 ≤ r) (hr : r < k) : (k * q + r) / k = q ∧ (k * q + r) % k = r :=
  (Int.ediv_emod_unique (Int.lt_of_le_of_lt h0 hr)).2 ⟨Int.add_comm .., h0, hr⟩

end SpyneModel.Radix
