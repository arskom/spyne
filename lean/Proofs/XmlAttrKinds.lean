/-
  Schema-independent facts about member kinds (no well-formedness of values or documents needed):
  an attribute / data member is never written as a child element and an element member never as an
  attribute; while reading, child elements never touch the slots of attribute / data members and the
  element's attributes never touch the slots of element / data members.
-/
import Proofs.XmlAttrBasic
import Proofs.XmlAttrRules
namespace SpyneModel
namespace Xml


/-- the element written for an object: its child elements are named after ELEMENT members only, its
    attributes after ATTRIBUTE members only (or are the `xsi:nil` marker) -/
theorem toParentA_kinds (F : Facts08) (tns ns name cname cns : Text) (cb : Option Text)
    (fields : List (Text × MKind × TyA)) (o : Occ) (hnd : namesNodupA fields = true) (cls : Text) (vs : List (Text × Val)) :
    ∃ attrs text children, toParentA F tns ns name (.obj cname cns cb fields o) (.obj cls vs) = [.elem ns name attrs text children] ∧
      (∀ c ∈ children, c.name ∈ namesOfKind .element fields ∧ c.name ∉ namesOfKind .attribute fields ∧
        c.name ∉ namesOfKind .data fields) ∧
      (∀ a ∈ attrs, a.1 = xsiNilKey ∨ (a.1 ∈ namesOfKind .attribute fields ∧ a.1 ∉ namesOfKind .element fields ∧
        a.1 ∉ namesOfKind .data fields)) := by
  refine ⟨_, _, _, rfl, ?_, ?_⟩
  · intro c hc
    rw [membersA_children] at hc
    have h := elemNodesA_names F tns cns fields vs c (by simpa using hc)
    exact ⟨h, namesOfKind_disjoint fields hnd _ _ _ (by simp) h, namesOfKind_disjoint fields hnd _ _ _ (by simp) h⟩
  · intro a ha
    rw [membersA_attrs] at ha
    rcases attrPairsA_keys F fields vs a (by simpa using ha) with h | h
    · right
      exact ⟨h, namesOfKind_disjoint fields hnd _ _ _ (by simp) h, namesOfKind_disjoint fields hnd _ _ _ (by simp) h⟩
    · left; exact h


theorem attrPass_keeps (F : Facts08) (A : FactsAttr) (cfg : Cfg) (fields : List (Text × MKind × TyA)) (k : Text)
    (kind : MKind) (t : TyA) (hk : lookupA fields k = some (kind, t)) (hne : kind ≠ .attribute) :
    (as : List (Text × Text)) → (st st' : List (Text × Val)) → attrPass F A cfg fields as st = .ok st' →
    stGet st' k = stGet st k := fun as st st' h =>
  attrPass_ind F A cfg fields (P := fun _ st1 => stGet st1 k = stGet st k)
    (fun _ key s p o v st1 hl _ h1 => by
      rw [stGet_stSet_ne st1 k key v (fun e => hne (by rw [e, hl] at hk; cases hk; rfl)), h1])
    (fun _ _ _ _ _ h1 => h1) as [] st st' rfl h

theorem dataPass_keeps (F : Facts08) (A : FactsAttr) (cfg : Cfg) (text : Option Text) (allFields : List (Text × MKind × TyA))
    (k : Text) (kind : MKind) (t : TyA) (hk : lookupA allFields k = some (kind, t)) (hne : kind ≠ .data)
    (fs : List (Text × MKind × TyA)) : (∀ f ∈ fs, lookupA allFields f.1 = some f.2) →
    ∀ (st st' : List (Text × Val)), dataPass F A cfg text fs st = .ok st' → stGet st' k = stGet st k :=
  fun hsub st st' h =>
  dataPass_ind F A cfg text (P := fun st1 => stGet st1 k = stGet st k) fs st st'
    (fun k0 p o s v st1 hm _ h1 => by
      rw [stGet_stSet_ne st1 k k0 v (fun e => hne (by rw [e, hsub _ hm] at hk; cases hk; rfl)), h1])
    rfl h

/-- with the child-attribute loop gone, reading the child elements leaves attribute and data members alone -/
theorem childLoopA_keeps (F : Facts08) (X : FactsXml) (A : FactsAttr) (hA : A.childAttrsIgnored = true) (cfg : Cfg)
    (I : IfaceA) (fields : List (Text × MKind × TyA)) (k : Text) (kind : MKind) (t : TyA)
    (hk : lookupA fields k = some (kind, t)) (hne : kind ≠ .element) :
    (cs : List Node) → (st st' : List (Text × Val)) → childLoopA F X A cfg I fields cs st = .ok st' →
    stGet st' k = stGet st k
  | [], st, st', h => by simp only [childLoopA] at h; cases h; rfl
  | c :: cs, st, st', h => by
    rcases childLoopA_ok h with ⟨_, h⟩ | ⟨mt, v, st1, hl, _, h1, h⟩
    · exact childLoopA_keeps F X A hA cfg I fields k kind t hk hne cs st st' h
    · have hkk : k ≠ c.name := by
        intro e
        rw [← e, hk] at hl
        exact hne (by cases hl; rfl)
      simp only [childAttrLeak, hA, if_true] at h1
      cases h1
      rw [childLoopA_keeps F X A hA cfg I fields k kind t hk hne cs _ st' h]
      split
      · exact stGet_stAppend_ne st k c.name v hkk
      · exact stGet_stSet_ne st k c.name v hkk

end Xml
end SpyneModel
