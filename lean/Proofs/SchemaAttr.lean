import Proofs.SchemaLists
import SpyneModel.SchemaAttr
/-!
  C06, member kinds (attributes, XmlData, choice groups): the layer of SpyneModel/SchemaAttr.lean is the
  identity on element-only interfaces. (That the extended set of documents compiles: Proofs/SchemaAttrCompile.lean.)
-/
namespace SpyneModel
namespace Schema
open Xml

/-- an element slot of the plain layer as an item of the extended content model: one that is in no choice group;
    `NoExt` is the case where every item is of this kind -/
def itemOf (e : Key × Occ) : Item := .one e.1 e.2

theorem itemsInPlace_nil (ns : Text) : ∀ ps : List Particle,
    itemsInPlace ns [] none ps = ps.map (fun p => Item.one (ns, p.name) p.occ)
  | [] => rfl
  | p :: r => by simp [itemsInPlace, flushRun, List.lookup, itemsInPlace_nil ns r]

theorem ownItems_nil (b : Bool) (ns : Text) (ps : List Particle) :
    ownItems b ns ps [] = ps.map (fun p => Item.one (ns, p.name) p.occ) := by
  cases b
  · have h1 : (ps.filterMap (fun p => ([] : List (Text × Text)).lookup p.name)) = [] := by
      induction ps with
      | nil => rfl
      | cons p r ih => simp [List.lookup]
    simp only [ownItems, itemsAtEnd, h1, firstOcc, List.map_nil, List.append_nil]
    simp only [List.lookup, Option.isNone_none]
    rw [List.filter_eq_self.mpr (fun _ _ => rfl)]
    simp
  · simp [ownItems, itemsInPlace_nil]

theorem seqOkX_ones : ∀ (sl : List (Key × Occ)) (names : List Key), seqOkX (sl.map itemOf) names = seqOk sl names
  | [], names => rfl
  | (k, o) :: r, names => by simp [seqOkX, seqOk, itemOf, seqOkX_ones r]

def NoExt (S : SchemaX) : Prop :=
  ∀ k, ((S.ext.lookup k).getD {}).attrs = [] ∧ ((S.ext.lookup k).getD {}).data = none ∧ ((S.ext.lookup k).getD {}).choice = []

theorem effX_plain (S : SchemaX) (hT : NoExt S) : ∀ (f : Nat) (k : Key),
    effX S f k = { items := (slots (effParticles S.core.complex f k)).map itemOf, attrs := [], data := none }
  | 0, k => by simp [effX, effParticles, slots]
  | f + 1, k => by
    simp only [effX, effParticles]
    cases hl : S.core.complex.lookup k with
    | none => simp [slots]
    | some d =>
      obtain ⟨h1, h2, h3⟩ := hT k
      simp only [h1, h2, h3, ownItems_nil]
      cases hb : d.base with
      | none => simp [slots, itemOf, Function.comp_def]
      | some b =>
        simp [effX_plain S hT f b, slots, itemOf, Function.comp_def]

theorem attrsDeclOk_nil (S : SchemaX) (attrs : List (Text × Text)) : attrsDeclOk S [] attrs = attrsOk attrs := by
  simp [attrsDeclOk, attrsOk]

theorem resolveX_plain (S : SchemaX) (hT : NoExt S) (t : TypeRef) :
    S.resolve t = (S.core.resolve t).map (fun r => match r with
      | .simple b fs => ResolvedX.simple b fs
      | .complex ps => ResolvedX.complex ps { items := (slots ps).map itemOf, attrs := [], data := none }) := by
  cases t with
  | builtin b => rfl
  | named k =>
    simp only [SchemaX.resolve, Schema.resolve]
    cases S.core.simple.lookup k with
    | some d => rfl
    | none =>
      by_cases h : S.core.hasComplex k = true
      · simp [h, effX_plain S hT S.core.chainBound k]
      · simp [h]

mutual
  theorem validElemX_plain (S : SchemaX) (hT : NoExt S) (t : TypeRef) (nillable : Bool) : ∀ x : Node,
      validElemX S t nillable x = validElem S.core t nillable x
    | .elem ns name attrs text children => by
      have ih := fun ps => validChildrenX_plain S hT ps children
      have hs : ∀ ps, (slots ps).isEmpty = ps.isEmpty := fun ps => by simp [slots]
      simp only [validElemX, validElem, resolveX_plain S hT]
      -- whatever `xsi:nil` says and whatever the type resolves to, the two sides are one conjunction
      rcases nilAttr attrs with _ | _ | _ | _ <;> rcases S.core.resolve t with _ | _ | _ <;>
        simp [attrsDeclOk_nil, seqOkX_ones, ih, hs, Bool.and_assoc, Bool.and_left_comm]

  theorem validChildrenX_plain (S : SchemaX) (hT : NoExt S) (ps : List (Text × Particle)) : ∀ cs : List Node,
      validChildrenX S ps cs = validChildren S.core ps cs
    | [] => rfl
    | c :: cs => by
      simp only [validChildrenX, validChildren]
      cases findParticle ps c.ns c.name with
      | none => simp
      | some p => simp only [validElemX_plain S hT p.type p.occ.nillable c, validChildrenX_plain S hT ps cs]
end

/-- **the layer is conservative**: when no class contributes an attribute, a simple content or a
    choice, the extended validator is the validator of Schema.lean on the core documents -/
theorem validX_plain (S : SchemaX) (hT : NoExt S) (x : Node) : S.valid x = S.core.valid x := by
  simp only [SchemaX.valid, Schema.valid]
  cases S.core.elements.lookup (nodeKey x) with
  | none => rfl
  | some tk => exact validElemX_plain S hT (.named tk) false x

theorem compilesX_plain (S : Schema) : (plainX S).compiles = S.compiles := by
  simp [SchemaX.compiles, plainX, nodupKeys]


mutual
  theorem elemTy_ofTy : ∀ t : Ty, elemTy (TyA.ofTy t) = t
    | .prim p o => rfl
    | .obj n ns b fs o => by simp [TyA.ofTy, elemTy, elemFields_ofFields fs]
    | .arr m e o => by simp [TyA.ofTy, elemTy, elemTy_ofTy e]

  theorem elemFields_ofFields : ∀ fs : List (Text × Ty), elemFields (TyA.ofFields fs) = fs
    | [] => rfl
    | (k, t) :: r => by simp [TyA.ofFields, elemFields, elemTy_ofTy t, elemFields_ofFields r]
end

theorem elemIface_ofIface (I : Iface) : elemIface (IfaceA.ofIface I) = I := by
  cases I with
  | mk classes others tns =>
    simp only [elemIface, IfaceA.ofIface, List.map_map, Iface.mk.injEq, and_true]
    constructor
    · rw [List.map_congr_left (g := id)]
      · simp
      · intro c _
        cases c
        simp [elemClass, elemFields_ofFields]
    · rw [List.map_congr_left (g := id)]
      · simp
      · intro e _
        simp [elemTy_ofTy]

def AppA.ofApp (A : App) : AppA :=
  { facts := A.facts, leaf := A.leaf, iface := IfaceA.ofIface A.iface, enumKeys := A.enumKeys, values := A.values }

theorem elemApp_ofApp (A : App) : (AppA.ofApp A).elemApp = A := by
  cases A
  simp [AppA.ofApp, AppA.elemApp, elemIface_ofIface]

theorem ofFields_element : ∀ (fs : List (Text × Ty)), ∀ f ∈ TyA.ofFields fs, f.2.1 = MKind.element
  | [], f, hf => by simp [TyA.ofFields] at hf
  | (k, t) :: r, f, hf => by
    simp only [TyA.ofFields, List.mem_cons] at hf
    rcases hf with e | e
    · subst e; rfl
    · exact ofFields_element r f e

theorem ownFieldsA_sub (I : IfaceA) (C : ClassDefA) : ∀ f ∈ ownFieldsA I C, f ∈ C.fields := by
  intro f hf
  unfold ownFieldsA at hf
  cases hp : parentOfA I C with
  | none => rw [hp] at hf; exact hf
  | some P => rw [hp] at hf; exact List.mem_of_mem_drop hf

theorem classExt_ofApp (A : App) (C : ClassDefA) (hC : C ∈ (AppA.ofApp A).iface.classes) :
    classExt (AppA.ofApp A) C = {} := by
  have hel : ∀ f ∈ ownFieldsA (AppA.ofApp A).iface C, f.2.1 = MKind.element := by
    intro f hf
    have hf' := ownFieldsA_sub _ _ f hf
    simp only [AppA.ofApp, IfaceA.ofIface, List.mem_map] at hC
    obtain ⟨c, _, rfl⟩ := hC
    exact ofFields_element c.fields f hf'
  have h1 : (ownFieldsA (AppA.ofApp A).iface C).filterMap (attrOf (AppA.ofApp A) C) = [] := by
    rw [List.filterMap_eq_nil_iff]
    intro f hf
    simp [attrOf, hel f hf]
  have h2 : (ownFieldsA (AppA.ofApp A).iface C).findSome? (dataOf (AppA.ofApp A) C) = none := by
    rw [List.findSome?_eq_none_iff]
    intro f hf
    simp [dataOf, hel f hf]
  have h3 : choiceOf (AppA.ofApp A) C = [] := by
    unfold choiceOf
    rw [List.filterMap_eq_nil_iff]
    intro k _
    simp [AppA.groupOf, AppA.ofApp]
  simp [classExt, h1, h2, h3]

theorem noExt_ofApp (A : App) : NoExt (genA (AppA.ofApp A)) := by
  intro k
  have : (((genA (AppA.ofApp A)).ext.lookup k).getD {}) = ({} : ClassExt) := by
    show (((AppA.ofApp A).iface.classes.map (fun C => ((C.ns, C.name), classExt (AppA.ofApp A) C))).lookup k).getD {} = {}
    exact lookup_map_all _ (fun C => (C.ns, C.name)) (classExt (AppA.ofApp A)) {} (fun C hC => classExt_ofApp A C hC) k
  rw [this]
  exact ⟨rfl, rfl, rfl⟩

/-- **conservative extension**: for an application without attribute / data / choice members the
    extended documents validate exactly what `gen` validates (so `generated_schema_denotes`,
    `emitted_valid`, `lxml_soft_agree` speak about them too) -/
theorem genA_ofApp_valid (A : App) (x : Node) : (genA (AppA.ofApp A)).valid x = (gen A).valid x := by
  rw [validX_plain _ (noExt_ofApp A)]
  show (gen (AppA.ofApp A).elemApp).valid x = (gen A).valid x
  rw [elemApp_ofApp]

theorem genA_ext_lookup (A : AppA) (hk : nodupKeys (A.iface.classes.map (fun C => ((C.ns, C.name), ()))) = true)
    (C : ClassDefA) (hC : C ∈ A.iface.classes) : (genA A).ext.lookup (C.ns, C.name) = some (classExt A C) :=
  lookup_of_mem_nodup A.iface.classes (fun C => (C.ns, C.name)) (classExt A) hk C hC

theorem mem_genA_ximports {A : AppA} {i : Text × Text} : i ∈ (genA A).ximports ↔
    ∃ C ∈ A.iface.classes, ∃ f ∈ ownFieldsA A.iface C, i ∈ modImport A C f := by
  simp only [genA, mem_dedupL, List.mem_flatMap]

/-- the simple types the layer adds are those of attribute / data members that the element part does not define -/
theorem mem_genA_xsimple {A : AppA} {e : Key × SimpleDef} (h : e ∈ (genA A).xsimple) :
    e ∈ rawModDefs A ∧ (gen A.elemApp).hasSimple e.1 = false := by
  have := List.mem_filter.mp (dedupAux_sub [] _ e h)
  exact ⟨this.1, by simpa using this.2⟩

theorem genA_xsimple_nodup (A : AppA) : nodupKeys (genA A).xsimple = true := nodupKeys_dedupAux [] _

theorem genA_hasSimple {A : AppA} {e : Key × SimpleDef} (h : e ∈ rawModDefs A) : (genA A).hasSimple e.1 = true := by
  show ((gen A.elemApp).hasSimple e.1 || ((dedupKeys ((rawModDefs A).filter _)).lookup e.1).isSome) = true
  cases hcs : (gen A.elemApp).hasSimple e.1 with
  | true => rfl
  | false => rw [lookup_dedupKeys, lookup_isSome_of_mem _ _ (List.mem_filter.mpr ⟨h, by simp [hcs]⟩)]; rfl

theorem mem_genA_docNs {A : AppA} {n : Text} :
    n ∈ (genA A).docNs ↔ n ∈ (gen A.elemApp).docNs ∨ ∃ e ∈ (genA A).xsimple, e.1.1 = n := by
  simp only [SchemaX.docNs, mem_dedupL, List.mem_append, List.mem_map]
  rfl

theorem mem_of_lookup_eq_some {α β} [BEq α] [LawfulBEq α] (l : List (α × β)) (k : α) (v : β) (h : l.lookup k = some v) :
    (k, v) ∈ l :=
  SpyneModel.mem_of_lookup h

end Schema
end SpyneModel
