/-
  C05 (XML part): the enforcement points of soft validation, each shown exact.
-/
import Proofs.XmlLeafRt
import Proofs.XmlRules
namespace SpyneModel
namespace Xml

/-- soft validation of a leaf element with text: accepted iff the text is in the lexical space of
    the type and the value satisfies every declared facet; then the value is delivered unchanged -/
theorem soft_leaf_exact {F : Facts08} (L : LeafLaws F) (X : FactsXml) (cfg : Cfg) (hs : cfg.soft = true)
    (p : PrimTy) (o : Occ) (s : Text) :
    leafFromElement F X cfg p o (some s) = leafSpec F p s := by
  rw [leafFromElement_text L, hs, if_pos rfl]

/-- an empty element: a string type reads the empty string (checked like any other text), every
    other type reads None, which is accepted iff the type is nillable -/
theorem soft_leaf_empty {F : Facts08} (L : LeafLaws F) {X : FactsXml} (hE : X.emptyStringText = true) (cfg : Cfg)
    (hs : cfg.soft = true) (p : PrimTy) (o : Occ) :
    leafFromElement F X cfg p o none =
      (match p with
       | .unicode _ _ _ _ => leafSpec F p []
       | .enum _ => .fault
       | _ => if o.nillable then .ok .none else .fault) := by
  rw [leafFromElement_none]
  cases p <;> simp [hs, hE, soft_leaf_exact L X cfg hs] <;> (cases o.nillable <;> rfl)

/-- `xsi:nil`: accepted (as None) iff the type is nillable -/
theorem soft_nil_exact (F : Facts08) (X : FactsXml) (cfg : Cfg) (hs : cfg.soft = true) (I : Iface) (t : Ty)
    (ns name : Text) (attrs : List (Text × Text)) (text : Option Text) (children : List Node)
    (hnil : isNil X attrs = true) :
    fromElement F X cfg I t (.elem ns name attrs text children) =
      if t.occ.nillable then .ok .none else .fault := by
  rw [fromElement_nil hnil, hs]
  cases t.occ.nillable <;> rfl

/-- occurrence constraints: an object is accepted only if every member occurs within
    `min_occurs .. max_occurs`. `hP`, `hx`: without `xsi:type` the element is read at the declared class, so
    `fields` are the members that are counted -/
theorem soft_freq_enforced (F : Facts08) (X : FactsXml) (cfg : Cfg) (hs : cfg.soft = true) (hP : cfg.parseXsiType = true)
    (I : Iface) (cname cns : Text) (cb : Option Text) (fields : List (Text × Ty)) (o : Occ)
    (ns name : Text) (attrs : List (Text × Text)) (text : Option Text) (children : List Node) (v : Val)
    (hx : attrs.lookup xsiTypeKey = none)
    (h : fromElement F X cfg I (.obj cname cns cb fields o) (.elem ns name attrs text children) = .ok v)
    (hv : v ≠ .none) : freqOk fields children = true := by
  have hres : resolved X cfg I (.obj cname cns cb fields o) attrs = some (.obj cname cns cb fields o) := by
    simp only [resolved, hP, if_true, hx]
  rcases fromElement_ok h with ⟨_, _, hn⟩ | ⟨_, _, hr, _⟩ | ⟨_, _, _, _, _, _, hr, _, hf, _⟩ | ⟨_, _, _, _, hr, _⟩
  · exact absurd hn hv
  · rw [hres] at hr; cases hr
  · -- the object branch: the resolved class is the declared one, and the value got past the occurrence check
    rw [hres] at hr
    cases hr
    simpa [hs] using hf
  · rw [hres] at hr; cases hr

end Xml
end SpyneModel
