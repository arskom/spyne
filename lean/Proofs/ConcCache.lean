/-
  C12 proofs: request threads over the shared caches / validator.

  Invariant (`RInv`): every cache cell holds nothing or f(key) (`graph`), and every operation any
  thread still has to execute is `Safe`.  Under it a step of any thread leaves every thread's
  sequential response (`soloResponse`) unchanged — so whatever the schedule, a finished thread has
  observed exactly what it observes when it runs alone.
-/
import SpyneModel.ConcCache
namespace SpyneModel.Conc

theorem rsetLoc_loc (s : RState) (i : Nat) (l : RLocal) (j : Nat) :
    (s.setLoc i l).loc j = if j = i then l else s.loc j := rfl

theorem rrun_append (F : RFacts) (a b : List Nat) :
    ∀ s, rrun F s (a ++ b) = rrun F (rrun F s a) b := by
  induction a with
  | nil => intro s; rfl
  | cons i rest ih => intro s; simp only [List.cons_append, rrun]; exact ih _

theorem rrun_inv {F : RFacts} {P : RState → Prop} (hP : ∀ s i, P s → P (rstep F s i)) (sched : List Nat) :
    ∀ s, P s → P (rrun F s sched) := by
  induction sched with
  | nil => intro s h; exact h
  | cons i rest ih => intro s h; exact ih _ (hP s i h)

/-- a step replaces the local state of the acting thread by one whose program has lost its head, and no other -/
theorem rstep_loc (F : RFacts) (s : RState) (i : Nat) :
    ∃ l, l.todo = (s.loc i).todo.tail ∧ (rstep F s i).loc = (s.setLoc i l).loc := by
  unfold rstep
  dsimp only
  repeat' split
  case h_1 h => exact ⟨s.loc i, by rw [h]; rfl, funext fun j => by rw [rsetLoc_loc]; split <;> simp [*]⟩
  all_goals exact ⟨_, by simp only [*, List.tail_cons], rfl⟩

theorem rstep_other (F : RFacts) (s : RState) (i j : Nat) (h : j ≠ i) : (rstep F s i).loc j = s.loc j := by
  obtain ⟨l, -, hl⟩ := rstep_loc F s i
  rw [hl, rsetLoc_loc, if_neg h]

theorem todo_step (F : RFacts) (s : RState) (i : Nat) :
    ((rstep F s i).loc i).todo = (s.loc i).todo.tail := by
  obtain ⟨l, ht, hl⟩ := rstep_loc F s i
  rw [hl, rsetLoc_loc, if_pos rfl, ht]

/-- a table entry after a step was there before, is `full`, or is what a `publish` at the head of the acting
    thread's program makes visible -/
theorem rstep_table (F : RFacts) (s : RState) (i : Nat) (k : Key) (v : Val)
    (h : (rstep F s i).table k = some v) :
    s.table k = some v ∨ v = .full ∨ ∃ k', (s.loc i).todo.head? = some (.publish k') ∧ v = published F k' := by
  unfold rstep at h
  generalize s.loc i = l at *
  obtain ⟨arg, inv, todo, obs, hits, err, cells⟩ := l
  cases todo with
  | nil => exact .inl h
  | cons op rest =>
    cases op with
    | publish k' =>
      dsimp only at h
      split at h
      · exact .inl h
      · simp only [RState.setLoc, RState.setTable] at h
        split at h
        · cases h; exact .inr (.inr ⟨k', rfl, rfl⟩)
        · exact .inl h
    | complete k' =>
      simp only [RState.setLoc, RState.setTable] at h
      split at h
      · cases h; exact .inr (.inl rfl)
      · exact .inl h
    | _ =>
      dsimp only at h
      repeat' split at h
      all_goals exact .inl h

theorem rstep_obs (F : RFacts) (s : RState) (i : Nat) (k : Key) (v : Val)
    (h : Obs.val k v ∈ ((rstep F s i).loc i).obs) :
    Obs.val k v ∈ (s.loc i).obs ∨ s.table k = some v ∨ v = .full := by
  unfold rstep at h
  generalize hl : s.loc i = l at *
  obtain ⟨arg, inv, todo, obs, hits, err, cells⟩ := l
  cases todo with
  | nil => rw [hl] at h; exact .inl h
  | cons op rest =>
    cases op with
    | probe k' =>
      dsimp only at h
      split at h <;> simp [RState.setLoc] at h <;> rcases h with h | ⟨rfl, rfl⟩
      · exact .inl h
      · exact .inr (.inl ‹_›)
      · exact .inl h
      · exact .inr (.inr rfl)
    | _ =>
      dsimp only at h
      repeat' split at h
      all_goals simp [RState.setLoc, RState.setTable] at h; exact .inl h

def AllSafe (F : RFacts) (l : RLocal) : Prop := ∀ op ∈ l.todo, op.Safe F

structure RInv (F : RFacts) (s : RState) : Prop where
  graph : ∀ k v, s.table k = some v → v = .full
  safe : ∀ i, AllSafe F (s.loc i)

theorem rinv_step (F : RFacts) (s : RState) (i : Nat) (h : RInv F s) : RInv F (rstep F s i) := by
  refine ⟨fun k v hv => ?_, fun j => ?_⟩
  · rcases rstep_table F s i k v hv with h1 | h1 | ⟨k', hk', rfl⟩
    · exact h.graph k v h1
    · exact h1
    · exact (h.safe i (.publish k') (List.mem_of_mem_head? hk')).1
  · by_cases hj : j = i
    · subst hj
      intro op hop
      rw [todo_step] at hop
      exact h.safe j op (List.mem_of_mem_tail hop)
    · rw [rstep_other F s i j hj]; exact h.safe j

theorem solo_step (F : RFacts) (s : RState) (i j : Nat) (h : RInv F s) :
    soloResponse ((rstep F s i).loc j) = soloResponse (s.loc j) := by
  by_cases hj : j = i
  case neg => rw [rstep_other F s i j hj]
  subst hj
  obtain ⟨hg, hn⟩ := h
  have hni := hn j
  unfold rstep
  generalize hl : s.loc j = l at *
  obtain ⟨arg, inv, todo, obs, hits, err, cells⟩ := l
  cases todo with
  | nil => rw [hl]
  | cons op rest =>
    have hop : op.Safe F := hni op List.mem_cons_self
    cases op with
    | probe k =>
      simp only
      split
      · rename_i v hv
        have := hg k v hv; subst this
        simp [RState.setLoc, soloResponse, soloObs]
      · simp [RState.setLoc, soloResponse, soloObs]
    | publish k =>
      have hno : ¬ (k.c = .bind ∧ F.rebindRaises = true ∧ (s.table k).isSome) := by
        intro ⟨h1, h2, _⟩; have := hop.2 h1; rw [this] at h2; cases h2
      simp only [hno, if_false]
      simp [RState.setLoc, RState.setTable, soloResponse, soloObs]
    | complete k => simp [RState.setLoc, RState.setTable, soloResponse, soloObs]
    | validate => simp [RState.setLoc, soloResponse, soloObs, payloadError]
    | readErr =>
      have he : F.errRead = .underLock := hop
      simp only [he]
      simp [RState.setLoc, soloResponse, soloObs]
    | park x => exact absurd hop (by simp [ROp.Safe])
    | unpark x => exact absurd hop (by simp [ROp.Safe])
    | setCtx c =>
      have hc : F.ctxShared c = false := hop
      have hfun : (fun y => List.lookup y ((c, arg) :: cells)) =
          fun y => if y = c then some arg else List.lookup y cells := by
        funext y
        by_cases hy : y = c
        · subst hy; simp [List.lookup]
        · have : (y == c) = false := by simpa using hy
          simp [List.lookup, this, hy]
      simp [hc, RState.setLoc, soloResponse, soloObs, hfun]
    | getCtx c =>
      have hc : F.ctxShared c = false := hop
      simp [hc, RState.setLoc, soloResponse, soloObs]

theorem rinv_run (F : RFacts) (sched : List Nat) : ∀ s, RInv F s → RInv F (rrun F s sched) :=
  rrun_inv (rinv_step F) sched

theorem solo_run (F : RFacts) (sched : List Nat) (j : Nat) (s : RState) (h : RInv F s) :
    soloResponse ((rrun F s sched).loc j) = soloResponse (s.loc j) :=
  (rrun_inv (P := fun s' => RInv F s' ∧ soloResponse (s'.loc j) = soloResponse (s.loc j))
    (fun s' i h' => ⟨rinv_step F s' i h'.1, (solo_step F s' i j h'.1).trans h'.2⟩) sched s ⟨h, rfl⟩).2

theorem finished_obs (l : RLocal) (h : l.finished = true) : soloResponse l = l.obs := by
  unfold RLocal.finished at h
  have : l.todo = [] := by simpa using h
  simp [soloResponse, this, soloObs]

theorem rinit_loc (reqs : List RLocal) (i : Nat) : (rinit reqs).loc i ∈ reqs ∨ (rinit reqs).loc i = {} := by
  show reqs.getD i {} ∈ reqs ∨ reqs.getD i {} = {}
  rw [List.getD_eq_getElem?_getD]
  by_cases hi : i < reqs.length
  · rw [List.getElem?_eq_getElem hi]; exact .inl (List.getElem_mem hi)
  · rw [List.getElem?_eq_none (by omega)]; exact .inr rfl

theorem rinv_init (F : RFacts) (reqs : List RLocal) (h : ∀ l ∈ reqs, AllSafe F l) : RInv F (rinit reqs) := by
  refine ⟨fun k v hv => (nomatch hv), fun i => ?_⟩
  rcases rinit_loc reqs i with hi | hi
  · exact h _ hi
  · rw [hi]; intro op hop; cases hop

/-- MAIN (request threads): for every schedule, a thread that has finished observed exactly what
    the same request observes when it is processed alone -/
theorem requests_alone (F : RFacts) (reqs : List RLocal) (h : ∀ l ∈ reqs, AllSafe F l)
    (sched : List Nat) (i : Nat) (hfin : ((rrun F (rinit reqs) sched).loc i).finished = true) :
    ((rrun F (rinit reqs) sched).loc i).obs = soloResponse ((rinit reqs).loc i) := by
  rw [← finished_obs _ hfin]
  exact solo_run F sched i _ (rinv_init F reqs h)

/-- every cache cell holds nothing or f(key), and every value a lookup returned is f(key) -/
def CacheFull (s : RState) : Prop :=
  (∀ k v, s.table k = some v → v = .full) ∧ ∀ i k v, Obs.val k v ∈ (s.loc i).obs → v = .full

/-- needs nothing of the programs, only that what a `publish` makes visible is f(key) -/
theorem cachefull_step (F : RFacts) (hF : ∀ k, published F k = .full) (s : RState) (i : Nat)
    (h : CacheFull s) : CacheFull (rstep F s i) := by
  refine ⟨fun k v hv => ?_, fun j k v hm => ?_⟩
  · rcases rstep_table F s i k v hv with h1 | h1 | ⟨k', -, rfl⟩
    · exact h.1 k v h1
    · exact h1
    · exact hF k'
  · by_cases hj : j = i
    · subst hj
      rcases rstep_obs F s j k v hm with h1 | h1 | h1
      · exact h.2 j k v h1
      · exact h.1 k v h1
      · exact h1
    · rw [rstep_other F s i j hj] at hm
      exact h.2 j k v hm

theorem todo_run_alone (F : RFacts) (i : Nat) (n : Nat) :
    ∀ s, (s.loc i).todo.length ≤ n → ((rrun F s (List.replicate n i)).loc i).todo = [] := by
  induction n with
  | zero => intro s h; simpa [rrun] using h
  | succ n ih =>
    intro s h
    simp only [List.replicate, rrun]
    apply ih
    rw [todo_step]
    simp only [List.length_tail]
    omega

end SpyneModel.Conc
