/-
  C15 proofs: what the frame means for observations. A lookup walks the `Attributes` chain downwards from its start and
  reads public parts only (`chainF_pubsel`), so `obs1` of a class the frame leaves alone is unchanged (`obs1_ext`).
-/
import Proofs.Derive
namespace SpyneModel.Derive

theorem AttrRec.pub_eq {r r' : AttrRec} :
    r.pub = r'.pub ↔ r.own = r'.own ∧ r.parent = r'.parent ∧ r.colArgs = r'.colArgs ∧ r.colRef = r'.colRef := by
  simp only [AttrRec.pub, Prod.mk.injEq]

/-- a lookup that only reads public parts only depends on the public parts of the records at or below its
    starting point -/
theorem chainF_pubsel {α : Type} (attrs attrs' : List AttrRec) (sel : AttrRec → Option α)
    (hsel : ∀ r r' : AttrRec, r.pub = r'.pub → sel r = sel r') (fuel : Nat) :
    ∀ a, (∀ x, x ≤ a → (attrs'[x]?).map AttrRec.pub = (attrs[x]?).map AttrRec.pub) →
      chainF attrs' sel fuel a = chainF attrs sel fuel a := by
  induction fuel with
  | zero => intro a _; simp [chainF]
  | succ fuel ih =>
    intro a hpub
    have ha := hpub a (Nat.le_refl _)
    simp only [chainF]
    cases h1 : attrs[a]? with
    | none =>
      cases h2 : attrs'[a]? with
      | none => rfl
      | some r' => simp [h1, h2] at ha
    | some r =>
      cases h2 : attrs'[a]? with
      | none => simp [h1, h2] at ha
      | some r' =>
        simp only [h1, h2, Option.map_some, Option.some.injEq] at ha
        have hs := hsel r' r ha
        have hp : r'.parent = r.parent := (AttrRec.pub_eq.mp ha).2.1
        simp only [hs, hp]
        cases sel r with
        | some v => rfl
        | none =>
          simp only
          cases r.parent with
          | none => rfl
          | some p =>
            simp only
            split
            · rename_i hlt
              exact ih p (fun x hx => hpub x (by omega))
            · rfl

theorem chainF_pub (attrs attrs' : List AttrRec) (k : String) (fuel : Nat) :
    ∀ a, (∀ x, x ≤ a → (attrs'[x]?).map AttrRec.pub = (attrs[x]?).map AttrRec.pub) →
      (chainF attrs' (fun r => kwLookup r.own k) fuel a).map (·.2)
        = (chainF attrs (fun r => kwLookup r.own k) fuel a).map (·.2) := by
  intro a h
  rw [chainF_pubsel attrs attrs' (fun r => kwLookup r.own k) (fun r r' e => by rw [(AttrRec.pub_eq.mp e).1]) fuel a h]

theorem chainF_fuel {α : Type} (attrs : List AttrRec) (sel : AttrRec → Option α) :
    ∀ f1 f2 a, a < f1 → a < f2 → chainF attrs sel f1 a = chainF attrs sel f2 a := by
  intro f1
  induction f1 with
  | zero => intro f2 a h; omega
  | succ f1 ih =>
    intro f2 a h1 h2
    cases f2 with
    | zero => omega
    | succ f2 =>
      simp only [chainF]
      cases attrs[a]? with
      | none => rfl
      | some r =>
        simp only
        cases sel r with
        | some v => rfl
        | none =>
          simp only
          cases r.parent with
          | none => rfl
          | some p =>
            simp only
            split
            · exact ih f2 p (by omega) (by omega)
            · rfl

theorem chainH_own {α : Type} (attrs : List AttrRec) (sel : AttrRec → Option α) (a : Nat) (r : AttrRec) (v : α)
    (hr : attrs[a]? = some r) (hs : sel r = some v) : chainH attrs sel a = some (a, v) := by
  simp [chainH, chainF, hr, hs]

theorem attrAt_ext {n na : Nat} {T : List Nat} {h h' : Heap} (e : Ext n na T h h') (a : Nat) (ha : a < na)
    (k : String) : attrAt h' a k = attrAt h a k := by
  unfold attrAt chain chainH
  exact chainF_pub h.attrs h'.attrs k (a + 1) a (fun x hx => e.attrs x (by omega))

theorem colSel_pub (r r' : AttrRec) (e : r.pub = r'.pub) : colSel r = colSel r' := by
  simp only [colSel, (AttrRec.pub_eq.mp e).2.2.1, (AttrRec.pub_eq.mp e).2.2.2]

/-- the resolved `sqla_column_args` of an existing record is part of the frame -/
theorem colH_ext {n na : Nat} {T : List Nat} {h h' : Heap} (e : Ext n na T h h') (a : Nat) (ha : a < na) :
    colH h' a = colH h a := by
  unfold colH chainH
  rw [chainF_pubsel h.attrs h'.attrs colSel colSel_pub (a + 1) a (fun x hx => e.attrs x (by omega))]
  cases hch : chainF h.attrs colSel (a + 1) a with
  | none => rfl
  | some p =>
    obtain ⟨via, v⟩ := p
    cases v with
    | inl d => rfl
    | inr x =>
      simp only
      split
      · rename_i hlt
        -- the walk only visits records at or below its start
        have hvia : via ≤ a := by
          have : ∀ fuel s, chainF h.attrs colSel fuel s = some (via, Sum.inr x) → via ≤ s := by
            intro fuel
            induction fuel with
            | zero => intro s hs; simp [chainF] at hs
            | succ fuel ih =>
              intro s hs
              simp only [chainF] at hs
              cases hrec : h.attrs[s]? with
              | none => simp [hrec] at hs
              | some r =>
                simp only [hrec] at hs
                cases hsel : colSel r with
                | some v => simp [hsel] at hs; omega
                | none =>
                  simp only [hsel] at hs
                  cases hpar : r.parent with
                  | none => simp [hpar] at hs
                  | some p =>
                    simp only [hpar] at hs
                    split at hs
                    · have := ih p hs; omega
                    · cases hs
          exact this (a + 1) a hch
        have hx := e.attrs x (by omega)
        cases h1 : h.attrs[x]? with
        | none =>
          cases h2 : h'.attrs[x]? with
          | none => rfl
          | some r' => simp [h1, h2] at hx
        | some r =>
          cases h2 : h'.attrs[x]? with
          | none => simp [h1, h2] at hx
          | some r' =>
            simp only [h1, h2, Option.map_some, Option.some.injEq] at hx
            simp only [(AttrRec.pub_eq.mp hx).2.2.1]
      · rfl

theorem obs1_ext (F : Facts15) {n na : Nat} {T : List Nat} {h h' : Heap} (e : Ext n na T h h')
    (c : Nat) (hc : c < n) (ht : c ∉ T) (hr : ∀ cl, h.cls[c]? = some cl → cl.attrs < na) :
    obs1 F h' c = obs1 F h c := by
  unfold obs1
  rw [e.cls c hc ht]
  cases hcl : h.cls[c]? with
  | none => rfl
  | some cl =>
    have ha := hr cl hcl
    have hat : ∀ k, attrAt h' cl.attrs k = attrAt h cl.attrs k := fun k => attrAt_ext e _ ha k
    have hfun : attrAt h' cl.attrs = attrAt h cl.attrs := funext hat
    simp only [verdicts, hfun, hat, colH_ext e _ ha]

end SpyneModel.Derive
