/-
  What an element that `from_element` accepts looks like: one lemma per decoder function of SpyneModel/Xml.lean that
  lists the ways it can return a value. The proofs about accepted documents (C04, C05) start from these; of the decoder
  itself they open only the two loops on `[]`.
-/
import SpyneModel.Xml
namespace SpyneModel
namespace Xml

/-- the type `from_element` goes on with: the declared one, or what `xsi:type` names (`none` = ValidationError) -/
def resolved (X : FactsXml) (cfg : Cfg) (I : Iface) (t : Ty) (attrs : List (Text × Text)) : Option Ty :=
  if cfg.parseXsiType then
    (match attrs.lookup xsiTypeKey with
     | none => some t
     | some key => resolveXsi X I t key)
  else some t

theorem Cfg.soft_eq_true {cfg : Cfg} (h : cfg.validator = .soft) : cfg.soft = true := by
  simp [Cfg.soft, h]

theorem Cfg.soft_eq_false {cfg : Cfg} (h : cfg.validator ≠ .soft) : cfg.soft = false := by
  cases hv : cfg.validator <;> simp_all [Cfg.soft]

theorem isNil_cons (X : FactsXml) (v : Text) (rest : List (Text × Text)) :
    isNil X ((xsiNilKey, v) :: rest) =
      (match X.nilRule with
       | .anyNonEmpty => !v.isEmpty
       | .other => false
       | .xsdBoolean => v = "true".toList || v = "1".toList) := by
  rw [isNil, List.lookup_cons_self]
  rfl

/-- an attribute under another name is passed over -/
theorem isNil_skip (X : FactsXml) {k : Text} (h : (xsiNilKey == k) = false) (v : Text) (rest : List (Text × Text)) :
    isNil X ((k, v) :: rest) = isNil X rest := by
  rw [isNil, List.lookup_cons, h, isNil]

/-- both nil rules measured on /repo read `xsi:nil="true"` as nil -/
theorem isNil_true {X : FactsXml} (h : X.nilRule ≠ .other) : isNil X [(xsiNilKey, "true".toList)] = true := by
  rw [isNil_cons]
  cases hr : X.nilRule with
  | xsdBoolean => simp
  | anyNonEmpty => rfl
  | other => exact absurd hr h

/-- the `xsi:nil` rule of XSD: `true` and `1` are nil, `false` and `0` are not, whatever follows -/
theorem isNil_xsdBoolean {X : FactsXml} (h : X.nilRule = .xsdBoolean) (rest : List (Text × Text)) :
    isNil X ((xsiNilKey, "false".toList) :: rest) = false ∧
    isNil X ((xsiNilKey, "0".toList) :: rest) = false ∧
    isNil X ((xsiNilKey, "true".toList) :: rest) = true ∧
    isNil X ((xsiNilKey, "1".toList) :: rest) = true := by
  simp only [isNil_cons, h]
  decide

theorem isNil_nil (X : FactsXml) : isNil X [] = false := by simp [isNil, List.lookup]

section
variable {F : Facts08} {X : FactsXml} {cfg : Cfg} {I : Iface}

/-- `xsi:nil` wins over everything else an element carries -/
theorem fromElement_nil {t : Ty} {ns name : Text} {attrs : List (Text × Text)} {text : Option Text} {children : List Node}
    (h : isNil X attrs = true) :
    fromElement F X cfg I t (.elem ns name attrs text children) =
      (if cfg.soft && !t.occ.nillable then .fault else .ok .none) := by
  rw [fromElement, if_pos h]

/-- a returned value is None for a nil element, else what the leaf handler, the child loop or the array loop gave
    for the resolved type -/
theorem fromElement_ok {t : Ty} {ns name : Text} {attrs : List (Text × Text)} {text : Option Text} {children : List Node}
    {v : Val} (h : fromElement F X cfg I t (.elem ns name attrs text children) = .ok v) :
    (isNil X attrs = true ∧ (cfg.soft && !t.occ.nillable) = false ∧ v = .none) ∨
    (∃ p o, resolved X cfg I t attrs = some (.prim p o) ∧ leafFromElement F X cfg p o text = .ok v) ∨
    (∃ cname cns cb fields o st, resolved X cfg I t attrs = some (.obj cname cns cb fields o) ∧
      childLoop F X cfg I fields children (initState fields) = .ok st ∧
      (cfg.soft && !freqOk fields children) = false ∧ v = .obj cname st) ∨
    (∃ m elem o vs, resolved X cfg I t attrs = some (.arr m elem o) ∧
      arrayLoop F X cfg I elem children = .ok vs ∧ v = .list vs) := by
  unfold fromElement at h
  split at h
  · rename_i hn
    split at h
    · cases h
    · rename_i hs
      cases h
      exact Or.inl ⟨hn, by simpa using hs, rfl⟩
  · right
    dsimp only at h
    split at h
    · cases h
    · rename_i p o hr
      exact Or.inl ⟨p, o, hr, h⟩
    · rename_i cname cns cb fields o hr
      split at h
      · rename_i st hcl
        split at h
        · cases h
        · rename_i hf
          cases h
          exact Or.inr (Or.inl ⟨cname, cns, cb, fields, o, st, hr, hcl, by simpa using hf, rfl⟩)
      · cases h
      · cases h
    · rename_i m elem o hr
      split at h
      · rename_i vs hal
        cases h
        exact Or.inr (Or.inr ⟨m, elem, o, vs, hr, hal, rfl⟩)
      · cases h
      · cases h

/-- a child is skipped (no member of its name) or read as the member of its name and stored -/
theorem childLoop_ok {fields : List (Text × Ty)} {c : Node} {cs : List Node} {st st' : List (Text × Val)}
    (h : childLoop F X cfg I fields (c :: cs) st = .ok st') :
    (lookupField fields c.name = none ∧ childLoop F X cfg I fields cs st = .ok st') ∨
    (∃ mt v, lookupField fields c.name = some mt ∧ fromElement F X cfg I mt c = .ok v ∧
      childAttrCrash X fields c.attrs = false ∧
      childLoop F X cfg I fields cs (if mt.occ.repeated then stAppend st c.name v else stSet st c.name v) = .ok st') := by
  unfold childLoop at h
  split at h
  · rename_i hl
    exact Or.inl ⟨hl, h⟩
  · rename_i mt hl
    split at h
    · rename_i v hv
      split at h
      · cases h
      · rename_i hc
        exact Or.inr ⟨mt, v, hl, hv, by simpa using hc, h⟩
    · cases h
    · cases h

theorem arrayLoop_ok {elem : Ty} {c : Node} {cs : List Node} {vs : List Val}
    (h : arrayLoop F X cfg I elem (c :: cs) = .ok vs) :
    ∃ v ws, fromElement F X cfg I elem c = .ok v ∧ arrayLoop F X cfg I elem cs = .ok ws ∧ vs = v :: ws := by
  unfold arrayLoop at h
  split at h
  · rename_i v hv
    split at h
    · rename_i ws hws
      cases h
      exact ⟨v, ws, hv, hws, rfl⟩
    · cases h
    · cases h
  · cases h
  · cases h
end

end Xml
end SpyneModel
