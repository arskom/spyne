/-
  Lemmas for the two front ends of the C11 model that find the method name inside the message: the SOAP envelope
  (`serveSoap`, SpyneModel/DispatchSoap.lean: the first child of the Envelope's own Body) and a name that arrives as
  bytes (`serveWire`, SpyneModel/DispatchBytes.lean: strict UTF-8). Each is `serve` on the name it finds.
-/
import Proofs.Dispatch
import Proofs.DispatchBytes
import SpyneModel.DispatchSoap
namespace SpyneModel.Dispatch
open SpyneModel

theorem find_after_nonmatching {α} (p : α → Bool) (pre post : List α) (b : α) (hb : p b = true)
    (hpre : ∀ x ∈ pre, p x = false) : (pre ++ b :: post).find? p = some b := by
  induction pre with
  | nil => simp [hb]
  | cons x xs ih =>
    have hx := hpre x (by simp)
    simp only [List.cons_append, List.find?_cons, hx]
    exact ih (fun y hy => hpre y (by simp [hy]))

theorem isTag_node (ns loc : Text) (cs : List Xml) : (Xml.node (some ns) loc cs).isTag ns loc = true := by
  simp [Xml.isTag, Xml.ns, Xml.loc]

/-- the method is named by the first child of the Envelope's own Body; what precedes it (a Header with
    arbitrary content, other blocks) or follows it is never consulted -/
theorem soapMethod_direct (F : Facts11) (hS : F.soapBody = .directChild) (soapNs : Text)
    (pre post rest : List Xml) (m : Xml) (hpre : ∀ x ∈ pre, x.isTag soapNs "Body".toList = false) :
    soapMethod F soapNs (.node (some soapNs) "Envelope".toList
        (pre ++ .node (some soapNs) "Body".toList (m :: rest) :: post)) = some (m.ns, m.loc) := by
  have hf := find_after_nonmatching (fun (x : Xml) => x.isTag soapNs "Body".toList) pre post _
    (isTag_node soapNs _ (m :: rest)) hpre
  unfold soapMethod
  rw [isTag_node]
  simp only [hS, Xml.children, hf, Bool.not_true, Bool.false_eq_true, if_false]

theorem serveSoap_of_method (F : Facts11) (r : Routes) (tns soapNs : Text) (env : Xml) (ns : Option Text) (l : Text)
    (h : soapMethod F soapNs env = some (ns, l)) : serveSoap F r tns soapNs env = serve F r tns (.tag ns l) := by
  unfold serveSoap; rw [h]

theorem serveSoap_no_body (F : Facts11) (hS : F.soapBody = .directChild) (soapNs : Text) (cs : List Xml)
    (r : Routes) (tns : Text) (h : ∀ x ∈ cs, x.isTag soapNs "Body".toList = false) :
    serveSoap F r tns soapNs (.node (some soapNs) "Envelope".toList cs) = .clientFault := by
  have hf : cs.find? (fun (x : Xml) => x.isTag soapNs "Body".toList) = none := by
    rw [List.find?_eq_none]; intro x hx; rw [h x hx]; simp
  have hm : soapMethod F soapNs (.node (some soapNs) "Envelope".toList cs) = none := by
    unfold soapMethod
    rw [isTag_node]
    simp only [hS, Xml.children, hf, Bool.not_true, Bool.false_eq_true, if_false]
  unfold serveSoap; rw [hm]

theorem serveWire_bin (F : Facts11) (hB : F.binNames = .strictUtf8) (r : Routes) (tns : Text)
    (mk : Text → Request) (bs : List Nat) :
    serveWire F r tns mk (.bin bs) =
      (match decodeName bs with | none => .clientFault | some n => serve F r tns (mk n)) := by
  simp only [serveWire, WireName.decode, hB]
  cases decodeName bs <;> rfl

theorem serveWire_registered (F : Facts11) (hA : F.auxFirst = .insertFront) (hI : F.ifaceDup = .reject)
    (hE : F.emptyIsNotFound = true) (hB : F.binNames = .strictUtf8)
    (tns : Text) (ms : List Method) (r : Routes) (hb : build F tns ms = .ok r)
    (mk : Text → Request) (hmk : ∀ n, requestKey F tns (mk n) = qname tns n)
    (m : Method) (hm : m ∈ ms) (ha : m.aux = false) :
    serveWire F r tns mk (.bin (encodeName m.name)) =
      .ran (m.fid :: (auxs tns ms (routeKey tns m)).map (·.fid)) := by
  rw [serveWire_bin F hB, decodeName_encodeName]
  exact serve_registered F hA hI hE tns ms r hb m hm ha (mk m.name) (hmk m.name)

end SpyneModel.Dispatch
