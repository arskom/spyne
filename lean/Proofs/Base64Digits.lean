/-
  The arithmetic of base64 on plain numbers.  Three octets `a b c` are six bit fields
  `a / 4 | a % 4 | b / 16 | b % 16 | c / 64 | c % 64` (6, 2, 4, 4, 2, 6 bits); an octet joins them as 6+2, 4+4, 2+6,
  a sextet as 6, 2+4, 4+2, 6.  Every identity below is therefore a case of one fact: `hi * k + lo` with `lo < k` has
  quotient `hi` and remainder `lo` (Proofs/Radix).  No model is imported; SpyneModel/Binary.lean writes the groups with
  these formulas.
-/
import Proofs.Radix
namespace SpyneModel.Base64
open Radix

/-! ### octets to sextets and back (the encoder, then the decoder) -/

theorem sextets_lt {a b c : Nat} (ha : a < 256) (hb : b < 256) (hc : c < 256) :
    a / 4 < 64 ∧ a % 4 * 16 + b / 16 < 64 ∧ b % 16 * 4 + c / 64 < 64 ∧ c % 64 < 64 :=
  ⟨Nat.div_lt_of_lt_mul ha,
   lt_mul_add (m := 4) (Nat.mod_lt _ (by decide)) (Nat.div_lt_of_lt_mul hb),
   lt_mul_add (m := 16) (Nat.mod_lt _ (by decide)) (Nat.div_lt_of_lt_mul hc),
   Nat.mod_lt _ (by decide)⟩

theorem octets_sextets {a b c : Nat} (hb : b < 256) (hc : c < 256) :
    a / 4 * 4 + (a % 4 * 16 + b / 16) / 16 = a ∧
    (a % 4 * 16 + b / 16) % 16 * 16 + (b % 16 * 4 + c / 64) / 4 = b ∧
    (b % 16 * 4 + c / 64) % 4 * 64 + c % 64 = c := by
  have hb' : b / 16 < 16 := Nat.div_lt_of_lt_mul hb
  have hc' : c / 64 < 4 := Nat.div_lt_of_lt_mul hc
  rw [div_mul_add hb', Nat.mul_add_mod_of_lt hb', div_mul_add hc', Nat.mul_add_mod_of_lt hc']
  exact ⟨Nat.div_add_mod' a 4, Nat.div_add_mod' b 16, Nat.div_add_mod' c 64⟩

/-! ### sextets to octets and back (the decoder, then the encoder) -/

theorem octets_lt {v1 v2 v3 v4 : Nat} (h1 : v1 < 64) (h2 : v2 < 64) (h3 : v3 < 64) (h4 : v4 < 64) :
    v1 * 4 + v2 / 16 < 256 ∧ v2 % 16 * 16 + v3 / 4 < 256 ∧ v3 % 4 * 64 + v4 < 256 :=
  ⟨lt_mul_add (m := 64) h1 (Nat.div_lt_of_lt_mul h2),
   lt_mul_add (m := 16) (Nat.mod_lt _ (by decide)) (Nat.div_lt_of_lt_mul h3),
   lt_mul_add (m := 4) (Nat.mod_lt _ (by decide)) h4⟩

theorem sextets_octets {v1 v2 v3 v4 : Nat} (h2 : v2 < 64) (h3 : v3 < 64) (h4 : v4 < 64) :
    (v1 * 4 + v2 / 16) / 4 = v1 ∧
    (v1 * 4 + v2 / 16) % 4 * 16 + (v2 % 16 * 16 + v3 / 4) / 16 = v2 ∧
    (v2 % 16 * 16 + v3 / 4) % 16 * 4 + (v3 % 4 * 64 + v4) / 64 = v3 ∧
    (v3 % 4 * 64 + v4) % 64 = v4 := by
  have h2' : v2 / 16 < 4 := Nat.div_lt_of_lt_mul h2
  have h3' : v3 / 4 < 16 := Nat.div_lt_of_lt_mul h3
  rw [div_mul_add h2', Nat.mul_add_mod_of_lt h2', div_mul_add h3', Nat.mul_add_mod_of_lt h3', div_mul_add h4,
    Nat.mul_add_mod_of_lt h4]
  exact ⟨rfl, Nat.div_add_mod' v2 16, Nat.div_add_mod' v3 4, rfl⟩

end SpyneModel.Base64
