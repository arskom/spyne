/-
  C15 proofs: the program logic of the model programs.
  `Run n na T m h Q`: started in `h`, a heap that contains the base region (`n` classes, `na` records), the program `m`
  ends - normally or with an exception - in a heap that extends `h` (`Ext n na T`) and has the variants discipline if
  `h` had it, and a normal result satisfies `Q` there. The start heap is a variable: what is known of it is an ordinary
  hypothesis, a continuation knows how its heap relates to it, and a post-condition may mention it.
  One rule per primitive; a primitive that only reads comes with the rest of the program (`_bind`), a primitive that
  writes has the heap and value it returns as its post-condition.
-/
import Proofs.DeriveInv
namespace SpyneModel.Derive

def Run {α : Type} (n na : Nat) (T : List Nat) (m : M α) (h : Heap) (Q : α → Heap → Prop) : Prop :=
  n ≤ h.cls.length → na ≤ h.attrs.length →
    Ext n na T h (m h).heap ∧ (Inv h → Inv (m h).heap) ∧ ∀ h' a, m h = .ok h' a → Q a h'

variable {n na : Nat} {T : List Nat} {α β : Type} {h : Heap} {Q : α → Heap → Prop}

/-! with the start heap itself as base region, what the triple says of the run from `h` -/

theorem Run.frame {m : M α} (k : Run h.cls.length h.attrs.length T m h Q) :
    Ext h.cls.length h.attrs.length T h (m h).heap := (k (Nat.le_refl _) (Nat.le_refl _)).1

theorem Run.inv {m : M α} (k : Run h.cls.length h.attrs.length T m h Q) (ih : Inv h) : Inv (m h).heap :=
  (k (Nat.le_refl _) (Nat.le_refl _)).2.1 ih

theorem Run.post {m : M α} (k : Run h.cls.length h.attrs.length T m h Q) {h' : Heap} {a : α} (e : m h = .ok h' a) :
    Q a h' := (k (Nat.le_refl _) (Nat.le_refl _)).2.2 h' a e

/-- the base region is inside the start heap: available while proving the triple -/
theorem Run.sized {m : M α} (k : n ≤ h.cls.length → Run n na T m h Q) : Run n na T m h Q :=
  fun h1 h2 => k h1 h1 h2

/-- with no base region there is no frame condition left: the triple is a `Keeps` -/
theorem Run.keeps {P : Heap → Prop} {m : M α} (k : ∀ h, P h → Run 0 0 [] m h Q) : Keeps P m Q := fun h ih p =>
  ⟨(k h p (Nat.zero_le _) (Nat.zero_le _)).2.1 ih, (k h p (Nat.zero_le _) (Nat.zero_le _)).2.2⟩

/-- the continuation starts in a heap that extends `h`, has the discipline if `h` had it, and satisfies the
    post-condition of the first part -/
theorem Run.bind {m : M α} {f : α → M β} {Q1 : α → Heap → Prop} {R : β → Heap → Prop} (km : Run n na T m h Q1)
    (kf : ∀ a h1, Q1 a h1 → Ext n na T h h1 → (Inv h → Inv h1) → Run n na T (f a) h1 R) :
    Run n na T (m >>= f) h R := by
  intro h1 h2
  obtain ⟨e1, i1, q1⟩ := km h1 h2
  simp only [Bind.bind, M.bind]
  cases hm : m h with
  | err h' e =>
    simp only [hm, Res.heap] at e1 i1 ⊢
    exact ⟨e1, i1, nofun⟩
  | ok h' a =>
    simp only [hm, Res.heap] at e1 i1 ⊢
    obtain ⟨e2, i2, q2⟩ := kf a h' (q1 h' a hm) e1 i1 (Nat.le_trans h1 e1.clsLen) (Nat.le_trans h2 e1.attrsLen)
    exact ⟨e1.trans e2, fun ih => i2 (i1 ih), q2⟩

/-- ... when the rest needs nothing of the first part -/
theorem Run.seq {m : M α} {f : α → M β} {Q1 : α → Heap → Prop} {R : β → Heap → Prop} (km : Run n na T m h Q1)
    (kf : ∀ a h1, Run n na T (f a) h1 R) : Run n na T (m >>= f) h R :=
  Run.bind km (fun a h1 _ _ _ => kf a h1)

theorem Run.mono {m : M α} {Q' : α → Heap → Prop} (k : Run n na T m h Q) (w : ∀ a h', Q a h' → Q' a h') :
    Run n na T m h Q' :=
  fun h1 h2 => ⟨(k h1 h2).1, (k h1 h2).2.1, fun h' a e => w a h' ((k h1 h2).2.2 h' a e)⟩

theorem Run.tr {m : M α} (k : Run n na T m h Q) : Run n na T m h TrQ := k.mono (fun _ _ _ => trivial)

/-- a program that returns in `h`: the heap and value it returns are the post-condition -/
theorem Run.step {m : M α} {g : Heap} {r : α} (hm : m h = .ok g r)
    (he : n ≤ h.cls.length → na ≤ h.attrs.length → Ext n na T h g) (hi : Inv h → Inv g) :
    Run n na T m h (fun a h1 => h1 = g ∧ a = r) := by
  intro h1 h2
  rw [hm]
  exact ⟨he h1 h2, hi, fun _ _ e => by cases e; exact ⟨rfl, rfl⟩⟩

theorem Run.pure (a : α) (q : Q a h) : Run n na T (Pure.pure a : M α) h Q :=
  (Run.step (g := h) (r := a) rfl (fun _ _ => Ext.refl _ _ _ _) id).mono (fun _ _ e => e.1 ▸ e.2 ▸ q)

theorem Run.fail (e : String) : Run n na T (Derive.fail e : M α) h Q :=
  fun _ _ => ⟨Ext.refl _ _ _ _, id, nofun⟩

theorem Run.map {m : M α} (f : α → β) {R : β → Heap → Prop} (k : Run n na T m h Q) (w : ∀ a h', Q a h' → R (f a) h') :
    Run n na T (f <$> m) h R :=
  Run.bind (f := fun a => Pure.pure (f a)) k (fun a _ q _ _ => Run.pure _ (w a _ q))

/-! a primitive that only reads, followed by the rest of the program: what it read is a hypothesis about `h` -/

theorem Run.getHeap_bind {f : Heap → M β} {R : β → Heap → Prop} (kf : Run n na T (f h) h R) :
    Run n na T (Derive.getHeap >>= f) h R := kf

theorem Run.getCls_bind (c : Nat) {f : Cls → M β} {R : β → Heap → Prop}
    (kf : ∀ cl, h.cls[c]? = some cl → Run n na T (f cl) h R) : Run n na T (Derive.getCls c >>= f) h R := by
  intro h1 h2
  simp only [Bind.bind, M.bind, Derive.getCls]
  cases hc : h.cls[c]? with
  | none => exact ⟨Ext.refl _ _ _ _, id, nofun⟩
  | some cl => exact kf cl hc h1 h2

theorem Run.guardNone_bind (e : Option String) {f : Unit → M β} {R : β → Heap → Prop}
    (kf : e = none → Run n na T (f ()) h R) : Run n na T (Derive.guardNone e >>= f) h R := by
  cases e with
  | some s => exact fun _ _ => ⟨Ext.refl _ _ _ _, id, nofun⟩
  | none => exact kf rfl

theorem Run.liftExcept_bind (x : Except String α) {f : α → M β} {R : β → Heap → Prop}
    (kf : ∀ a, x = .ok a → Run n na T (f a) h R) : Run n na T (Derive.liftExcept x >>= f) h R := by
  cases x with
  | error s => exact fun _ _ => ⟨Ext.refl _ _ _ _, id, nofun⟩
  | ok a => exact kf a rfl

theorem Run.whenM (b : Bool) {m : M Unit} {Q : Unit → Heap → Prop} (k : Run n na T m h Q) (q : Q () h) :
    Run n na T (Derive.whenM b m) h Q := by
  cases b with
  | true => exact k
  | false => exact Run.pure _ q

theorem Run.updCls (c : Nat) (f : Cls → Cls) (hc : n ≤ c ∨ c ∈ T)
    (hf : ∀ cl, (f cl).kind = cl.kind ∧ (f cl).attrs = cl.attrs ∧ (f cl).orig = cl.orig := by exact fun _ => ⟨rfl, rfl, rfl⟩) :
    Run n na T (Derive.updCls c f) h (fun _ h1 => h1 = h.updCls c f) :=
  (Run.step (m := Derive.updCls c f) rfl (fun _ _ => ext_updCls h c f hc hf) (fun ih => by rw [Inv, viewOf_updCls h c f hf]; exact ih)).mono
    (fun _ _ e => e.1)

theorem Run.updCells (a : Nat) (f : AttrRec → AttrRec) (hf : ∀ r, (f r).variants = r.variants) :
    Run n na T (Derive.updCells a f) h (fun _ h1 => h1 = h.updCells a f) :=
  (Run.step (m := Derive.updCells a f) rfl (fun _ _ => ext_updCells h a f) (fun ih => by rw [Inv, viewOf_updCells_keep h a f hf]; exact ih)).mono
    (fun _ _ e => e.1)

theorem Run.allocAttrs (r : AttrRec) :
    Run n na T (Derive.allocAttrs r) h (fun a h1 => h1 = { h with attrs := h.attrs ++ [r] } ∧ a = h.attrs.length) :=
  Run.step rfl (fun h1 h2 => by simpa using (ext_append h [] [r]).mono h1 h2)
    (fun ih => by rw [Inv, viewOf_allocAttrs]; exact ih.addRecord _ (viewOf_var_fresh h) _)

/-- a class outside the ComplexModel family, on an existing record -/
theorem Run.allocCls_simple (cl : Cls) (hk : cl.kind.isComplex = false) (hv : Inv h → (viewOf h).var cl.attrs ≠ none) :
    Run n na T (Derive.allocCls cl) h (fun id h1 => h1 = { h with cls := h.cls ++ [cl] } ∧ id = h.cls.length) :=
  Run.step rfl (fun h1 h2 => by simpa using (ext_append h [cl] []).mono h1 h2)
    (fun ih => by rw [Inv, viewOf_allocCls, hk]; exact ih.addSimple _ _ _ (viewOf_cls_fresh h) (hv ih))

/-- a class statement -/
theorem Run.allocBoth_declared (r : AttrRec) (mk : Nat → Cls) (hr : r.variants = some none)
    (hk : ∀ a, (mk a).kind.isComplex = true ∧ (mk a).attrs = a ∧ (mk a).orig = none) :
    Run n na T (Derive.allocBoth r mk) h (fun id h1 =>
      h1 = { h with cls := h.cls ++ [mk h.attrs.length], attrs := h.attrs ++ [r] } ∧ id = h.cls.length) :=
  Run.step rfl (fun h1 h2 => (ext_append h [mk h.attrs.length] [r]).mono h1 h2)
    (fun ih => by
      rw [Inv, viewOf_append, (hk _).1, (hk _).2.1, (hk _).2.2, hr]
      exact ih.addDeclared _ _ (viewOf_cls_fresh h) (viewOf_var_fresh h))

/-- the same run, looked at with the start heap as base region and another written set: a normal result also
    satisfies that triple's post-condition, and its heap extends `h` in that sense too -/
theorem Run.also {m : M α} {T' : List Nat} {Q' : α → Heap → Prop} (k : Run n na T m h Q)
    (k' : Run h.cls.length h.attrs.length T' m h Q') :
    Run n na T m h (fun a g => Q a g ∧ Q' a g ∧ Ext h.cls.length h.attrs.length T' h g ∧ (Inv h → Inv g)) := fun h1 h2 =>
  ⟨(k h1 h2).1, (k h1 h2).2.1, fun g a e =>
    ⟨(k h1 h2).2.2 g a e, k'.post e, by have := k'.frame; rwa [e] at this, fun ih => by have := k'.inv ih; rwa [e] at this⟩⟩

/-- a loop with an invariant that may mention what is left to do -/
theorem Run.forEach (f : Nat → M Unit) (I : List Nat → Heap → Prop)
    (hf : ∀ v rest g, I (v :: rest) g → Run n na T (f v) g (fun _ g2 => I rest g2)) :
    ∀ vs g, I vs g → Run n na T (Derive.forEach f vs) g (fun _ g' => I [] g') := by
  intro vs
  induction vs with
  | nil => exact fun g i => Run.pure _ i
  | cons v vs ih => exact fun g i => Run.bind (hf v vs g i) (fun _ g2 i2 _ _ => ih g2 i2)

end SpyneModel.Derive
