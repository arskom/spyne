/-
  C02 at the level of members, requests and responses: instances of the general round trip for the protocol's
  own spelling and for the documented alternative spellings.
-/
import Proofs.HierRound
namespace SpyneModel.Hier
open SpyneModel

variable {F : Facts08} {G : Facts02} {cfg : Cfg}

theorem ownCtx (L : LeafLaws F) (hG : G.GoodRT) (hsc : cfg.selfConsistent = true) :
    RtCtx F G cfg (ownSpell F cfg) true where
  hG := hG
  hsc := by simp only [ownSpell, Spell.consistent]; exact hsc
  hiw := rfl
  hnw := fun _ => rfl
  hkey := KeyReads.own G cfg
  hleaf := fun p o v hv hm => primIn_leafOut L G cfg p o v hv (fun h => (hm h).1) (fun h => (hm h).2 rfl)

/-- leaves as a client following the documented conventions writes them: numbers as numbers (MessagePack:
    text outside the 64-bit window, the one of `leafOut`), booleans as booleans, raw `bin` for MessagePack byte arrays
    without a text encoding, everything else as `str` text -/
def convLeaf (F : Facts08) (cfg : Cfg) (p : PrimTy) (v : Val) : Doc :=
  match p, v with
  | .integer _ _, .int i =>
    if cfg.proto.isMsgpack && !(decide (-9223372036854775808 ≤ i) && decide (i < 18446744073709551616))
    then .str (intToText i) else .int i
  | .boolean, .bool b => .bool b
  | .bytes .base64, .bytes bs => if cfg.proto.isMsgpack then .bytes bs else .str (b64enc false bs)
  | p, v => match leafToText F p v with | some s => .str s | none => .null

/-- `str` keys (every protocol accepts them), any of dict / positional form -/
def convSpell (F : Facts08) (cfg : Cfg) (cas : ComplexAs) : Spell :=
  { cas := cas, iw := cfg.ignoreWrappers, poly := false, nw := fun n => cfg.notWrapped.contains n, kOut := Key.str,
    lOut := convLeaf F cfg }

/-- MessagePack: `bytes` keys with `str` leaves, or `str` keys with the protocol's own `bin` leaves -/
def mixSpell (F : Facts08) (cfg : Cfg) (cas : ComplexAs) (bytesKeys : Bool) : Spell :=
  { cas := cas, iw := cfg.ignoreWrappers, poly := false, nw := fun n => cfg.notWrapped.contains n,
    kOut := if bytesKeys then keyOut cfg else Key.str,
    lOut := if bytesKeys then convLeaf F cfg else leafOut F cfg }

theorem primIn_int_str (G : Facts02) (cfg : Cfg) (k : IntKind) (r : Range) (o : Occ) (i : Int)
    (hm : cfg.proto.isMsgpack = true) (hv : (PrimTy.integer k r).valueOk (.int i) = true)
    (hfit : (intToText i).length ≤ F.intMaxStrLen k) :
    primIn F G cfg (.integer k r) o (.str (intToText i)) = .good (.int i) := by
  have hvs : validateString F (.integer k r) (intToText i) = true := by simp [validateString, hfit]
  have := intFromText_intToText F k i hfit
  exact primIn_good (preOk_str G cfg _ o _ hvs) hvs rfl
    (by simp [leafIn, hm, intInMp, this, ofOutcome]) ((validateNative_int k r i).trans hv)

theorem convLeaf_text (cfg : Cfg) {p : PrimTy} {v : Val} {s : Text} (hp : ∀ k r, p ≠ .integer k r) (hb : p ≠ .boolean)
    (h64 : p ≠ .bytes .base64) (hs : leafToText F p v = some s) : convLeaf F cfg p v = .str s := by
  cases p <;> first
    | exact absurd rfl (hp _ _)
    | exact absurd rfl hb
    | simp only [convLeaf, hs]
    | skip
  case bytes enc => cases enc <;> first | exact absurd rfl h64 | simp only [hs]

theorem convLeaf_ok (L : LeafLaws F) (G : Facts02) (cfg : Cfg) (p : PrimTy) (o : Occ) (v : Val)
    (hv : p.valueOk v = true) (hm : mpLeaf F cfg false p v) :
    primIn F G cfg p o (convLeaf F cfg p v) = .good v := by
  cases leafView (F := F) hv with
  | int k r i =>
    simp only [convLeaf]
    split
    · rename_i hc
      simp only [Bool.and_eq_true, Bool.not_eq_true', Bool.and_eq_false_iff, decide_eq_false_iff_not] at hc
      have hk : k = .unbounded := by
        cases k <;> first | rfl | (exfalso; have := bounded_in_window _ r i (by simp) hv; rcases hc.2 with h | h <;> omega)
      subst hk
      have : (intToText i).length ≤ F.intMaxStrLen .unbounded := by simpa [fitsV, fitsInt] using (hm hc.1).1
      exact primIn_int_str G cfg .unbounded r o i hc.1 hv this
    · exact primIn_int G cfg k r o i hv
  | bool b => exact primIn_bool G cfg o b
  | b64 bs => exact primIn_leafOut L G cfg (.bytes .base64) o (.bytes bs) hv (fun h => (hm h).1) (fun _ => rfl)
  | text s hp hb h64 hs hf =>
    rw [convLeaf_text cfg hp hb h64 hs]
    exact primIn_text L G cfg p o v s hs hv hf hp hb (isRaw_text cfg h64)

/-- `str` keys and `str` text are understood by every protocol of the family, in dict and in positional form -/
theorem convCtx (L : LeafLaws F) (hG : G.GoodRT) (hmp : G.mpNameAnyKey = true) (cas : ComplexAs)
    (hsc : cas = .dict ∨ cfg.ignoreWrappers = true) :
    RtCtx F G cfg (convSpell F cfg cas) false where
  hG := hG
  hsc := by simp only [convSpell, Spell.consistent]; rcases hsc with h | h <;> simp [h]
  hiw := rfl
  hnw := fun _ => rfl
  hkey := KeyReads.str hmp cfg
  hleaf := fun p o v hv hm => convLeaf_ok L G cfg p o v hv hm

/-- MessagePack clients may mix key kinds and leaf kinds -/
theorem mixCtx (L : LeafLaws F) (hG : G.GoodRT) (hmp : G.mpNameAnyKey = true) (cas : ComplexAs) (bk : Bool)
    (hsc : cas = .dict ∨ cfg.ignoreWrappers = true) :
    RtCtx F G cfg (mixSpell F cfg cas bk) (!bk) where
  hG := hG
  hsc := by simp only [mixSpell, Spell.consistent]; rcases hsc with h | h <;> simp [h]
  hiw := rfl
  hnw := fun _ => rfl
  hkey := by
    cases bk
    · exact KeyReads.str hmp cfg
    · exact KeyReads.own G cfg
  hleaf := by
    cases bk
    · intro p o v hv hm
      exact primIn_leafOut L G cfg p o v hv (fun h => (hm h).1) (fun h => (hm h).2 rfl)
    · intro p o v hv hm
      exact convLeaf_ok L G cfg p o v hv (fun h => ⟨(hm h).1, fun h' => by cases h'⟩)

/-- a member of a single-occurrence type: whatever conformant value it holds (including `None` where
    nillable) is written by `_object_to_doc` in spelling `S` and read back by `_from_dict_value` -/
theorem member_roundtrip {S : Spell} {rd : Bool} (R : Registry) (C : RtCtx F G cfg S rd) (t : Ty) (v : Val)
    (hr : t.occ.repeated = false) (hwf : wfTy t = true) (hc : conforms t v = true)
    (hmp : mpOk F cfg rd t v) (hpl : plain S.cas t v = true) :
    decode F G cfg R t (encodeS S R t v) = .good v := by
  rw [conforms_single t v hr] at hc
  by_cases hv : v = .none
  · subst hv
    rw [conformsOne_none] at hc
    simp only [encodeS]
    exact decode_null G cfg R C.hG t hc
  · have hshape : ∀ vs, v = .list vs → ∃ m e o, t = .arr m e o := fun vs h => conformsOne_list_arr (h ▸ hc)
    rw [encode_eq_encOne R S t v hv hshape]
    exact rt_ty R C t v hv hwf hc hmp hpl

/-- the request document for the method whose input message is `msg`, written in spelling `S`: the method
    name as the single key (`params` for MessagePack-RPC, whose envelope is handled by the caller) -/
def requestDoc (cfg : Cfg) (S : Spell) (R : Registry) (msg : Ty) (args : Val) : Doc :=
  match msg with
  | .obj name _ _ _ _ =>
    if cfg.proto = .msgpackRpc || !S.iw then encOne R S msg args
    else .map [(S.kOut name, encOne R S msg args)]
  | _ => .null

/-- what the protocol itself writes for a call (`encode` of the input message) is the request document in its own
    spelling, when the message wrapper is kept or the envelope is MessagePack-RPC's -/
theorem encode_eq_requestDoc (hw : cfg.proto = .msgpackRpc ∨ cfg.ignoreWrappers = false) (R : Registry)
    (name ns : Text) (base : Option Text) (fields : Fields) (o : Occ) (args : List (Text × Val)) :
    encode F cfg R (.obj name ns base fields o) (.obj name args)
      = requestDoc cfg (ownSpell F cfg) R (.obj name ns base fields o) (.obj name args) := by
  rw [encode, encode_eq_encOne R _ _ _ (by simp) (by intro vs hv; cases hv)]
  simp only [requestDoc, ownSpell]
  rcases hw with h | h <;> simp [h]

theorem toCall_obj (G : Facts02) (name : Text) (fields : Fields) (c : Text) (st : List (Text × Val)) :
    toCall G name fields (.good (.obj c st)) = .good (.obj c st) := rfl

/-- C02, request side: a request written by the documented conventions (spelling `S`) for conformant arguments
    hands exactly those arguments to the user function -/
theorem request_roundtrip {S : Spell} {rd : Bool} (R : Registry) (C : RtCtx F G cfg S rd)
    (name ns : Text) (base : Option Text) (fields : Fields) (o : Occ) (fvs : List (Text × Val))
    (hwf : wfTy (.obj name ns base fields o) = true) (hc : conformsFields fields fvs = true)
    (hmpf : cfg.proto.isMsgpack = true → fitsFields F fvs = true ∧ (rd = true → mpReadableFields fields = true))
    (hplf : plainFields S.cas fields fvs = true)
    (hnm : cfg.notWrapped.contains name = false) :
    decodeRequest F G cfg R (.obj name ns base fields o)
      (requestDoc cfg S R (.obj name ns base fields o) (.obj name fvs)) = .good (.obj name fvs) := by
  have hone : conformsOne (.obj name ns base fields o) (.obj name fvs) = true := by
    rw [conformsOne_obj_obj, hc, decide_eq_true rfl]; rfl
  have hmp : mpOk F cfg rd (.obj name ns base fields o) (.obj name fvs) := fun hm => by
    simpa [fitsV, mpReadable] using hmpf hm
  have hpl : plain S.cas (.obj name ns base fields o) (.obj name fvs) = true := by simpa [plain] using hplf
  have hrt := rt_ty R C (.obj name ns base fields o) (.obj name fvs) (by simp) hwf hone hmp hpl
  have hmeth := (C.hkey name).method
  have hfind := (C.hkey name).body
  unfold decodeRequest requestDoc
  simp only []
  split
  · rename_i hp
    simp [hp, hrt, toCall_obj]
  · rename_i hp
    cases hiw : S.iw
    · -- wrappers kept: the message wrapper is the request envelope
      have hiw' : cfg.ignoreWrappers = false := by rw [← C.hiw]; exact hiw
      have hshape : encOne R S (.obj name ns base fields o) (.obj name fvs) =
          .map [(S.kOut name, bodyDoc S (encodeFields S R fields fvs))] := by
        simp only [encOne, polyTarget_self R]
        exact wrapPairs_wrapped S name _ (C.dict_of_wrapped hiw) (by rw [hiw, C.hnw, hnm]; rfl)
      have hrt' := hrt
      rw [hshape] at hrt'
      simp [hshape, hmeth, hiw', hrt', toCall_obj]
    · have hiw' : cfg.ignoreWrappers = true := by rw [← C.hiw]; exact hiw
      have hnn := encOne_not_null R C _ _ (by simp) hone hmp
      simp only [eq_false hp, Bool.not_true, Bool.or_false, decide_false, Bool.false_eq_true, if_false, hmeth,
        Res.good_bind, ne_eq, not_true_eq_false, hiw', if_true, hfind]
      generalize hb : encOne R S (.obj name ns base fields o) (.obj name fvs) = body at *
      cases body <;> first | (cases hnn; done) | simp [hrt, toCall_obj]

theorem occWf_default : occWf {} = true := by decide

theorem single_member_msg {S : Spell} {rd : Bool} (R : Registry) (C : RtCtx F G cfg S rd)
    (rname fname : Text) (ret : Ty) (v : Val)
    (hr : ret.occ.repeated = false) (hwf : wfTy ret = true) (hc : conforms ret v = true)
    (hmp : mpOk F cfg rd ret v) (hpl : plain S.cas ret v = true) (hnl : v = .none → S.cas = .dict) :
    decode F G cfg R (.obj rname [] none [(fname, ret)] {})
      (encOne R S (.obj rname [] none [(fname, ret)] {}) (.obj rname [(fname, v)])) = .good (.obj rname [(fname, v)]) := by
  have hsingle := conforms_single ret v hr
  apply rt_ty R C _ _ (by simp)
  · simp [wfTy, occWf_default, namesDistinct, wfFields, hwf]
  · have hm : conformsMember ret v = true := by
      by_cases hv : v = .none
      · subst hv
        rw [hsingle, conformsOne_none] at hc
        simp [conformsMember, hc, hr]
      · rw [conformsMember_some hv]; exact hc
    simp [conformsOne_obj_obj, conformsFields_cons_eq, conformsFields_nil, hm]
  · intro hm
    have := hmp hm
    refine ⟨by simp [fitsV, fitsFields, this.1], fun h => by simp [mpReadable, mpReadableFields, this.2 h]⟩
  · by_cases hv : v = .none
    · subst hv; simp [plain, plainFields, hnl rfl]
    · cases v <;> first | exact absurd rfl hv | (simp only [plain, plainFields, Bool.and_true] at hpl ⊢; first | done | exact hpl)

theorem resultOf_good (c : Text) (n : Text) (v : Val) : resultOf (.good (.obj c [(n, v)])) = .good v := rfl

/-- C02, response side: what `serialize` writes for a conformant return value is read back, by the same
    conventions, as exactly that value -/
theorem response_roundtrip (L : LeafLaws F) (hG : G.GoodRT) (hsc : cfg.selfConsistent = true)
    (R : Registry) (method : Text) (ret : Ty) (v : Val)
    (hr : ret.occ.repeated = false) (hwf : wfTy ret = true) (hc : conforms ret v = true)
    (hmp : mpOk F cfg true ret v) (hpl : plain cfg.complexAs ret v = true)
    (hnone : v = .none → cfg.complexAs = .dict) :
    decodeResponse F G cfg R method ret (encodeResponse F cfg R method ret v) = .good v := by
  have C := ownCtx (F := F) (G := G) (cfg := cfg) L hG hsc
  have hmem := member_roundtrip R C ret v hr hwf hc hmp hpl
  unfold decodeResponse encodeResponse outMsgTy
  generalize method ++ "Response".toList = rname
  generalize method ++ "Result".toList = fname
  have hmsg := single_member_msg R C rname fname ret v hr hwf hc hmp hpl hnone
  have henc : encOne R (ownSpell F cfg) (.obj rname [] none [(fname, ret)] {}) (.obj rname [(fname, v)]) =
      wrapPairs (ownSpell F cfg) rname
        (if emits (ownSpell F cfg) ret (encodeS (ownSpell F cfg) R ret v) then [(fname, encodeS (ownSpell F cfg) R ret v)] else []) := by
    simp [encOne, polyTarget_self R, encodeFields]
  rw [henc] at hmsg
  have hE : encode F cfg R ret v = encodeS (ownSpell F cfg) R ret v := rfl
  simp only [hE]
  cases hproto : cfg.proto <;> cases hiw : cfg.ignoreWrappers <;> simp [hmsg, hmem, resultOf_good]

end SpyneModel.Hier
