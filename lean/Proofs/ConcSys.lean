/-
  C12 proofs: the product system.  A run of the whole system projects onto a run of the
  WSDL model (the `?wsdl` threads of the schedule) and a run of the request-thread model (the
  others); the two main lemmas then combine: whoever is answered, in whatever run, is answered
  `Req.answer` (`sys_sound`), and a request processed alone is answered (`alone_isSome`).
-/
import Proofs.Conc
import Proofs.ConcCache
import SpyneModel.ConcSys
namespace SpyneModel.Conc

namespace Facts12.Good
variable {F : Facts12} (h : F.Good)
include h
theorem wsdlSkeleton : F.wsdlSkeleton = expectedSkeleton := h.1
theorem builderResets : F.builderResets = true := h.2.1
theorem attrPublish : F.attrPublish = .afterInit := h.2.2.1
theorem sortPublish : F.sortPublish = .afterInit := h.2.2.2.1
theorem memoPublish : F.memoPublish = .afterInit := h.2.2.2.2.1
theorem cdictPublish : F.cdictPublish = .afterInit := h.2.2.2.2.2.1
theorem errRead : F.errRead = .underLock := h.2.2.2.2.2.2.1
theorem parked : F.parked = [] := h.2.2.2.2.2.2.2.1
theorem sharedContextCells : F.sharedContextCells = [] := h.2.2.2.2.2.2.2.2.1
theorem bindPublish : F.bindPublish = .afterInit := h.2.2.2.2.2.2.2.2.2.1
theorem rebindRaises : F.rebindRaises = false := h.2.2.2.2.2.2.2.2.2.2
end Facts12.Good

theorem sysStep_isWsdl (F : Facts12) (O : Nat → Fail) (s : SysState) (i : Nat) :
    (sysStep F O s i).isWsdl = s.isWsdl := by
  unfold sysStep; split <;> rfl

theorem sysRun_proj (F : Facts12) (O : Nat → Fail) (sched : List Nat) : ∀ s : SysState,
    (sysRun F O s sched).isWsdl = s.isWsdl ∧
    (sysRun F O s sched).w = run (F.cfg O) F.wsdlSkeleton s.w (sched.filter s.isWsdl) ∧
    (sysRun F O s sched).r = rrun F.rfacts s.r (sched.filter (fun i => !s.isWsdl i)) := by
  induction sched with
  | nil => intro s; exact ⟨rfl, rfl, rfl⟩
  | cons i rest ih =>
    intro s
    obtain ⟨h1, h2, h3⟩ := ih (sysStep F O s i)
    simp only [sysRun]
    rw [sysStep_isWsdl] at h1 h2 h3
    refine ⟨h1, ?_, ?_⟩
    · rw [h2]; unfold sysStep
      by_cases hk : s.isWsdl i = true
      · simp [hk, List.filter, run]
      · simp [hk, List.filter]
    · rw [h3]; unfold sysStep
      by_cases hk : s.isWsdl i = true
      · simp [hk, List.filter]
      · simp [hk, List.filter, rrun]

theorem good_safe (F : Facts12) (hG : F.Good) (op : ROp) (h : op.isPark = false) : op.Safe F.rfacts := by
  have hctx : ∀ c, F.rfacts.ctxShared c = false := by intro c; simp [Facts12.rfacts, hG.sharedContextCells]
  cases op with
  | probe k => trivial
  | publish k =>
    simp only [ROp.Safe, published, Facts12.rfacts]
    cases k.c <;>
      simp [hG.attrPublish, hG.sortPublish, hG.memoPublish, hG.cdictPublish, hG.bindPublish, hG.rebindRaises]
  | complete k => trivial
  | validate => trivial
  | readErr => exact hG.errRead
  | park x => simp [ROp.isPark] at h
  | unpark x => simp [ROp.isPark] at h
  | setCtx c => exact hctx c
  | getCtx c => exact hctx c

theorem faithful_allsafe (F : Facts12) (hG : F.Good) (q : Req) (hq : q.Faithful F) :
    AllSafe F.rfacts q.local := by
  intro op hop
  apply good_safe F hG
  cases q with
  | wsdl => simp [Req.local] at hop
  | rpc a inv p =>
    simp only [Req.local, mkReq] at hop
    cases hk : op.isPark with
    | false => rfl
    | true => exact absurd hG.parked (hq op hop hk)

theorem sysInit_loc (reqs : List Req) (i : Nat) (hi : i < reqs.length) :
    (rinit (reqs.map Req.local)).loc i = (reqs[i]).local := by
  simp [rinit, List.getD_eq_getElem?_getD, hi]

theorem sysInit_isWsdl (reqs : List Req) (i : Nat) (hi : i < reqs.length) :
    (sysInit reqs).isWsdl i = (reqs[i]).isWsdl := by
  simp [sysInit, hi]

theorem no_failure_allOk (rs : Bool) : ¬ HasFailure { resets := rs, fail := allOk } := by
  intro ⟨k, hk⟩; exact hk rfl

/-- the sequential answer: the complete document; what the operations of an RPC request observe when nothing else runs -/
def Req.answer : Req → Resp
  | .wsdl => .doc (.doc (some .whole))
  | .rpc a inv p => .body (soloObs a inv p none fun _ => none)

/-- whatever the other requests and the schedule, a request that is answered is given its sequential answer -/
theorem sys_sound (F : Facts12) (hG : F.Good) (reqs : List Req) (hf : ∀ q ∈ reqs, q.Faithful F)
    (sched : List Nat) (i : Nat) (hi : i < reqs.length) (r : Resp)
    (hr : (sysRun F allOk (sysInit reqs) sched).response i = some r) : r = reqs[i].answer := by
  obtain ⟨h1, h2, h3⟩ := sysRun_proj F allOk sched (sysInit reqs)
  unfold SysState.response at hr
  rw [h1, sysInit_isWsdl reqs i hi, h2, h3, hG.wsdlSkeleton] at hr
  cases hq : reqs[i] with
  | wsdl =>
    simp only [hq, Req.isWsdl, if_true] at hr
    obtain ⟨a, ha, rfl⟩ := Option.map_eq_some_iff.mp hr
    rcases (ginv_reachable (F.cfg allOk) hG.builderResets _).answer ha with rfl | ⟨-, hf⟩
    · rfl
    · exact absurd hf (no_failure_allOk _)
  | rpc a inv p =>
    simp only [hq, Req.isWsdl, Bool.false_eq_true, if_false] at hr
    split at hr
    · next hfin =>
      have hs : ∀ l ∈ reqs.map Req.local, AllSafe F.rfacts l := by
        intro l hl
        obtain ⟨q, hq1, rfl⟩ := List.mem_map.mp hl
        exact faithful_allsafe F hG q (hf q hq1)
      rw [show (sysInit reqs).r = rinit (reqs.map Req.local) from rfl] at hfin hr
      rw [requests_alone F.rfacts _ hs _ i hfin, sysInit_loc reqs i hi, hq] at hr
      exact (Option.some.inj hr).symm.trans (by simp [Req.local, Req.answer, soloResponse, mkReq])
    · cases hr

theorem alone_isSome (F : Facts12) (hG : F.Good) (q : Req) : ∃ r, alone F q = some r := by
  unfold alone
  obtain ⟨h1, h2, h3⟩ := sysRun_proj F allOk (List.replicate (q.fuel F) 0) (sysInit [q])
  unfold SysState.response
  rw [h1, h2, h3]
  cases q with
  | wsdl =>
    have hw : (sysInit [Req.wsdl]).isWsdl 0 = true := rfl
    have hflt : List.filter (sysInit [Req.wsdl]).isWsdl (List.replicate (Req.fuel F .wsdl) 0)
        = List.replicate 23 0 := by
      simp only [Req.fuel, hG.wsdlSkeleton, expectedSkeleton, List.length_cons, List.length_nil]
      simp [hw]
    rw [if_pos hw, hflt, hG.wsdlSkeleton, show F.cfg allOk = { resets := true, fail := allOk } by simp [Facts12.cfg, hG.builderResets]]
    exact ⟨.doc (.doc (some .whole)), by decide +kernel⟩
  | rpc a inv p =>
    have hw : (sysInit [Req.rpc a inv p]).isWsdl 0 = false := rfl
    have hflt : List.filter (fun i => !(sysInit [Req.rpc a inv p]).isWsdl i)
        (List.replicate (Req.fuel F (.rpc a inv p)) 0) = List.replicate p.length 0 := by
      simp [Req.fuel, hw]
    rw [if_neg (by rw [hw]; nofun), hflt]
    unfold RLocal.finished
    rw [todo_run_alone F.rfacts 0 p.length _ (by simp [sysInit, rinit, Req.local, mkReq])]
    exact ⟨_, rfl⟩

theorem alone_answer (F : Facts12) (hG : F.Good) (q : Req) (hq : q.Faithful F) : alone F q = some q.answer := by
  obtain ⟨r, hr⟩ := alone_isSome F hG q
  rw [hr, sys_sound F hG [q] (by simpa using hq) _ 0 Nat.zero_lt_one r hr]
  rfl

theorem sys_main (F : Facts12) (hG : F.Good) (reqs : List Req) (hf : ∀ q ∈ reqs, q.Faithful F)
    (sched : List Nat) (i : Nat) (hi : i < reqs.length) (r : Resp)
    (hr : (sysRun F allOk (sysInit reqs) sched).response i = some r) :
    alone F reqs[i] = some r := by
  rw [alone_answer F hG _ (hf _ (List.getElem_mem hi)), sys_sound F hG reqs hf sched i hi r hr]

theorem sys_builds (F : Facts12) (hG : F.Good) (reqs : List Req) (sched : List Nat) :
    (sysRun F allOk (sysInit reqs) sched).w.builds ≤ 1 := by
  obtain ⟨_, h2, _⟩ := sysRun_proj F allOk sched (sysInit reqs)
  rw [h2, hG.wsdlSkeleton]
  exact (ginv_reachable (F.cfg allOk) hG.builderResets _).builds_le_one (no_failure_allOk _)

end SpyneModel.Conc
