/-
  SOAP headers: what `Soap11.serialize` writes into Header for the declared header classes is what
  `Soap11.deserialize` hands to the other side as `ctx.in_header` — both directions use the same two
  functions (request: in_header classes, response: out_header classes).
-/
import Proofs.XmlServer
import Proofs.XmlRoundtrip
namespace SpyneModel
namespace Xml
open Soap

/-- what the receiver gets for the declared classes `hs` when the sender supplied `vals` (a shorter
    `vals` leaves the remaining headers absent = None) -/
def expectHdr (I : Iface) : List Ty → List Val → List Val
  | h :: hs, v :: vs => normOneX I h v :: expectHdr I hs vs
  | hs, [] => hs.map (fun _ => Val.none)
  | [], _ => []

theorem hdrLookup_none {hdr : List Node} {key : Text} (h : ∀ x ∈ hdr, nodeKey x ≠ key) : hdrLookup hdr key = none := by
  unfold hdrLookup
  rw [List.filter_eq_nil_iff.mpr fun x hx => by simpa using h x hx]
  rfl

/-- the last element that carries a key is what the key finds -/
theorem hdrLookup_last {pre post : List Node} {e : Node} {key : Text} (he : nodeKey e = key)
    (hpost : ∀ x ∈ post, nodeKey x ≠ key) : hdrLookup (pre ++ e :: post) key = some e := by
  have hp : post.filter (fun c => nodeKey c = key) = [] := List.filter_eq_nil_iff.mpr fun x hx => by simpa using hpost x hx
  unfold hdrLookup
  rw [List.filter_append, List.filter_cons_of_pos (by simpa using he), hp, List.getLast?_concat]

theorem headerPairs_keys (F : Facts08) (cfg : Cfg) (I : Iface) : (hs : List Ty) → (vals : List Val) →
    ∀ x ∈ headerPairs F cfg I hs vals, nodeKey x ∈ hs.map headerKey
  | [], _, x, hx => by simp [headerPairs] at hx
  | _ :: _, [], x, hx => by simp [headerPairs] at hx
  | h :: hs, v :: vs, x, hx => by
    simp only [headerPairs, List.mem_append] at hx
    rcases hx with hx | hx
    · cases h with
      | obj name ns b fs o =>
        obtain ⟨h1, h2⟩ := toParent_tag F cfg I hx
        simp only [nodeKey, headerKey, h1, h2, List.map_cons, List.mem_cons, true_or]
      | prim p o => simp at hx
      | arr m e o => simp at hx
    · exact List.mem_cons_of_mem _ (headerPairs_keys F cfg I hs vs x hx)

/-- declared classes whose key no header element carries stay None -/
theorem decodeHeaders_absent (F : Facts08) (X : FactsXml) (cfg : Cfg) (I : Iface) (hdr : List Node) :
    (hs : List Ty) → (∀ x ∈ hdr, nodeKey x ∉ hs.map headerKey) →
    decodeHeaders F X cfg I hdr hs = .ok (hs.map (fun _ => Val.none))
  | [], _ => rfl
  | h :: hs, hk => by
    rw [decodeHeaders, hdrLookup_none fun x hx e => hk x hx (e ▸ List.mem_cons_self),
      decodeHeaders_absent F X cfg I hdr hs fun x hx hm => hk x hx (List.mem_cons_of_mem _ hm)]
    rfl

theorem decodeHeaders_rt {F : Facts08} {X : FactsXml} {cfg : Cfg} {I : Iface} (C : RtCtx F X cfg I) :
    (hs : List Ty) → (vals : List Val) → (pre : List Node) →
    (∀ x ∈ pre, nodeKey x ∉ hs.map headerKey) → (hs.map headerKey).Nodup →
    (∀ h ∈ hs, isObjTy h = true ∧ tyWf h = true) →
    (∀ p ∈ hs.zip vals, okOneX I cfg.polymorphic cfg.soft p.1 p.2 = true ∧ fitsV F p.2 = true) →
    decodeHeaders F X cfg I (pre ++ headerPairs F cfg I hs vals) hs = .ok (expectHdr I hs vals)
  | [], vals, pre, _, _, _, _ => by cases vals <;> rfl
  | h :: hs, [], pre, hpre, _, _, _ => by
    rw [show headerPairs F cfg I (h :: hs) [] = [] from rfl, List.append_nil]
    exact decodeHeaders_absent F X cfg I pre (h :: hs) hpre
  | h :: hs, v :: vs, pre, hpre, hnd, hobj, hok => by
    obtain ⟨name, ns, b, fs, o, rfl⟩ : ∃ name ns b fs o, h = .obj name ns b fs o := by
      cases h with
      | obj name ns b fs o => exact ⟨name, ns, b, fs, o, rfl⟩
      | _ => exact nomatch (hobj _ List.mem_cons_self).1
    obtain ⟨hknot, hnd'⟩ := List.nodup_cons.mp hnd
    obtain ⟨hokv, hfit⟩ := hok (.obj name ns b fs o, v) List.mem_cons_self
    obtain ⟨e, he, hdec⟩ := one_rt C ns name (.obj name ns b fs o) (hobj _ List.mem_cons_self).2 v hokv hfit
    have hkey : nodeKey e = headerKey (.obj name ns b fs o) := by
      obtain ⟨h1, h2⟩ := toParent_tag F cfg I (he ▸ List.mem_singleton_self e)
      simp only [nodeKey, headerKey, h1, h2]
    -- the element written for the first class is the last of its key; behind it the same situation, one class on
    have happ : pre ++ headerPairs F cfg I (.obj name ns b fs o :: hs) (v :: vs) = pre ++ e :: headerPairs F cfg I hs vs := by
      simp only [headerPairs, he, List.singleton_append]
    have ih := decodeHeaders_rt C hs vs (pre ++ [e])
      (fun x hx => by
        rcases List.mem_append.mp hx with hx | hx
        · exact fun hm => hpre x hx (List.mem_cons_of_mem _ hm)
        · rw [List.mem_singleton.mp hx, hkey]; exact hknot)
      hnd' (fun h' hh => hobj h' (List.mem_cons_of_mem _ hh)) (fun p hp => hok p (List.mem_cons_of_mem _ hp))
    rw [List.append_assoc, List.singleton_append] at ih
    rw [decodeHeaders, happ, hdrLookup_last hkey fun x hx e' => hknot (e' ▸ headerPairs_keys F cfg I hs vs x hx)]
    simp only [hdec, ih]
    rfl

/-- `ctx.in_header_doc` of a written envelope is the Header it was written with -/
theorem headerDoc_envelopeH (ver : Version) (hdr : Option (List Node)) (body : List Node) :
    headerDoc ver (envelopeH ver hdr body) = hdr := by
  cases hdr <;> simp [headerDoc, envelopeH, envelope, childrenNamed, Node.children, Node.ns, Node.name]

/-- the headers are read after the body, for the classes the dispatched method declares -/
theorem soapServerDecodeH_of_ok {F : Facts08} {X : FactsXml} {S : FactsSoap} {cfg : Cfg} {I : Iface} {ver : Version}
    {ms : Methods} {doc : Node} {k : Text} {v : Val} (hdrs : Text → Option (List Ty))
    (h : soapServerDecode F X S cfg I ver ms doc = .ok (k, v)) :
    soapServerDecodeH F X S cfg I ver ms hdrs doc = (soapInHeader F X cfg I ver (hdrs k) doc).map fun ih => (k, ih, v) := by
  unfold soapServerDecodeH
  rw [h]
  dsimp only
  cases soapInHeader F X cfg I ver (hdrs k) doc <;> rfl

/-- what `Soap11.serialize` writes into Header for the declared classes is what `deserialize` makes `ctx.in_header` -/
theorem soapInHeader_rt {F : Facts08} {X : FactsXml} {cfg : Cfg} {I : Iface} (C : RtCtx F X cfg I) (ver : Version)
    (hs : List Ty) (hnd : textsNodup (hs.map headerKey) = true) (hobj : ∀ h ∈ hs, isObjTy h = true ∧ tyWf h = true)
    (hvals : List Val) (hhok : ∀ p ∈ hs.zip hvals, okOneX I cfg.polymorphic cfg.soft p.1 p.2 = true ∧ fitsV F p.2 = true)
    (body : List Node) :
    soapInHeader F X cfg I ver (some hs) (envelopeH ver (some (headerPairs F cfg I hs hvals)) body) =
      .ok (some (inHeaderValue (expectHdr I hs hvals))) := by
  have hrt := decodeHeaders_rt C hs hvals [] nofun ((textsNodup_iff _).mp hnd) hobj hhok
  simp only [List.nil_append] at hrt
  simp only [soapInHeader, headerDoc_envelopeH, hrt]

/-- without a Header element `ctx.in_header` stays None -/
theorem soapInHeader_no_header (F : Facts08) (X : FactsXml) (cfg : Cfg) (I : Iface) (ver : Version)
    (classes : Option (List Ty)) (body : List Node) :
    soapInHeader F X cfg I ver classes (envelopeH ver none body) = .ok none := by
  simp only [soapInHeader, headerDoc_envelopeH]

/-- Soap11 / Soap12 server with headers, on the request written for method `name` with or without a Header: whatever
    `w` the request element is read back as and whatever `ih` the Header is read as for the classes the method
    declares, the function gets `w` with `ctx.in_header = ih` -/
theorem soapServerDecodeH_rt (F : Facts08) (X : FactsXml) (S : FactsSoap) (cfg : Cfg) (I : Iface) (ver : Version)
    (ms : Methods) (hdrs : Text → Option (List Ty)) {name : Text} {t t' : Ty} {v w : Val} (hdr : Option (List Node))
    {ih : Option Val} (hm : ms.lookup (clark I.tns name) = some t) (hnf : ¬ (I.tns = envNs ver ∧ name = "Fault".toList))
    (h : ∃ e, toParent F cfg I I.tns name t' v = [e] ∧ fromElement F X cfg I t e = .ok w)
    (hih : ∀ body, soapInHeader F X cfg I ver (hdrs (clark I.tns name)) (envelopeH ver hdr body) = .ok ih) :
    ∃ e, toParent F cfg I I.tns name t' v = [e] ∧
      soapServerDecodeH F X S cfg I ver ms hdrs (envelopeH ver hdr [e]) = .ok (clark I.tns name, ih, w) :=
  let ⟨e, he, hd⟩ := soapServerDecode_rt F X S cfg I ver ms hdr hm hnf h
  ⟨e, he, by rw [soapServerDecodeH_of_ok hdrs hd, hih]; rfl⟩

/-- the response direction: whatever form user code gives `ctx.out_header` (one object, a list, a tuple),
    `serialize` writes the same Header (read back by `soapInHeader_rt`) -/
theorem headerNodes_seq (F : Facts08) {S : FactsSoap} (hS : S.outHeaderTupleOk = true) (cfg : Cfg) (I : Iface)
    (hs : List Ty) {out : OutHeader} {hvals : List Val}
    (hout : out = .list hvals ∨ out = .tuple hvals ∨ (∃ v, out = .single v ∧ hvals = [v])) :
    headerNodes F S cfg I (some hs) out = .ok (some (headerPairs F cfg I hs hvals)) := by
  rcases hout with rfl | rfl | ⟨v, rfl, rfl⟩
  · rfl
  · simp only [headerNodes, hS, if_true]
  · rfl

end Xml
end SpyneModel
