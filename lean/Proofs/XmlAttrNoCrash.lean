/-
  C10 for classes with attribute / data members: with a child element named like an XmlAttribute / XmlData
  member skipped (`modifierChildSkipped`), `from_element` never lets an exception escape.
-/
import Proofs.XmlAttrRules
namespace SpyneModel
namespace Xml

theorem modifierValue_nocrash {F : Facts08} (L : LeafLaws F) (A : FactsAttr) (cfg : Cfg) (p : PrimTy) (s : Text)
    (e : String) : modifierValue F A cfg p s ≠ .crash e := by
  rw [modifierValue_eq L]
  split
  · exact leafSpec_nocrash F p s e
  · exact L.nocrash p s e

theorem dataPass_nocrash {F : Facts08} (L : LeafLaws F) (A : FactsAttr) (cfg : Cfg) (text : Option Text)
    (fs : List (Text × MKind × TyA)) (st : List (Text × Val)) (e : String) : dataPass F A cfg text fs st ≠ .crash e :=
  fun h => let ⟨p, s, h⟩ := dataPass_crash h; modifierValue_nocrash L A cfg p s e h

theorem attrPass_nocrash {F : Facts08} (L : LeafLaws F) (A : FactsAttr) (cfg : Cfg) (fields : List (Text × MKind × TyA))
    (as : List (Text × Text)) (st : List (Text × Val)) (e : String) : attrPass F A cfg fields as st ≠ .crash e :=
  fun h => let ⟨p, s, h⟩ := attrPass_crash h; modifierValue_nocrash L A cfg p s e h

theorem childAttrLeak_nocrash {F : Facts08} (L : LeafLaws F) (A : FactsAttr) (cfg : Cfg) (fields : List (Text × MKind × TyA))
    (as : List (Text × Text)) (st : List (Text × Val)) (e : String) : childAttrLeak F A cfg fields as st ≠ .crash e := by
  unfold childAttrLeak
  split
  · intro h; cases h
  · exact attrPass_nocrash L _ cfg fields as st e

mutual
  theorem fromElementA_nocrash {F : Facts08} (L : LeafLaws F) (X : FactsXml) {A : FactsAttr}
      (hA : A.modifierChildSkipped = true) (cfg : Cfg) (I : IfaceA) (t : TyA) :
      (x : Node) → (e : String) → fromElementA F X A cfg I t x ≠ .crash e
    | .elem ns name attrs text children, e => fun h => by
      rcases fromElementA_crash h with ⟨p, o, h⟩ | ⟨fields, h⟩ | ⟨fields, st, h⟩ | ⟨fields, st, h⟩ | ⟨elem, h⟩
      · exact leafFromElement_nocrash L X cfg p o text e h
      · exact dataPass_nocrash L A cfg text fields _ e h
      · exact childLoopA_nocrash L X hA cfg I fields children st e h
      · exact attrPass_nocrash L A cfg fields attrs st e h
      · exact arrayLoopA_nocrash L X hA cfg I elem children e h

  theorem childLoopA_nocrash {F : Facts08} (L : LeafLaws F) (X : FactsXml) {A : FactsAttr}
      (hA : A.modifierChildSkipped = true) (cfg : Cfg) (I : IfaceA) (fields : List (Text × MKind × TyA)) :
      (cs : List Node) → (st : List (Text × Val)) → (e : String) → childLoopA F X A cfg I fields cs st ≠ .crash e
    | [], st, e => by simp [childLoopA]
    | c :: cs, st, e => fun h => by
      rcases childLoopA_crash h with ⟨st', h⟩ | ⟨mt, h⟩ | ⟨st', h⟩ | h
      · exact childLoopA_nocrash L X hA cfg I fields cs st' e h
      · exact fromElementA_nocrash L X hA cfg I mt c e h
      · exact childAttrLeak_nocrash L A cfg fields c.attrs st' e h
      · rw [hA] at h; cases h

  theorem arrayLoopA_nocrash {F : Facts08} (L : LeafLaws F) (X : FactsXml) {A : FactsAttr}
      (hA : A.modifierChildSkipped = true) (cfg : Cfg) (I : IfaceA) (elem : TyA) :
      (cs : List Node) → (e : String) → arrayLoopA F X A cfg I elem cs ≠ .crash e
    | [], e => by simp [arrayLoopA]
    | c :: cs, e => fun h => by
      rcases arrayLoopA_crash h with h | h
      · exact fromElementA_nocrash L X hA cfg I elem c e h
      · exact arrayLoopA_nocrash L X hA cfg I elem cs e h
end

theorem decodeA_nocrash {F : Facts08} (L : LeafLaws F) (X : FactsXml) {A : FactsAttr}
    (hA : A.modifierChildSkipped = true) (cfg : Cfg) (I : IfaceA) (t : TyA) (x : Node) (e : String) :
    decodeA F X A cfg I t x ≠ .crash e := fromElementA_nocrash L X hA cfg I t x e

end Xml
end SpyneModel
