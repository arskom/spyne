/-
  The natural key order (array indexes compared as numbers) processes documented keys index-sorted
  (`KSorted_of_natural`), which is what `strict_arrays` needs: two rendered keys that are not in `KLe` order
  tokenise (`toks`) to the same tokens up to an index token, where the second key's is smaller.
-/
import Proofs.FlatOrder
import Proofs.FlatStrict
import Proofs.FlatKeys
namespace SpyneModel.Flat
open SpyneModel

theorem toksGo_plain (pre rest cur : Text) (h : ∀ c, c ∈ pre → c ≠ '[') :
    toksGo 0 cur (pre ++ rest) = toksGo 0 (pre.reverse ++ cur) rest := by
  induction pre generalizing cur with
  | nil => rfl
  | cons c p ih =>
    simp only [List.cons_append, toksGo, matchIdx_nobr c _ (h c List.mem_cons_self)]
    rw [ih (c :: cur) (fun c' hc' => h c' (List.mem_cons_of_mem _ hc'))]
    simp

theorem toksGo_skip (l rest : Text) : toksGo l.length [] (l ++ rest) = toksGo 0 [] rest := by
  induction l with
  | nil => rfl
  | cons c l ih => simp only [List.length_cons, List.cons_append, toksGo]; exact ih

theorem toksGo_index (i : Nat) (rest cur : Text) :
    toksGo 0 cur ('[' :: (natText i ++ ']' :: rest)) = .txt cur.reverse :: .idx i :: toksGo 0 [] rest := by
  simp only [toksGo, matchIdx_index, valNat_natText]
  have := toksGo_skip (natText i ++ [']']) rest
  simp only [List.append_assoc, List.length_append, List.length_cons, List.length_nil,
    List.cons_append, List.nil_append] at this
  rw [this]

theorem lexLt_append_same {α : Type} [DecidableEq α] (lt : α → α → Bool) (hirr : ∀ a, lt a a = false)
    (t a b : List α) : lexLt lt (t ++ a) (t ++ b) = lexLt lt a b := by
  induction t with
  | nil => rfl
  | cons x t ih => simp [lexLt, hirr, ih]

theorem toksGo_seg_delim (delim : Text) (s : Text × Option Nat) (cur : Text)
    (hd : ∀ c, c ∈ delim → c ≠ '[') (hs : ∀ c, c ∈ s.1 → c ≠ '[') :
    ∃ T cur', ∀ rest, toksGo 0 cur (renderSeg s ++ (delim ++ rest)) = T ++ toksGo 0 cur' rest := by
  obtain ⟨n, oi⟩ := s
  cases oi with
  | none =>
    refine ⟨[], delim.reverse ++ (n.reverse ++ cur), fun rest => ?_⟩
    simp only [renderSeg, List.nil_append]
    rw [toksGo_plain n _ cur hs, toksGo_plain delim _ _ hd]
  | some i =>
    refine ⟨[.txt (n.reverse ++ cur).reverse, .idx i], delim.reverse ++ [], fun rest => ?_⟩
    simp only [renderSeg, List.append_assoc, List.cons_append, List.nil_append]
    rw [toksGo_plain n _ cur hs, toksGo_index, toksGo_plain delim _ _ hd]

theorem renderKey_cons2 (delim : Text) (s t : Text × Option Nat) (r : List (Text × Option Nat)) :
    renderKey delim (s :: t :: r) = renderSeg s ++ (delim ++ renderKey delim (t :: r)) := by
  simp [renderKey, joinKey]

/-- Two rendered keys that are not in index order: `sorted` under the natural order puts the second first. Stated for
    the tokeniser in mid-key: `cur` is the text it has collected since the last index (both keys have been read up to
    here with the same tokens), so that the induction can step over a common segment. -/
theorem natural_lt_of_not_KLe (delim : Text) (hd : ∀ c, c ∈ delim → c ≠ '[') :
    ∀ (segs1 segs2 : List (Text × Option Nat)) (cur : Text),
      (∀ s, s ∈ segs1 → ∀ c, c ∈ s.1 → c ≠ '[') → (∀ s, s ∈ segs2 → ∀ c, c ∈ s.1 → c ≠ '[') →
      ¬ KLe segs1 segs2 →
      lexLt Tok.lt (toksGo 0 cur (renderKey delim segs2)) (toksGo 0 cur (renderKey delim segs1)) = true := by
  intro segs1
  induction segs1 with
  | nil => intro segs2 cur _ _ h; exact absurd (by simp [KLe]) h
  | cons s1 r1 ih =>
    intro segs2 cur h1 h2 hk
    cases segs2 with
    | nil => exact absurd (by simp [KLe]) hk
    | cons s2 r2 =>
      rw [KLe] at hk
      have hname : s1.1 = s2.1 := by
        apply Classical.byContradiction
        intro hne
        exact hk (fun e => absurd e hne)
      have hrest : ¬ (idxLe s1.2 s2.2 ∧ (s1.2 = s2.2 → KLe r1 r2)) := fun hh => hk (fun _ => hh)
      obtain ⟨n, o1⟩ := s1
      obtain ⟨n2, o2⟩ := s2
      simp only at hname; subst hname
      have hn : ∀ c, c ∈ n → c ≠ '[' := h1 (n, o1) List.mem_cons_self
      by_cases hidx : idxLe o1 o2
      · -- same index (or none): the difference is further down
        have hnk : ¬ (o1 = o2 → KLe r1 r2) := fun hh => hrest ⟨hidx, hh⟩
        have ho : o1 = o2 := by
          apply Classical.byContradiction
          intro hne
          exact hnk (fun e => absurd e hne)
        subst ho
        have hkr : ¬ KLe r1 r2 := fun hh => hnk (fun _ => hh)
        cases r1 with
        | nil => exact absurd (by simp [KLe]) hkr
        | cons t1 r1' =>
          cases r2 with
          | nil => exact absurd (by cases t1; simp [KLe]) hkr
          | cons t2 r2' =>
            rw [renderKey_cons2, renderKey_cons2]
            obtain ⟨T, cur', hT⟩ := toksGo_seg_delim delim (n, o1) cur hd hn
            rw [hT, hT, lexLt_append_same Tok.lt tokLt_strictTotal.irrefl]
            exact ih (t2 :: r2') cur' (fun s hs => h1 s (List.mem_cons_of_mem _ hs))
              (fun s hs => h2 s (List.mem_cons_of_mem _ hs)) hkr
      · -- both carry an index and the first key's is larger
        cases o1 with
        | none => exact absurd (by simp [idxLe]) hidx
        | some a =>
          cases o2 with
          | none => exact absurd (by simp [idxLe]) hidx
          | some b =>
            have hba : b < a := by simp only [idxLe] at hidx; omega
            have hr : ∀ (r : List (Text × Option Nat)) (i : Nat), ∃ X,
                renderKey delim ((n, some i) :: r) = n ++ ('[' :: (natText i ++ ']' :: X)) := by
              intro r i
              cases r with
              | nil => exact ⟨[], by simp [renderKey, joinKey, renderSeg]⟩
              | cons t r' =>
                exact ⟨delim ++ renderKey delim (t :: r'), by
                  rw [renderKey_cons2]; simp [renderSeg, List.append_assoc]⟩
            obtain ⟨X1, hX1⟩ := hr r1 a
            obtain ⟨X2, hX2⟩ := hr r2 b
            rw [hX1, hX2, toksGo_plain n _ cur hn, toksGo_plain n _ cur hn, toksGo_index, toksGo_index]
            simp [lexLt, Tok.lt, textLt_strictTotal.irrefl, hba]

theorem KSorted_of_natural (F : Facts03) (hF : F.keyOrder = .natural) (delim : Text)
    (hd : ∀ c, c ∈ delim → c ≠ '[') (ys : List KEntry)
    (hnb : ∀ y, y ∈ ys → ∀ s, s ∈ y.segs → ∀ c, c ∈ s.1 → c ≠ '[')
    (hs : (ys.map (fun e => (renderKey delim e.segs, e.kv.texts F))).Pairwise
      (fun a b => keyLt F b.1 a.1 = false)) : KSorted ys := by
  rw [List.pairwise_map] at hs
  refine List.Pairwise.imp_of_mem ?_ hs
  intro a b ha hb hlt
  apply Classical.byContradiction
  intro hk
  have := natural_lt_of_not_KLe delim hd a.segs b.segs [] (hnb a ha) (hnb b hb) hk
  simp only [keyLt, hF, toks] at hlt
  rw [this] at hlt
  cases hlt

end SpyneModel.Flat
