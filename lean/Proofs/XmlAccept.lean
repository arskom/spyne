/-
  C05 (XML part), "only if": whatever document arrives, a value that `from_element` delivers under
  soft validation satisfies every declared constraint (nullability, facets, lexical space,
  occurrence counts), at every nesting depth.
-/
import Proofs.XmlSoft
import Proofs.XmlBridge
import Proofs.XmlSound
namespace SpyneModel
namespace Xml


mutual
  /-- an object type that names a registered class lists that class's members -/
  def tyCons (I : Iface) : Ty → Prop
    | .prim _ _ => True
    | .obj name _ _ fields _ =>
      (∀ c, Registry.find? I.classes name = some c → c.fields = fields) ∧ fieldsCons I fields
    | .arr _ elem _ => tyCons I elem

  def fieldsCons (I : Iface) : List (Text × Ty) → Prop
    | [] => True
    | (_, t) :: fs => tyCons I t ∧ fieldsCons I fs
end

def ifaceCons (I : Iface) : Prop := ∀ c ∈ I.classes, fieldsCons I c.fields

theorem fieldsCons_lookup {I : Iface} (fields : List (Text × Ty)) (hc : fieldsCons I fields) :
    ∀ k t, lookupField fields k = some t → tyCons I t :=
  lookup_of_cons (Q := fieldsCons I) (fun _ _ _ h => h) fields hc

theorem wfFields_lookup (fields : List (Text × Ty)) (hw : wfFields fields = true) :
    ∀ k t, lookupField fields k = some t → tyWf t = true :=
  lookup_of_cons (Q := fun fs => wfFields fs = true)
    (fun _ _ _ h => by simpa only [wfFields, Bool.and_eq_true] using h) fields hw


theorem okOneX_prim_of_valueOk (I : Iface) (poly : Bool) (p : PrimTy) (o : Occ) (w : Val) (h : p.valueOk w = true) :
    okOneX I poly false (.prim p o) w = true := by
  rw [okOneX_leaf (PrimTy.isLeaf_of_valueOk h) (PrimTy.valueOk_ne_none h)]
  simp [leafOk, h]

theorem leafSpec_ok {F : Facts08} {p : PrimTy} {s : Text} {w : Val} (h : leafSpec F p s = .ok w) :
    p.valueOk w = true :=
  (leafSpec_eq_ok.mp h).2

theorem leaf_acc {F : Facts08} (L : LeafLaws F) {X : FactsXml} (hE : X.emptyStringText = true) (cfg : Cfg)
    (hs : cfg.soft = true) (I : Iface) (p : PrimTy) (o : Occ) (text : Option Text) (w : Val)
    (h : leafFromElement F X cfg p o text = .ok w) : okOneX I true false (.prim p o) w = true := by
  cases text with
  | some s =>
    rw [soft_leaf_exact L X cfg hs] at h
    exact okOneX_prim_of_valueOk I true p o w (leafSpec_ok h)
  | none =>
    rw [soft_leaf_empty L hE cfg hs] at h
    split at h
    · exact okOneX_prim_of_valueOk I true _ o w (leafSpec_ok h)
    · cases h
    · split at h
      · rename_i hn; cases h; simp only [okOneX, Ty.occ]; exact hn
      · cases h


/-- what is known about member `k` after the children `pre`: `occAcc` below at this member and the number of
    children of its name (`memberAcc_eq`) -/
def memberAcc (I : Iface) (pre : List Node) (k : Text) (t : Ty) (w : Val) : Prop :=
  if t.occ.repeated then
    (w = .none ∧ pre.countP (fun c => c.name = k) = 0) ∨
    (∃ l, w = .list l ∧ l.length = pre.countP (fun c => c.name = k) ∧ okItemsX I true false t l = true)
  else
    (pre.countP (fun c => c.name = k) = 0 ∧ w = .none) ∨
    (pre.countP (fun c => c.name = k) > 0 ∧ okOneX I true false t w = true)

/-- `Slots (memberAcc I pre)`, written out (`accInv_iff`) -/
def AccInv (I : Iface) (pre : List Node) : List (Text × Ty) → List (Text × Val) → Prop
  | [], [] => True
  | (k, t) :: fs, (k', w) :: st => k = k' ∧ memberAcc I pre k t w ∧ AccInv I pre fs st
  | _, _ => False

/-- `memberAcc` and its analogue for classes with member kinds, over what "one occurrence conforms" and
    "the occurrences conform" mean there: after `n` children named like the member, a repeated member holds
    None (`n = 0`) or the list of the `n` values, a single one None (`n = 0`) or the last value -/
def occAcc (o : Occ) (okOne : Val → Bool) (okItems : List Val → Bool) (n : Nat) (w : Val) : Prop :=
  if o.repeated then
    (w = .none ∧ n = 0) ∨ (∃ l, w = .list l ∧ l.length = n ∧ okItems l = true)
  else
    (n = 0 ∧ w = .none) ∨ (n > 0 ∧ okOne w = true)

theorem occAcc_init (o : Occ) (okOne : Val → Bool) (okItems : List Val → Bool) : occAcc o okOne okItems 0 .none := by
  unfold occAcc
  split <;> simp

theorem occAcc_step {o : Occ} {okOne : Val → Bool} {okItems : List Val → Bool} {n : Nat} {w v : Val}
    (hv : okOne v = true) (hone : okItems [v] = true)
    (happ : ∀ l, okItems l = true → okItems (l ++ [v]) = true) (h : occAcc o okOne okItems n w) :
    occAcc o okOne okItems (n + 1) (if o.repeated then accStep w v else v) := by
  unfold occAcc at h ⊢
  by_cases hrep : o.repeated = true
  · simp only [hrep, if_true] at h ⊢
    right
    rcases h with ⟨hw, hn⟩ | ⟨l, hw, hlen, hok⟩
    · exact ⟨[v], by rw [hw]; rfl, by rw [hn]; rfl, hone⟩
    · exact ⟨l ++ [v], by rw [hw]; rfl, by simp [hlen], happ l hok⟩
  · simp only [hrep]
    exact Or.inr ⟨Nat.succ_pos n, hv⟩

/-- with the occurrence count checked: an absent optional member, the occurrences of a repeated member
    within its bounds, or the one occurrence of a single member -/
theorem occAcc_final {o : Occ} {okOne : Val → Bool} {okItems : List Val → Bool} {n : Nat} {w : Val}
    (h : occAcc o okOne okItems n w) (hcnt : o.countOk n = true) :
    (w = .none ∧ o.minOccurs = 0) ∨
    (∃ l, o.repeated = true ∧ w = .list l ∧ o.countOk l.length = true ∧ okItems l = true) ∨
    (o.repeated = false ∧ okOne w = true) := by
  have hmin : n = 0 → o.minOccurs = 0 := by
    intro hn
    simp only [Occ.countOk, Bool.and_eq_true, decide_eq_true_eq] at hcnt
    omega
  unfold occAcc at h
  by_cases hrep : o.repeated = true
  · simp only [hrep, if_true] at h
    rcases h with ⟨hw, hn⟩ | ⟨l, hw, hlen, hok⟩
    · exact Or.inl ⟨hw, hmin hn⟩
    · exact Or.inr (Or.inl ⟨l, hrep, hw, by rw [hlen]; exact hcnt, hok⟩)
  · simp only [hrep] at h
    rcases h with ⟨hn, hw⟩ | ⟨_, hok⟩
    · exact Or.inl ⟨hw, hmin hn⟩
    · exact Or.inr (Or.inr ⟨by simpa using hrep, hok⟩)

theorem countP_snoc_ne (pre : List Node) (c : Node) (k : Text) (h : c.name ≠ k) :
    (pre ++ [c]).countP (fun c => c.name = k) = pre.countP (fun c => c.name = k) := by
  simp [List.countP_append, h]

theorem countP_snoc_eq (pre : List Node) (c : Node) (k : Text) (h : c.name = k) :
    (pre ++ [c]).countP (fun c => c.name = k) = pre.countP (fun c => c.name = k) + 1 := by
  simp [List.countP_append, h]

theorem memberAcc_eq (I : Iface) (pre : List Node) (k : Text) (t : Ty) (w : Val) :
    memberAcc I pre k t w =
      occAcc t.occ (okOneX I true false t) (okItemsX I true false t) (pre.countP (fun c => c.name = k)) w := rfl

theorem accInv_iff {I : Iface} {pre : List Node} : (fs : List (Text × Ty)) → (st : List (Text × Val)) →
    (AccInv I pre fs st ↔ Slots (memberAcc I pre) fs st)
  | [], [] => Iff.rfl
  | [], _ :: _ => Iff.rfl
  | _ :: _, [] => Iff.rfl
  | (k, t) :: fs, (k', w) :: st => by
    simp only [AccInv, Slots, accInv_iff fs st]

theorem accInv_init (I : Iface) (fields : List (Text × Ty)) : AccInv I [] fields (initState fields) :=
  (accInv_iff fields _).mpr (Slots.init fields (fun f _ => by rw [memberAcc_eq]; exact occAcc_init _ _ _))

theorem okItemsX_append {I : Iface} {p s : Bool} {t : Ty} (l : List Val) (v : Val)
    (hl : okItemsX I p s t l = true) (hv : okOneX I p s t v = true) : okItemsX I p s t (l ++ [v]) = true :=
  all_snoc (g := okItemsX I p s t) rfl (fun _ _ => rfl) l v hl hv

theorem accInv_skip {I : Iface} (pre : List Node) (c : Node) (fields : List (Text × Ty)) (st : List (Text × Val))
    (hne : ∀ f ∈ fields, f.1 ≠ c.name) (h : AccInv I pre fields st) : AccInv I (pre ++ [c]) fields st := by
  rw [accInv_iff] at h ⊢
  refine Slots.mono fields st (fun f hf w hs => ?_) h
  rw [memberAcc_eq] at hs ⊢
  rw [countP_snoc_ne pre c f.1 (fun e => hne f hf e.symm)]
  exact hs

theorem accInv_step {I : Iface} (pre : List Node) (c : Node) (mt : Ty) (v : Val)
    (hv : okOneX I true false mt v = true) (fields : List (Text × Ty)) (st : List (Text × Val))
    (hnd : namesNodup fields = true) (hl : lookupField fields c.name = some mt) (h : AccInv I pre fields st) :
    AccInv I (pre ++ [c]) fields (if mt.occ.repeated then stAppend st c.name v else stSet st c.name v) := by
  rw [store_eq, accInv_iff] at *
  refine Slots.set _ fields st (nodup_of_namesNodup fields hnd) hl ?_ ?_ h
  · intro f _ hne w hs
    rw [memberAcc_eq] at hs ⊢
    rw [countP_snoc_ne pre c f.1 (fun e => hne e.symm)]
    exact hs
  · intro hs
    rw [memberAcc_eq] at hs ⊢
    rw [countP_snoc_eq pre c c.name rfl]
    exact occAcc_step hv (by simp [okItemsX, hv]) (fun l hl => okItemsX_append l v hl hv) hs

theorem accInv_final {I : Iface} (children : List Node) : (fields : List (Text × Ty)) → (st : List (Text × Val)) →
    AccInv I children fields st → freqOk fields children = true → okFieldsX I true false fields st = true
  | [], [], _, _ => by simp [okFieldsX]
  | [], _ :: _, h, _ => by simp [AccInv] at h
  | _ :: _, [], h, _ => by simp [AccInv] at h
  | (k, t) :: fs, (k', w) :: st, h, hf => by
    obtain ⟨hk, hm, hr⟩ := h
    subst hk
    simp only [freqOk, List.all_cons, Bool.and_eq_true] at hf
    have ih := accInv_final children fs st hr (by simpa [freqOk] using hf.2)
    rw [okFieldsX_cons, ih]
    simp only [decide_true, Bool.true_and, Bool.and_true]
    rcases occAcc_final hm hf.1 with ⟨hw, hmin⟩ | ⟨l, hrep, hw, hcnt, hok⟩ | ⟨hrep, hok⟩
    · subst hw; simp [fieldOk, hmin]
    · subst hw; simp [fieldOk, okX, hrep, hcnt, hok]
    · by_cases hw : w = .none
      · subst hw
        simp only [okOneX] at hok
        simp [fieldOk, hok, hrep]
      · rw [fieldOk_some hw, okX_nonrep hrep]
        exact hok


/-- what the only-if half needs from the environment -/
structure AccCtx (F : Facts08) (X : FactsXml) (cfg : Cfg) (I : Iface) : Prop where
  L : LeafLaws F
  /-- `unicode_from_element` validates `''` for an empty element, not None -/
  hE : X.emptyStringText = true
  /-- `xsi:type` is only followed to the declared class or a descendant -/
  hX : X.xsiTypeCheck = true
  hs : cfg.soft = true
  hI : ifaceWf I = true
  /-- a type that names a registered class lists that class's members: what `xsi:type` selects is checked against
      the same members as what is declared -/
  hC : ifaceCons I

theorem okOneX_obj_of_resolved {I : Iface} {t : Ty} (ht : tyCons I t) {cname cns : Text}
    {cb : Option Text} {fields : List (Text × Ty)} {o : Occ} (hr : ResolvedFrom I t (.obj cname cns cb fields o))
    (st : List (Text × Val)) (hst : okFieldsX I true false fields st = true) :
    okOneX I true false t (.obj cname st) = true := by
  rcases hr with h | ⟨dn, dns, db, dfs, docc, c, ht', hrt, hf, hs⟩
  · subst h; simp [okOneX, hst]
  · subst ht'
    injection hrt with h1 h2 h3 h4 h5
    subst h1; subst h4
    simp only [okOneX]
    by_cases hc : c.name = dn
    · simp only [hc, if_true]
      have := ht.1 c (by rw [← hc]; exact hf)
      rw [← this]; exact hst
    · simp [hc, hs, hf, hst]

theorem resolved_cons {I : Iface} (hC : ifaceCons I) {t rt : Ty} (ht : tyCons I t)
    (hr : ResolvedFrom I t rt) : tyCons I rt := by
  rcases hr with h | ⟨dn, dns, db, dfs, docc, c, ht', hrt, hf, hs⟩
  · subst h; exact ht
  · subst hrt
    obtain ⟨hcm, hcn⟩ := Registry.find?_some hf
    refine ⟨?_, hC c hcm⟩
    intro c' hc'
    rw [hf] at hc'
    cases hc'; rfl

/-- the members of the class an element is read as are well-formed when the declared type and the registry are -/
theorem resolved_wf {I : Iface} (hI : ifaceWf I = true) {t : Ty} (ht : tyWf t = true) {cname cns : Text} {cb : Option Text}
    {fields : List (Text × Ty)} {o : Occ} (hr : ResolvedFrom I t (.obj cname cns cb fields o)) :
    namesNodup fields = true ∧ wfFields fields = true := by
  rcases hr with h' | ⟨dn, dns, db, dfs, docc, c, ht', hrt', hf, hs⟩
  · subst h'
    simp only [tyWf, Bool.and_eq_true] at ht
    exact ⟨ht.1.1.1, ht.1.2⟩
  · simp only [ClassDef.toTy] at hrt'
    injection hrt' with h1 h2 h3 h4 h5
    subst h4
    obtain ⟨hcm, _⟩ := Registry.find?_some hf
    obtain ⟨a, _, b⟩ := ifaceWf_fields hI c hcm
    exact ⟨a, b⟩

mutual
  /-- soft validation: a delivered value satisfies every declared constraint -/
  theorem fromElement_acc {F : Facts08} {X : FactsXml} {cfg : Cfg} {I : Iface} (C : AccCtx F X cfg I)
      (t : Ty) (ht : tyWf t = true) (hc : tyCons I t) :
      (x : Node) → (w : Val) → fromElement F X cfg I t x = .ok w → okOneX I true false t w = true
    | .elem ns name attrs text children, w, h => by
      rcases fromElement_ok h with ⟨_, hn, hv⟩ | ⟨p, o, hr, hl⟩ | ⟨cname, cns, cb, fields, o, st, hr, hcl, hfq, hv⟩ |
        ⟨m, elem, o, vs, hr, hal, hv⟩
      · rw [hv]
        simpa [okOneX, C.hs] using hn
      · have := resolved_prim (resolved_sound C.hX C.hI hr)
        subst this
        exact leaf_acc C.L C.hE cfg C.hs I p o text w hl
      · have hr := resolved_sound C.hX C.hI hr
        have hwf := resolved_wf C.hI ht hr
        have hinv := childLoop_acc C fields hwf.1 hwf.2 (resolved_cons C.hC hc hr).2 children [] (initState fields) st
          (accInv_init I fields) hcl
        rw [hv]
        exact okOneX_obj_of_resolved hc hr st (accInv_final children fields st hinv (by simpa [C.hs] using hfq))
      · have := resolved_arr (resolved_sound C.hX C.hI hr)
        subst this
        simp only [tyWf, Bool.and_eq_true] at ht
        rw [hv]
        simpa [okOneX] using arrayLoop_acc C elem ht.1 hc children vs hal

  theorem childLoop_acc {F : Facts08} {X : FactsXml} {cfg : Cfg} {I : Iface} (C : AccCtx F X cfg I)
      (fields : List (Text × Ty)) (hnd : namesNodup fields = true) (hwf : wfFields fields = true)
      (hc : fieldsCons I fields) :
      (cs : List Node) → (pre : List Node) → (st st' : List (Text × Val)) → AccInv I pre fields st →
      childLoop F X cfg I fields cs st = .ok st' → AccInv I (pre ++ cs) fields st'
    | [], pre, st, st', hinv, h => by
      simp only [childLoop] at h; cases h; simpa using hinv
    | c :: cs, pre, st, st', hinv, h => by
      rw [show pre ++ c :: cs = (pre ++ [c]) ++ cs by simp]
      rcases childLoop_ok h with ⟨hl, h⟩ | ⟨mt, v, hl, hv, _, h⟩
      · exact childLoop_acc C fields hnd hwf hc cs (pre ++ [c]) st st'
          (accInv_skip pre c fields st (lookup_eq_none.mp hl) hinv) h
      · have hv' := fromElement_acc C mt (wfFields_lookup fields hwf c.name mt hl) (fieldsCons_lookup fields hc c.name mt hl) c v hv
        exact childLoop_acc C fields hnd hwf hc cs (pre ++ [c]) _ st' (accInv_step pre c mt v hv' fields st hnd hl hinv) h

  theorem arrayLoop_acc {F : Facts08} {X : FactsXml} {cfg : Cfg} {I : Iface} (C : AccCtx F X cfg I)
      (elem : Ty) (ht : tyWf elem = true) (hc : tyCons I elem) :
      (cs : List Node) → (vs : List Val) → arrayLoop F X cfg I elem cs = .ok vs →
      okItemsX I true false elem vs = true
    | [], vs, h => by
      simp only [arrayLoop] at h; cases h; rfl
    | c :: cs, vs, h => by
      obtain ⟨v, ws, hv, hws, hvs⟩ := arrayLoop_ok h
      rw [hvs, okItemsX, fromElement_acc C elem ht hc c v hv, arrayLoop_acc C elem ht hc cs ws hws]
      rfl
end

end Xml
end SpyneModel
