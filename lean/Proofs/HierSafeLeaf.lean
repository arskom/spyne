/-
  C10 / C04 at the leaves of dict documents: whatever document node stands where a primitive is declared,
  `_from_dict_value` does not let an exception escape and, under soft validation, yields `None` or a value of the
  declared kind (`LeafSafe`). The same case analysis of each leaf handler also gives what C05 needs of it (`LeafEx`).
  The text parsers enter through `LeafLaws.parsed` alone (`leafOk_ofOutcome`), Unicode text, which has no parser,
  through `LeafLaws.soft`. General in `F`, `G`.
-/
import Proofs.HierInv
namespace SpyneModel.Hier
open SpyneModel
variable {F : Facts08} {G : Facts02} {cfg : Cfg}

/-- `Safe` at `Val` (`safe_iff_safeRes`) -/
def SafeRes (cfg : Cfg) (ok : Val → Prop) : Res Val → Prop
  | .ok v l => cfg.soft = true → (l = false ∧ ok v)
  | .fault => True
  | .crash _ => False

theorem SafeRes.fault' {ok : Val → Prop} : SafeRes cfg ok .fault := trivial

theorem safe_iff_safeRes (ok : Val → Prop) (r : Res Val) : Safe cfg ok r ↔ SafeRes cfg ok r := by
  cases r <;> simp [Safe, SafeRes]

/-- what a leaf handler may return for the document `d`: a value of the declared kind, a fault, or a passed-through
    node (flagged) which `validate_native` then rejects under soft validation -/
def LeafSafe (G : Facts02) (cfg : Cfg) (p : PrimTy) (d : Doc) : Res Val → Prop
  | .ok v false => p.kindOk v = true
  | .ok _ true => cfg.soft = true → leakNative G cfg p d = .fault
  | .fault => True
  | .crash _ => False

/-- for a clean handler result, `validate_string` on the document and `validate_native` on the value decide the
    declared facets (for Unicode text that arrives as bytes: where `validate_string` is applied to it) -/
def LeafEx (F : Facts08) (G : Facts02) (p : PrimTy) (d : Doc) : Res Val → Prop
  | .ok v false =>
    G.binTextValidated = true → strOk F G p d = true → validateNative p v = true → p.valueOk v = true
  | _ => True

/-- what every leaf handler guarantees: C04 / C10 and C05 at the leaves, by one case analysis of each handler -/
def LeafOk (F : Facts08) (G : Facts02) (cfg : Cfg) (p : PrimTy) (d : Doc) (r : Res Val) : Prop :=
  LeafSafe G cfg p d r ∧ LeafEx F G p d r

theorem LeafSafe.fault' {p : PrimTy} {d : Doc} : LeafSafe G cfg p d .fault := trivial

section
variable {p : PrimTy} {d : Doc}

theorem LeafOk.fault' : LeafOk F G cfg p d .fault := ⟨trivial, trivial⟩

theorem LeafOk.leak (h : cfg.soft = true → leakNative G cfg p d = .fault) : LeafOk F G cfg p d leakVal := ⟨h, trivial⟩

theorem LeafOk.good {v : Val} (hk : p.kindOk v = true)
    (hx : G.binTextValidated = true → strOk F G p d = true → validateNative p v = true → p.valueOk v = true) :
    LeafOk F G cfg p d (.good v) := ⟨hk, hx⟩

end

theorem leakNative_int (hG : G.Good) (k r) (d : Doc) (hd : ∀ i, d ≠ .float (some i)) (hs : cfg.soft = true) :
    leakNative G cfg (.integer k r) d = .fault := by
  unfold leakNative
  simp only [hs, Bool.not_true, Bool.false_eq_true, if_false]
  cases d <;> simp [hG.nat]
  case float v => cases v <;> simp; exact absurd rfl (hd _)

theorem leakNative_str (a b c e) (d : Doc) (hs : cfg.soft = true) :
    leakNative G cfg (.unicode a b c e) d = .fault := by
  unfold leakNative
  simp only [hs, Bool.not_true, Bool.false_eq_true, if_false]

/-- the text parsers: sound and crash-free, and exact on text that `validate_string` has seen -/
theorem leafOk_ofOutcome (L : LeafLaws F) (p : PrimTy) (d : Doc) (s : Text)
    (hso : strOk F G p d = true → validateString F p s = true) :
    LeafOk F G cfg p d (ofOutcome (leafFromText F p s)) := by
  rcases L.parsed p s with h | ⟨v, h, hk, hx⟩ <;> rw [h]
  · exact LeafOk.fault'
  · exact LeafOk.good hk (fun _ h1 h2 => by rw [← hx, hso h1, h2]; rfl)

theorem kindOk_int (k r i) : (PrimTy.integer k r).kindOk (.int i) = true := rfl

theorem LeafOk.int (k r) (d : Doc) (i : Int) : LeafOk F G cfg (.integer k r) d (.good (.int i)) :=
  LeafOk.good rfl (fun _ _ h => (validateNative_int k r i).symm.trans h)

theorem intOfFloat_ok (hG : G.Good) (k r) (j : Bool) (v : Option Int) :
    LeafOk F G cfg (.integer k r) (.float v) (intOfFloat G j v) := by
  cases v with
  | none => exact LeafOk.leak (fun hs => leakNative_int hG k r _ (by intro i h; cases h) hs)
  | some i => simp only [intOfFloat, hG.iff, Bool.or_true, if_true]; exact LeafOk.int k r _ i

theorem intInJson_ok (hG : G.Good) (k r) (d : Doc) : LeafOk F G cfg (.integer k r) d (intInJson G d) := by
  cases d <;> simp only [intInJson] <;>
    first
    | exact LeafOk.fault'
    | exact LeafOk.int k r _ _
    | exact intOfFloat_ok hG k r _ _
    | exact LeafOk.leak (fun hs => leakNative_int hG k r _ (by intro i h; cases h) hs)

theorem intInMp_ok (hG : G.Good) (k r) (d : Doc) : LeafOk F G cfg (.integer k r) d (intInMp F G k d) := by
  cases d <;> simp only [intInMp] <;>
    first
    | exact LeafOk.fault'
    | exact LeafOk.int k r _ _
    | exact intOfFloat_ok hG k r _ _
    | exact LeafOk.leak (fun hs => leakNative_int hG k r _ (by intro i h; cases h) hs)
    | skip
  case str s =>
    unfold intFromText
    split
    · exact LeafOk.fault'
    · split
      · simp only [ofOutcome, Res.good_map]; exact LeafOk.int k r _ _
      · exact LeafOk.fault'
  case bytes bs =>
    split
    · exact LeafOk.fault'
    · split
      · split
        · exact LeafOk.int k r _ _
        · exact LeafOk.fault'
      · exact LeafOk.fault'

theorem boolIn_ok (hG : G.Good) (d : Doc) : LeafOk F G cfg .boolean d (boolIn G d) := by
  have hb : ∀ b, LeafOk F G cfg .boolean d (.good (.bool b)) := fun b => LeafOk.good rfl (fun _ _ _ => rfl)
  cases d <;> simp only [boolIn, hG.bool, if_true] <;> first | exact LeafOk.fault' | exact hb _ | skip
  case int i => split <;> first | exact hb _ | exact LeafOk.fault'
  case float v =>
    cases v with
    | none => exact LeafOk.fault'
    | some i => dsimp only; split <;> first | exact hb _ | exact LeafOk.fault'

theorem strIn_ok (L : LeafLaws F) (hG : G.Good) (a b c e) (d : Doc) :
    LeafOk F G cfg (.unicode a b c e) d (strIn G d) := by
  have hstr : ∀ s, (G.binTextValidated = true → strOk F G (.unicode a b c e) d = true →
        validateString F (.unicode a b c e) s = true) → LeafOk F G cfg (.unicode a b c e) d (.good (.str s)) :=
    fun s hso => LeafOk.good rfl (fun hb h1 h2 => by
      rw [← L.soft (.unicode a b c e) s (.str s) rfl, hso hb h1, h2]; rfl)
  cases d <;> simp only [strIn] <;> first | exact LeafOk.leak (fun hs => leakNative_str a b c e _ hs) | skip
  case str s => exact hstr s (fun _ h => h)
  case bytes bs =>
    cases hd : utf8Dec bs with
    | none => simp only [hG.utf8, if_true]; exact LeafOk.fault'
    | some s => exact hstr s (fun hb h => by simpa [strOk, hb, hd] using h)

theorem textIn_ok (L : LeafLaws F) (hG : G.Good) (bt : Bool) (p : PrimTy) (hp : ∀ s, validateString F p s = true)
    (d : Doc) : LeafOk F G cfg p d (textIn F G bt p d) := by
  cases d <;> simp only [textIn, kindError, hG.leaf, hG.tutf8, if_true] <;> first | exact LeafOk.fault' | skip
  case str s => exact leafOk_ofOutcome L p _ s (fun _ => hp s)
  case bytes bs =>
    split
    · split
      · exact leafOk_ofOutcome L p _ _ (fun _ => hp _)
      · exact LeafOk.fault'
    · exact LeafOk.fault'

theorem boolPass_good (hG : G.Good) : cfg.boolPass G = false := by
  simp [Cfg.boolPass, hG.mpbool]

theorem binDec_ok (L : LeafLaws F) (enc : BinEnc) (d : Doc) (s : Text) : LeafOk F G cfg (.bytes enc) d (binDec F enc s) :=
  leafOk_ofOutcome L (.bytes enc) d s (fun _ => rfl)

theorem bytesIn_ok (L : LeafLaws F) (hG : G.Good) (enc : BinEnc) (raw : Bool) (d : Doc) :
    LeafOk F G cfg (.bytes enc) d (bytesIn F G enc raw d) := by
  unfold bytesIn
  cases raw
  · simp only [Bool.false_eq_true, if_false]
    cases d <;> simp only [hG.bin, Bool.or_true, if_true] <;>
      first | exact LeafOk.fault' | exact binDec_ok L _ _ _ | skip
    case bytes bs => split; exact binDec_ok L _ _ _; exact LeafOk.fault'
    case list ds =>
      split
      · split; exact binDec_ok L _ _ _; exact LeafOk.fault'
      · exact LeafOk.fault'
    all_goals (split <;> exact LeafOk.fault')
  · simp only [if_true]
    cases d <;> simp only [hG.raw, if_true] <;> first | exact LeafOk.fault' | skip
    case bytes bs =>
      split
      · rename_i h; exact LeafOk.good rfl (fun _ _ _ => by simpa [PrimTy.valueOk] using h)
      · exact LeafOk.fault'

theorem enumIn_ok (names : List Text) (d : Doc) : LeafOk F G cfg (.enum names) d (enumIn names d) := by
  cases d <;> simp only [enumIn] <;> first | exact LeafOk.fault' | skip
  case str s =>
    split
    · rename_i h
      exact LeafOk.good (by simpa [PrimTy.kindOk] using h) (fun _ _ _ => by simpa [PrimTy.valueOk] using h)
    · exact LeafOk.fault'

theorem leafIn_ok (L : LeafLaws F) (hG : G.Good) (p : PrimTy) (d : Doc) : LeafOk F G cfg p d (leafIn F G cfg p d) := by
  cases p with
  | integer k r => simp only [leafIn]; split; exact intInMp_ok hG k r d; exact intInJson_ok hG k r d
  | boolean => simp only [leafIn, boolPass_good hG, Bool.false_eq_true, if_false]; exact boolIn_ok hG d
  | unicode a b c e => exact strIn_ok L hG a b c e d
  | bytes enc => exact bytesIn_ok L hG enc _ d
  | enum names => exact enumIn_ok names d
  | _ => exact textIn_ok L hG _ _ (fun _ => rfl) d

/-- what `_from_dict_value` may hand on for a primitive member: `None` where nillable, or a value of the declared kind
    that (where bytes text is length-checked) satisfies every declared facet -/
def PrimOk (G : Facts02) (p : PrimTy) (o : Occ) (v : Val) : Prop :=
  (v = .none ∧ o.nillable = true) ∨ (p.kindOk v = true ∧ (G.binTextValidated = true → p.valueOk v = true))

theorem postLeaf_ok (p : PrimTy) (o : Occ) (d : Doc) (r : Res Val) (h : LeafOk F G cfg p d r)
    (hso : cfg.soft = true → strOk F G p d = true) : Safe cfg (PrimOk G p o) (postLeaf G cfg p d r) := by
  cases r with
  | fault => exact Safe.fault'
  | crash e => exact h.1.elim
  | ok v l =>
    cases l
    · simp only [postLeaf]
      split
      · rename_i hc
        exact Safe.good (fun hs => Or.inr ⟨h.1, fun hb => h.2 hb (hso hs) (by simpa [hs] using hc)⟩)
      · exact Safe.fault'
    · simp only [postLeaf]
      cases hs : cfg.soft
      · simp [leakNative, hs, leakVal, Safe]
      · rw [h.1 hs]; exact Safe.fault'

/-- `_from_dict_value` on a primitive, whatever the document node is: never an escaping exception; under soft validation
    `None` (where nillable) or a value of the declared kind and, for C05, within every declared facet -/
theorem primIn_ok (L : LeafLaws F) (hG : G.Good) (p : PrimTy) (o : Occ) (d : Doc) :
    Safe cfg (PrimOk G p o) (primIn F G cfg p o d) := by
  unfold primIn
  split
  · exact Safe.fault'
  · rename_i hpre
    have hso : cfg.soft = true → strOk F G p d = true := fun hs => by
      cases h1 : strOk F G p d with
      | true => rfl
      | false => exact absurd (by simp [hs, h1]) hpre
    cases d <;> simp only []
    case null => exact Safe.nullable (fun _ hn => Or.inl ⟨rfl, hn⟩)
    all_goals exact postLeaf_ok p o _ _ (leafIn_ok L hG p _) hso

theorem primIn_safe (L : LeafLaws F) (hG : G.Good) (p : PrimTy) (o : Occ) (d : Doc) :
    Safe cfg (fun v => v = .none ∨ p.kindOk v = true) (primIn F G cfg p o d) :=
  (primIn_ok L hG p o d).mono (fun _ h => h.imp And.left And.left)

end SpyneModel.Hier
