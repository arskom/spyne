/-
  C06 lemmas: keyed lists — `dedupKeys` keeps the first definition of every name, so on a
  clash-free universe every generated component is found under its key; `List.lookup`, `nodupKeys`
  and `dedupL` under `map`, `filter` and `++`. At the end, what `tyWf` says about a member type, and the validators' loops over
  the children of an element as `List.all` of the test on one child.
-/
import Proofs.SchemaDefs
import Proofs.Assoc
import Proofs.Types
namespace SpyneModel
namespace Schema
open Xml

theorem dedupAux_sub {α} (seen : List Key) (l : List (Key × α)) : ∀ x ∈ dedupAux seen l, x ∈ l := by
  induction l generalizing seen with
  | nil => intro x hx; simp [dedupAux] at hx
  | cons e r ih =>
    obtain ⟨k, v⟩ := e
    intro x hx
    simp only [dedupAux] at hx
    split at hx
    · exact List.mem_cons_of_mem _ (ih seen x hx)
    · rcases List.mem_cons.mp hx with h | h
      · subst h; simp
      · exact List.mem_cons_of_mem _ (ih _ x h)

theorem dedupAux_notseen {α} (seen : List Key) (l : List (Key × α)) : ∀ x ∈ dedupAux seen l, seen.contains x.1 = false := by
  induction l generalizing seen with
  | nil => intro x hx; simp [dedupAux] at hx
  | cons e r ih =>
    obtain ⟨k, v⟩ := e
    intro x hx
    simp only [dedupAux] at hx
    split at hx
    · exact ih seen x hx
    · rename_i hk
      rcases List.mem_cons.mp hx with h | h
      · subst h; simpa using hk
      · have := ih (k :: seen) x h
        simp only [List.contains_cons, Bool.or_eq_false_iff] at this
        exact this.2

theorem nodupKeys_dedupAux {α} (seen : List Key) (l : List (Key × α)) : nodupKeys (dedupAux seen l) = true := by
  induction l generalizing seen with
  | nil => rfl
  | cons e r ih =>
    obtain ⟨k, v⟩ := e
    simp only [dedupAux]
    split
    · exact ih seen
    · simp only [nodupKeys, Bool.and_eq_true, Bool.not_eq_true', List.any_eq_false, beq_iff_eq]
      refine ⟨?_, ih _⟩
      intro x hx e
      have := dedupAux_notseen (k :: seen) r x hx
      simp [e] at this

theorem lookup_dedupAux {α} (seen : List Key) (l : List (Key × α)) (k : Key) (hk : seen.contains k = false) :
    (dedupAux seen l).lookup k = l.lookup k := by
  induction l generalizing seen with
  | nil => rfl
  | cons e r ih =>
    obtain ⟨k', v⟩ := e
    simp only [dedupAux]
    by_cases hs : seen.contains k' = true
    · rw [if_pos hs]
      have hne : (k == k') = false := by
        cases h : k == k' with
        | false => rfl
        | true => rw [beq_iff_eq.mp h] at hk; rw [hk] at hs; cases hs
      simp only [List.lookup, hne]
      exact ih seen hk
    · rw [if_neg hs]
      simp only [List.lookup]
      cases h : k == k' with
      | true => rfl
      | false =>
        apply ih
        simp only [List.contains_cons, Bool.or_eq_false_iff]
        exact ⟨h, hk⟩

theorem lookup_dedupKeys {α} (l : List (Key × α)) (k : Key) : (dedupKeys l).lookup k = l.lookup k :=
  lookup_dedupAux [] l k rfl

theorem lookup_functional {α} [DecidableEq α] (l : List (Key × α)) (h : functional l = true) (k : Key) (v : α)
    (hm : (k, v) ∈ l) : l.lookup k = some v := by
  induction l with
  | nil => cases hm
  | cons e r ih =>
    obtain ⟨k', v'⟩ := e
    simp only [functional, Bool.and_eq_true, List.all_eq_true, Bool.or_eq_true, bne_iff_ne, ne_eq, decide_eq_true_eq] at h
    simp only [List.lookup]
    rcases List.mem_cons.mp hm with e | e
    · injection e with e1 e2; subst e1; subst e2; simp
    · cases hk : k == k' with
      | false => exact ih h.2 e
      | true =>
        have := beq_iff_eq.mp hk
        subst this
        rcases h.1 (k, v) e with h1 | h1
        · exact absurd rfl h1
        · simp; exact h1.symm

theorem mem_of_lookup {α} (l : List (Key × α)) (k : Key) (v : α) (h : l.lookup k = some v) : (k, v) ∈ l :=
  SpyneModel.mem_of_lookup h

theorem lookup_isSome_mem {α β} [BEq α] [LawfulBEq α] {l : List (α × β)} {k : α} (h : (l.lookup k).isSome = true) :
    ∃ v, (k, v) ∈ l := by
  obtain ⟨v, hv⟩ := Option.isSome_iff_exists.mp h
  exact ⟨v, SpyneModel.mem_of_lookup hv⟩

theorem lookup_isSome_of_mem {α} (l : List (Key × α)) (e : Key × α) (h : e ∈ l) : (l.lookup e.1).isSome = true :=
  List.lookup_isSome_iff.mpr ⟨e, h, beq_self_eq_true _⟩

theorem lookup_map_self {α} (l : List (Key × α)) (k : Key) (h : (l.lookup k).isSome = true) :
    (l.map (fun e => (e.1, e.1))).lookup k = some k := by
  induction l with
  | nil => simp at h
  | cons e r ih =>
    obtain ⟨k', v⟩ := e
    simp only [List.map_cons, List.lookup_cons]
    by_cases hk : k = k'
    · subst hk; simp
    · have : (k == k') = false := by simpa using hk
      rw [this]
      simp only [List.lookup_cons, this] at h
      exact ih h

theorem mem_dedupL {α} [BEq α] [LawfulBEq α] (l : List α) (x : α) : x ∈ dedupL l ↔ x ∈ l := by
  induction l with
  | nil => simp [dedupL]
  | cons a r ih =>
    unfold dedupL
    by_cases h : r.contains a = true
    · rw [if_pos h, ih]
      have : a ∈ r := List.contains_iff_mem.mp h
      constructor
      · intro hx; exact List.mem_cons_of_mem _ hx
      · intro hx
        rcases List.mem_cons.mp hx with e | e
        · subst e; exact this
        · exact e
    · rw [if_neg h]
      simp [ih]

theorem nodupKeys_iff {α β} [BEq α] [LawfulBEq α] (l : List (α × β)) : nodupKeys l = true ↔ (l.map (·.1)).Nodup :=
  nodup_map_iff_of_rec (·.1) rfl (fun a r => by cases a; simp [nodupKeys]) l

theorem namesDistinct_iff (l : List (Text × Particle)) :
    namesDistinct l = true ↔ (l.map (fun e => (e.1, e.2.name))).Nodup :=
  nodup_map_iff_of_rec (fun e => (e.1, e.2.name)) rfl (fun a r => by cases a; simp [namesDistinct]) l

theorem namesNodup_iff (fs : List (Text × Ty)) : namesNodup fs = true ↔ (fs.map (·.1)).Nodup :=
  nodup_map_iff_of_rec (·.1) rfl (fun a r => by cases a; simp [namesNodup]) fs

theorem nodupKeys_map_self {α} (l : List (Key × α)) (h : nodupKeys l = true) :
    nodupKeys (l.map (fun e => (e.1, e.1))) = true := by
  rw [nodupKeys_iff, List.map_map]
  exact (nodupKeys_iff l).mp h

theorem nodupKeys_filter {α} (l : List (Key × α)) (p : Key × α → Bool) (h : nodupKeys l = true) : nodupKeys (l.filter p) = true :=
  (nodupKeys_iff _).mpr (((nodupKeys_iff l).mp h).sublist (List.filter_sublist.map _))

theorem nodupKeys_append {α} (a b : List (Key × α)) (ha : nodupKeys a = true) (hb : nodupKeys b = true)
    (hd : ∀ e ∈ b, a.lookup e.1 = none) : nodupKeys (a ++ b) = true := by
  rw [nodupKeys_iff, List.map_append, List.nodup_append]
  refine ⟨(nodupKeys_iff a).mp ha, (nodupKeys_iff b).mp hb, ?_⟩
  intro k hk k' hk' e
  obtain ⟨x, hx, rfl⟩ := List.mem_map.mp hk
  obtain ⟨y, hy, rfl⟩ := List.mem_map.mp hk'
  exact lookup_eq_none.mp (hd y hy) x hx e

theorem lookup_map_all {α β γ} [BEq α] (l : List γ) (key : γ → α) (val : γ → β) (d : β) (h : ∀ c ∈ l, val c = d) (k : α) :
    ((l.map (fun c => (key c, val c))).lookup k).getD d = d := by
  induction l with
  | nil => rfl
  | cons c r ih =>
    simp only [List.map_cons, List.lookup]
    cases hk : k == key c with
    | true => simp [h c (by simp)]
    | false => exact ih (fun c hc => h c (by simp [hc]))

theorem lookup_of_mem_nodup {γ β} (l : List γ) (key : γ → Key) (val : γ → β)
    (h : nodupKeys (l.map (fun c => (key c, ()))) = true) (c : γ) (hc : c ∈ l) :
    (l.map (fun c => (key c, val c))).lookup (key c) = some (val c) := by
  rw [nodupKeys_iff, List.map_map] at h
  exact SpyneModel.lookup_of_mem_nodup (by rw [List.map_map]; exact h) (List.mem_map_of_mem (f := fun c => (key c, val c)) hc)

theorem nodupKeys_map_keys {γ β} (l : List γ) (key : γ → Key) (val : γ → β)
    (h : nodupKeys (l.map (fun c => (key c, ()))) = true) : nodupKeys (l.map (fun c => (key c, val c))) = true := by
  rw [nodupKeys_iff, List.map_map] at h ⊢
  exact h

/-- `visible`, of a set of documents: a component of the same namespace, or of an imported one -/
theorem visible_of (imports : List (Text × Text)) (ns : Text) (k : Key) (h : k.1 ≠ ns → (ns, k.1) ∈ imports) :
    (decide (k.1 = ns) || imports.contains (ns, k.1)) = true := by
  cases hd : decide (k.1 = ns) with
  | true => rfl
  | false => exact (Bool.false_or _).trans (List.contains_iff_mem.mpr (h (of_decide_eq_false hd)))

theorem gen_simple_lookup (A : App) (k : Key) : (gen A).simple.lookup k = (rawSimple A).lookup k := lookup_dedupKeys _ k

theorem gen_complex_lookup (A : App) (k : Key) : (gen A).complex.lookup k = (rawComplex A).lookup k := lookup_dedupKeys _ k

theorem mem_gen_simple {A : App} {e : Key × SimpleDef} (h : e ∈ (gen A).simple) : e ∈ rawSimple A := dedupAux_sub [] _ e h

theorem mem_gen_complex {A : App} {e : Key × ComplexDef} (h : e ∈ (gen A).complex) : e ∈ rawComplex A := dedupAux_sub [] _ e h

/-- `complex_add`: a simple type of the set is contributed by the type of a member some class declares -/
theorem mem_rawSimple {A : App} {e : Key × SimpleDef} : e ∈ rawSimple A ↔
    ∃ D ∈ A.allClasses, ∃ f ∈ ownFields A.iface D, e ∈ (tyDefs A D.ns D.name f.1 f.2).simple := by
  simp only [rawSimple, classDefs, List.flatMap_map, List.mem_flatMap]

/-- a complexType of the set is that of a class, or contributed by the type of a member some class declares -/
theorem mem_rawComplex {A : App} {e : Key × ComplexDef} : e ∈ rawComplex A ↔
    ∃ D ∈ A.allClasses, (∃ f ∈ ownFields A.iface D, e ∈ (tyDefs A D.ns D.name f.1 f.2).complex) ∨ e = classComplex A D := by
  simp only [rawComplex, classDefs, List.flatMap_map, List.mem_flatMap, List.mem_append, List.mem_singleton]

theorem gen_simple_nodup (A : App) : nodupKeys (gen A).simple = true := nodupKeys_dedupAux [] _

theorem gen_complex_nodup (A : App) : nodupKeys (gen A).complex = true := nodupKeys_dedupAux [] _

theorem mem_gen_elements {A : App} {e : Key × Key} : e ∈ (gen A).elements ↔ ∃ y ∈ (gen A).complex, (y.1, y.1) = e :=
  List.mem_map

/-- `add_element`: one element per complexType, under its name -/
theorem gen_elements_lookup (A : App) (k : Key) (h : (gen A).hasComplex k = true) : (gen A).elements.lookup k = some k :=
  lookup_map_self _ _ h

theorem gen_chainBound (A : App) : (gen A).chainBound = A.iface.classes.length + 1 := rfl

theorem mem_gen_imports {A : App} {i : Text × Text} : i ∈ (gen A).imports ↔ ∃ D ∈ A.allClasses, i ∈ classImports A D :=
  (mem_dedupL _ i).trans List.mem_flatMap

/-- `Interface.add_class`: the document of a class imports the other namespaces its parent and its member types live in -/
theorem mem_classImports {A : App} {D : ClassDef} {i : Text × Text} : i ∈ classImports A D ↔
    i.1 = D.ns ∧ i.2 ≠ D.ns ∧ i.2 ∈ (match parentOf A.iface D with | some P => [P.ns] | none => []) ++
      (ownFields A.iface D).filterMap (fun f => refNs (refOf A D.ns D.name f.1 f.2)) := by
  obtain ⟨a, n⟩ := i
  simp only [classImports, List.mem_filterMap]
  constructor
  · rintro ⟨m, hm, h⟩
    split at h
    · cases h
    · injection h with h; injection h with h1 h2; subst h1; subst h2; exact ⟨rfl, ‹_›, hm⟩
  · rintro ⟨rfl, hne, hm⟩
    exact ⟨n, hm, by rw [if_neg hne]⟩

theorem mem_docNs {S : Schema} {n : Text} : n ∈ S.docNs ↔
    n = S.tns ∨ (∃ e ∈ S.simple, e.1.1 = n) ∨ (∃ e ∈ S.complex, e.1.1 = n) ∨ (∃ e ∈ S.elements, e.1.1 = n) := by
  simp only [Schema.docNs, mem_dedupL, List.mem_cons, List.mem_append, List.mem_map, or_assoc]

theorem occWf_iff (o : Occ) : occWf o = true ↔ o.Wf := by
  unfold occWf Occ.Wf
  cases o.maxOccurs <;> simp

theorem occWf_of_tyWf (t : Ty) (h : tyWf t = true) : occWf t.occ = true := by
  cases t with
  | prim p o => simp only [tyWf, Bool.and_eq_true] at h; exact h.2
  | obj n ns b fs o => simp only [tyWf, Bool.and_eq_true] at h; exact h.1.1
  | arr m e o => simp only [tyWf, Bool.and_eq_true] at h; exact h.1.1.1.1

theorem tyWf_of_mem (fs : List (Text × Ty)) (hw : fieldsWf fs = true) : ∀ f ∈ fs, tyWf f.2 = true := by
  induction fs with
  | nil => intro f hf; cases hf
  | cons g r ih =>
    obtain ⟨k, t⟩ := g
    simp only [fieldsWf, Bool.and_eq_true] at hw
    exact List.forall_mem_cons.mpr ⟨hw.1.1.2, ih hw.2⟩

theorem isEnum_default (p : PrimTy) (h : isEnum p = true) : primIsDefault p = true := by
  cases p <;> first | rfl | cases h

theorem denote_ctx (pf : PrimTy → List Facet) (tns ctx ctx' : Text) (t : Ty) (h : ctxFree t = true) :
    denote pf tns ctx t = denote pf tns ctx' t := by
  cases t with
  | prim p o => rfl
  | obj n ns b fs o => rfl
  | arr m e o =>
    cases e with
    | prim p o' =>
      simp only [ctxFree, Bool.or_eq_true] at h
      have hd : primIsDefault p = true := h.elim (isEnum_default p) id
      simp [denote, memberNs, arrNs, hd]
    | obj n ns b fs o' => simp [denote, memberNs, arrNs]
    | arr m' e' o' => cases h

theorem tyWf_arr {m : Text} {e : Ty} {o : Occ} (h : tyWf (.arr m e o) = true) :
    e.occ.minOccurs = 0 ∧ e.occ.maxOccurs = none ∧ tyWf e = true ∧ ctxFree e = true := by
  unfold tyWf at h
  simp only [Bool.and_eq_true, decide_eq_true_eq] at h
  refine ⟨h.1.1.1.2, h.1.1.2, h.1.2, ?_⟩
  cases e with
  | prim p o' => rfl
  | obj n ns b fs o' => rfl
  | arr m' e' o' =>
    cases e' with
    | prim p o'' => exact h.2
    | obj n ns b fs o'' => rfl
    | arr m'' e'' o'' => cases h.2

theorem all_congr_mem {α} {l : List α} {p q : α → Bool} (h : ∀ x ∈ l, p x = q x) : l.all p = l.all q := by
  induction l with
  | nil => rfl
  | cons a r ih =>
    simp only [List.all_cons]
    rw [h a (by simp), ih (fun x hx => h x (by simp [hx]))]

def childOkS (ps : List (Key × Occ × STy)) (c : Node) : Bool :=
  match findS ps (nodeKey c) with
  | some (o, d) => validS d o.nillable c
  | none => false

theorem validChildrenS_all (ps : List (Key × Occ × STy)) : ∀ cs, validChildrenS ps cs = cs.all (childOkS ps) :=
  all_of_rec (by rw [validChildrenS]) (fun _ _ => by rw [validChildrenS]; rfl)

theorem validChildren_all (S : Schema) (ps : List (Text × Particle)) :
    ∀ cs, validChildren S ps cs = cs.all (fun c =>
      match findParticle ps c.ns c.name with
      | some p => validElem S p.type p.occ.nillable c
      | none => false) :=
  all_of_rec (by rw [validChildren]) (fun _ _ => by rw [validChildren]; rfl)

theorem validChildrenS_of_mem (ps : List (Key × Occ × STy)) (kids : List Node)
    (h : ∀ c ∈ kids, ∃ o d, findS ps (nodeKey c) = some (o, d) ∧ validS d o.nillable c = true) :
    validChildrenS ps kids = true := by
  rw [validChildrenS_all, List.all_eq_true]
  intro c hc
  obtain ⟨o, d, hf, hv⟩ := h c hc
  rw [childOkS, hf]
  exact hv

end Schema
end SpyneModel
