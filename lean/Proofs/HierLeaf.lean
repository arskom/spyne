/-
  Leaf-level lemmas of the dict-document codec: what `primIn` does with the encoder's own leaves
  (round trip) — general in `F`, `G`, using only the `LeafLaws`.
-/
import SpyneModel.HierSpec
import Proofs.LeafLaws
import Proofs.Types
import Proofs.HierUtf8
import Proofs.Prim
namespace SpyneModel.Hier
open SpyneModel

def isAscii (s : Text) : Bool := s.all (fun c => decide (c.toNat < 128))

theorem utf8Enc_ascii (s : Text) (h : isAscii s = true) : utf8Enc s = s.map Char.toNat := by
  induction s with
  | nil => rfl
  | cons c cs ih =>
    simp only [isAscii, List.all_cons, Bool.and_eq_true, decide_eq_true_eq] at h
    have := ih (by simpa [isAscii] using h.2)
    simp [utf8Enc, utf8EncChar, h.1, this]

theorem asciiOfBytes_map (s : Text) (h : isAscii s = true) : asciiOfBytes (s.map Char.toNat) = some s := by
  unfold asciiOfBytes
  have h1 : (s.map Char.toNat).all (· < 128) = true := by
    simp only [isAscii, List.all_eq_true, decide_eq_true_eq] at h
    simp only [List.all_eq_true, List.mem_map, decide_eq_true_eq]
    rintro _ ⟨c, hc, rfl⟩; exact h c hc
  simp only [h1, if_true, List.map_map]
  congr 1
  have : (Char.ofNat ∘ Char.toNat) = id := by funext c; simp [Char.ofNat_toNat]
  rw [this, List.map_id]

theorem asciiOfBytes_utf8Enc (s : Text) (h : isAscii s = true) : asciiOfBytes (utf8Enc s) = some s := by
  rw [utf8Enc_ascii s h]; exact asciiOfBytes_map s h

theorem utf8Enc_length_ascii (s : Text) (h : isAscii s = true) : (utf8Enc s).length = s.length := by
  rw [utf8Enc_ascii s h]; simp

theorem isAscii_append (a b : Text) : isAscii (a ++ b) = (isAscii a && isAscii b) := by
  simp [isAscii, List.all_append]

theorem isDigit_ascii (c : Char) (h : isDigit c = true) : c.toNat < 128 := by
  simp [isDigit] at h; omega

theorem natText_ascii (n : Nat) : isAscii (natText n) = true := by
  have h := natText_all_digits n
  simp only [isAscii, List.all_eq_true, decide_eq_true_eq] at *
  intro c hc; exact isDigit_ascii c (h c hc)

theorem intText_ascii (i : Int) : isAscii (intText i) = true := by
  unfold intText
  split
  · simp only [isAscii, List.all_cons, Bool.and_eq_true, decide_eq_true_eq]
    exact ⟨by decide, by simpa [isAscii] using natText_ascii i.natAbs⟩
  · exact natText_ascii _

theorem hexDigit_ascii : ∀ n, n < 16 → (hexDigit n).toNat < 128 := by decide

theorem hexenc_ascii (bs : List Nat) (h : bs.all (fun b => decide (b < 256)) = true) : isAscii (hexenc bs) = true := by
  induction bs with
  | nil => rfl
  | cons b r ih =>
    simp only [List.all_cons, Bool.and_eq_true, decide_eq_true_eq] at h
    simp only [hexenc, isAscii, List.all_cons, Bool.and_eq_true, decide_eq_true_eq]
    refine ⟨hexDigit_ascii _ (by omega), hexDigit_ascii _ (by omega), ?_⟩
    simpa [isAscii] using ih h.2

/-- every value of the base64 alphabet function is an ASCII character (`_` / `/` beyond 63) -/
theorem b64Char_ascii (url : Bool) (n : Nat) : (b64Char url n).toNat < 128 := by
  by_cases h : n < 64
  · exact (by decide : ∀ url, ∀ n, n < 64 → (b64Char url n).toNat < 128) url n h
  · have : b64Char url n = if url then '_' else '/' := by
      unfold b64Char
      rw [if_neg (by omega), if_neg (by omega), if_neg (by omega), if_neg (by omega)]
    rw [this]; cases url <;> decide

theorem b64enc_ascii (url : Bool) : ∀ (bs : List Nat), isAscii (b64enc url bs) = true
  | [] => rfl
  | [a] => by simp [b64enc, isAscii, b64Char_ascii]
  | [a, b] => by simp [b64enc, isAscii, b64Char_ascii]
  | a :: b :: c :: r => by
    have := b64enc_ascii url r
    simp only [isAscii] at this
    simp [b64enc, isAscii, b64Char_ascii, this]

variable {F : Facts08}

theorem validateNative_int (k : IntKind) (r : Range) (i : Int) :
    validateNative (.integer k r) (.int i) = (PrimTy.integer k r).valueOk (.int i) := by
  simp only [validateNative, PrimTy.valueOk]
  cases r.holds i <;> simp <;> rfl

theorem preOk_str (G : Facts02) (cfg : Cfg) (p : PrimTy) (o : Occ) (s : Text) (h : validateString F p s = true) :
    preOk F G cfg p o (.str s) = true := by
  unfold preOk
  simp only [Doc.isNull, Bool.false_and, Bool.false_eq_true, if_false, Bool.and_eq_true]
  constructor
  · split <;> first | rfl | contradiction
  · split <;> first | rfl | exact h

/-- `_from_dict_value` on a primitive, step by step: `validate`, `validate_string`, the leaf handler, `validate_native` -/
theorem primIn_good {G : Facts02} {cfg : Cfg} {p : PrimTy} {o : Occ} {d : Doc} {v : Val}
    (hpre : preOk F G cfg p o d = true) (hstr : strOk F G p d = true) (hd : d.isNull = false)
    (hleaf : leafIn F G cfg p d = .good v) (hnat : validateNative p v = true) :
    primIn F G cfg p o d = .good v := by
  unfold primIn
  simp only [hpre, hstr, Bool.and_self, Bool.not_true, Bool.and_false, Bool.false_eq_true, if_false]
  cases d <;> first | (cases hd; done) | simp [hleaf, postLeaf, Res.good, hnat]

theorem primIn_null {G : Facts02} {cfg : Cfg} {p : PrimTy} {o : Occ} {v : Val}
    (h : primIn F G cfg p o .null = .good v) : v = .none := by
  unfold primIn at h
  split at h
  · cases h
  · simp only [] at h
    split at h
    · cases h
    · cases h; rfl

/-- the integers MessagePack carries as numbers: `-1<<63 <= value < 1<<64` in `MessagePackDocument.integer_to_bytes`
    (spyne/protocol/msgpack.py); `leafOut`, `bounded_in_window` and `convLeaf` write the two bounds out -/
def inMpWindow (i : Int) : Bool := decide (-9223372036854775808 ≤ i) && decide (i < 18446744073709551616)

theorem primIn_int (G : Facts02) (cfg : Cfg) (k : IntKind) (r : Range) (o : Occ) (i : Int)
    (hv : (PrimTy.integer k r).valueOk (.int i) = true) :
    primIn F G cfg (.integer k r) o (.int i) = .good (.int i) := by
  refine primIn_good ?_ rfl rfl ?_ ((validateNative_int k r i).trans hv)
  · unfold preOk; cases cfg.proto <;> rfl
  · cases hm : cfg.proto.isMsgpack <;> simp [leafIn, hm, intInJson, intInMp]

theorem primIn_bool (G : Facts02) (cfg : Cfg) (o : Occ) (b : Bool) :
    primIn F G cfg .boolean o (.bool b) = .good (.bool b) := by
  refine primIn_good ?_ rfl rfl ?_ rfl
  · unfold preOk; cases cfg.proto <;> rfl
  · cases hb : cfg.boolPass G <;> simp [leafIn, hb, boolIn, boolPassIn]

theorem preOk_bytes (G : Facts02) (cfg : Cfg) (p : PrimTy) (o : Occ) (bs : List Nat) (hm : cfg.proto.isMsgpack = true) :
    preOk F G cfg p o (.bytes bs) = true := by
  unfold preOk
  simp only [Doc.isNull, Bool.false_and, Bool.false_eq_true, if_false, Bool.and_eq_true]
  constructor
  · split <;> first | rfl | contradiction
  · split <;> first | rfl | (rename_i hj; rw [hj] at hm; cases hm)

/-- MessagePack: UTF-8 `bin` for a Unicode member -/
theorem primIn_str_bytes (G : Facts02) (cfg : Cfg) (a : Nat) (b : Option Nat) (c : Option Pattern) (d : List Text)
    (o : Occ) (s : Text) (hm : cfg.proto.isMsgpack = true)
    (h3 : validateString F (.unicode a b c d) s = true)
    (h4 : validateNative (.unicode a b c d) (.str s) = true) :
    primIn F G cfg (.unicode a b c d) o (.bytes (utf8Enc s)) = .good (.str s) := by
  refine primIn_good (preOk_bytes G cfg _ o _ hm) ?_ rfl ?_ h4
  · simp only [strOk, utf8Dec_utf8Enc, h3]; split <;> rfl
  · simp [leafIn, strIn, utf8Dec_utf8Enc]

/-- MessagePack: ASCII text as `bin` for a ByteArray with a text encoding -/
theorem primIn_bin_bytes (G : Facts02) (cfg : Cfg) (enc : BinEnc) (o : Occ) (s : Text) (bs : List Nat)
    (hm : cfg.proto.isMsgpack = true) (hraw : isRaw cfg enc = false) (ha : isAscii s = true)
    (h2 : leafFromText F (.bytes enc) s = .ok (.bytes bs)) :
    primIn F G cfg (.bytes enc) o (.bytes (utf8Enc s)) = .good (.bytes bs) :=
  primIn_good (preOk_bytes G cfg _ o _ hm) rfl rfl
    (by simp [leafIn, bytesIn, hraw, asciiOfBytes_utf8Enc s ha, binDec, h2, ofOutcome]) rfl

theorem primIn_raw_bytes (G : Facts02) (cfg : Cfg) (enc : BinEnc) (o : Occ) (bs : List Nat)
    (hm : cfg.proto.isMsgpack = true) (hraw : isRaw cfg enc = true)
    (hall : bs.all (fun b => decide (b < 256)) = true) :
    primIn F G cfg (.bytes enc) o (.bytes bs) = .good (.bytes bs) :=
  primIn_good (preOk_bytes G cfg _ o _ hm) rfl rfl (by simp only [leafIn, bytesIn, hraw, if_true, hall]) rfl

/-- MessagePack: an integer outside the 64-bit window travels as its decimal text in a `bin` -/
theorem primIn_int_bytes (G : Facts02) (cfg : Cfg) (k : IntKind) (r : Range) (o : Occ) (i : Int)
    (hm : cfg.proto.isMsgpack = true) (hv : (PrimTy.integer k r).valueOk (.int i) = true)
    (hfit : (intToText i).length ≤ F.intMaxStrLen k) :
    primIn F G cfg (.integer k r) o (.bytes (utf8Enc (intToText i))) = .good (.int i) := by
  have ha : isAscii (intToText i) = true := intText_ascii i
  have hl : ¬ (F.intMaxStrLen k < (utf8Enc (intToText i)).length) := by
    rw [utf8Enc_length_ascii _ ha]; omega
  have hpy : pyInt (intToText i) = some i := pyInt_intText i
  exact primIn_good (preOk_bytes G cfg _ o _ hm) rfl rfl
    (by simp [leafIn, hm, intInMp, hl, asciiOfBytes_utf8Enc _ ha, hpy]) ((validateNative_int k r i).trans hv)

theorem bounded_in_window (k : IntKind) (r : Range) (i : Int) (hk : k ≠ .unbounded)
    (hv : (PrimTy.integer k r).valueOk (.int i) = true) :
    -9223372036854775808 ≤ i ∧ i < 18446744073709551616 := by
  have hb : ∃ lo hi, k.lo = some lo ∧ k.hi = some hi ∧ -9223372036854775808 ≤ lo ∧ hi < 18446744073709551616 := by
    cases k <;> first | exact absurd rfl hk | exact ⟨_, _, rfl, rfl, by decide, by decide⟩
  obtain ⟨lo, hi, hl, hh, b1, b2⟩ := hb
  simp only [PrimTy.valueOk, hl, hh, Bool.and_eq_true, decide_eq_true_eq] at hv
  exact ⟨Int.le_trans b1 hv.1.1, Int.lt_of_le_of_lt hv.1.2 b2⟩

theorem valueOk_bytes_all (enc : BinEnc) (bs : List Nat) (hv : (PrimTy.bytes enc).valueOk (.bytes bs) = true) :
    bs.all (fun b => decide (b < 256)) = true := by simpa [PrimTy.valueOk] using hv

theorem primIn_text (L : LeafLaws F) (G : Facts02) (cfg : Cfg) (p : PrimTy) (o : Occ) (v : Val) (s : Text)
    (hs : leafToText F p v = some s) (hv : p.valueOk v = true) (hf : leafFits F p v = true)
    (hp : ∀ k r, p ≠ .integer k r) (hb : p ≠ .boolean) (hraw : ∀ enc, p = .bytes enc → isRaw cfg enc = false) :
    primIn F G cfg p o (.str s) = .good v := by
  obtain ⟨s', h1, h2, h3, h4⟩ := L.text hv hf
  rw [hs] at h1; cases h1
  refine primIn_good (preOk_str G cfg p o s h3) h3 rfl ?_ h4
  cases p with
  | integer k r => exact absurd rfl (hp k r)
  | boolean => exact absurd rfl hb
  | unicode a b c d =>
    simp only [leafFromText, Outcome.ok.injEq] at h2
    subst h2; rfl
  | bytes enc => simp [leafIn, bytesIn, hraw enc rfl, binDec, h2, ofOutcome]
  | enum names =>
    simp only [leafFromText] at h2
    split at h2
    · rename_i hc
      simp only [Outcome.ok.injEq] at h2; subst h2
      have hc' : s ∈ names := by simpa using hc
      simp [leafIn, enumIn, hc']
    · cases h2
  | _ => simp [leafIn, textIn, h2, ofOutcome]

/-- the conformant leaf values, by how the dict protocols write them: numbers and booleans as themselves, byte arrays
    without an explicit text encoding as raw bytes where the protocol has them, everything else as its canonical text -/
inductive LeafView (F : Facts08) : PrimTy → Val → Prop
  | int (k : IntKind) (r : Range) (i : Int) : LeafView F (.integer k r) (.int i)
  | bool (b : Bool) : LeafView F .boolean (.bool b)
  | b64 (bs : List Nat) : LeafView F (.bytes .base64) (.bytes bs)
  | text {p : PrimTy} {v : Val} (s : Text) (hp : ∀ k r, p ≠ .integer k r) (hb : p ≠ .boolean)
      (h64 : p ≠ .bytes .base64) (hs : leafToText F p v = some s) (hf : leafFits F p v = true) : LeafView F p v

theorem leafView {p : PrimTy} {v : Val} (h : p.valueOk v = true) : LeafView F p v := by
  induction p, v, h using PrimTy.valueOk_cases with
  | int k r i => exact .int k r i
  | bool b => exact .bool b
  | bytes enc bs => cases enc <;> first | exact .b64 _ | exact .text _ (by intros; simp) (by simp) (by simp) rfl rfl
  | _ => exact .text _ (by intros; simp) (by simp) (by simp) rfl rfl

/-- the protocol's own leaf for a value that travels as text: `time_to_bytes` returns `str` -/
theorem leafOut_text (cfg : Cfg) {p : PrimTy} {v : Val} {s : Text} (hp : ∀ k r, p ≠ .integer k r) (hb : p ≠ .boolean)
    (h64 : p ≠ .bytes .base64) (hs : leafToText F p v = some s) :
    leafOut F cfg p v = if p = .time then .str s else textOut cfg s := by
  unfold leafToText at hs
  split at hs <;> first
    | exact absurd rfl (hp _ _)
    | exact absurd rfl hb
    | exact absurd rfl h64
    | (cases hs; simp [leafOut, leafToText])
    | cases hs

theorem isRaw_text (cfg : Cfg) {p : PrimTy} (h64 : p ≠ .bytes .base64) : ∀ enc, p = .bytes enc → isRaw cfg enc = false := by
  rintro enc rfl
  cases enc <;> first | exact absurd rfl h64 | simp [isRaw]

/-- every conformant leaf value survives `to_serstr` followed by `_from_dict_value` -/
theorem primIn_leafOut (L : LeafLaws F) (G : Facts02) (cfg : Cfg) (p : PrimTy) (o : Occ) (v : Val)
    (hv : p.valueOk v = true)
    (hfit : cfg.proto.isMsgpack = true → fitsV F v = true)
    (hmp : cfg.proto.isMsgpack = true → mpLeafOk p = true) :
    primIn F G cfg p o (leafOut F cfg p v) = .good v := by
  cases leafView (F := F) hv with
  | int k r i =>
    simp only [leafOut]
    split
    · rename_i hm
      split
      · exact primIn_int G cfg k r o i hv
      · rename_i hw
        have hk : k = .unbounded := by
          cases k <;> first | rfl | exact absurd (bounded_in_window _ r i (by simp) hv) hw
        subst hk
        exact primIn_int_bytes G cfg .unbounded r o i hm hv (by simpa [fitsV, fitsInt] using hfit hm)
    · exact primIn_int G cfg k r o i hv
  | bool b => exact primIn_bool G cfg o b
  | b64 bs =>
    cases hm : cfg.proto.isMsgpack
    · simpa [leafOut, hm] using
        primIn_text L G cfg (.bytes .base64) o _ _ rfl hv rfl (by intros; simp) (by simp) (by simp [isRaw, hm])
    · simpa [leafOut, hm] using
        primIn_raw_bytes G cfg .base64 o bs hm (by simp [isRaw, hm]) (valueOk_bytes_all _ bs hv)
  | text s hp hb h64 hs hf =>
    have htext := primIn_text L G cfg p o v s hs hv hf hp hb (isRaw_text cfg h64)
    rw [leafOut_text cfg hp hb h64 hs]
    by_cases ht : p = .time
    · rw [if_pos ht]; exact htext
    · rw [if_neg ht]
      cases hm : cfg.proto.isMsgpack
      · simpa [textOut, hm] using htext
      · -- MessagePack writes text as `bin`: read back for Unicode and for byte arrays in hex / urlsafe text
        obtain ⟨s', h1, h2, h3, h4⟩ := L.text hv hf
        cases hs.symm.trans h1
        simp only [textOut, hm, if_true]
        have hmp' := hmp hm
        cases p <;> first
          | exact absurd rfl (hp _ _)
          | exact absurd rfl hb
          | exact absurd rfl ht
          | (cases hmp'; done)
          | skip
        case unicode a b c d =>
          cases v <;> first | (simp [leafToText] at hs; done) | skip
          simp only [leafToText, Option.some.injEq] at hs; subst hs
          exact primIn_str_bytes G cfg a b c d o _ hm h3 h4
        case bytes enc =>
          cases v <;> first | (cases enc <;> simp [leafToText] at hs; done) | skip
          have hall := valueOk_bytes_all enc _ hv
          cases enc
          · exact absurd rfl h64
          · simp only [leafToText, Option.some.injEq] at hs; subst hs
            exact primIn_bin_bytes G cfg .hex o _ _ hm (by simp [isRaw]) (hexenc_ascii _ hall) h2
          · simp only [leafToText, Option.some.injEq] at hs; subst hs
            exact primIn_bin_bytes G cfg .urlsafe o _ _ hm (by simp [isRaw]) (b64enc_ascii true _) h2

end SpyneModel.Hier
