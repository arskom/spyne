/-
  C15 proofs: the variants discipline (with the rule that every class has its own `_variants`).
  The invariant is stated on a *view* of the heap - per class: family, `Attributes` record, original; per
  record: own `_variants` entry - and shown to be kept by every model program.
-/
import Proofs.DeriveObs
namespace SpyneModel.Derive

/-- what the variants discipline reads of a heap: per class (is it of the ComplexModel family, its `Attributes`
    record, its original), per record (its own `_variants` entry) -/
structure View where
  /-- `none`: no such class; else (of the ComplexModel family?, its record, its original - `none` for a declared class) -/
  cls : Nat → Option (Bool × Nat × Option Nat)
  /-- `none`: no such record; `some v`: the record's `AttrRec.variants`, i.e. `some none` no own entry (the lookup
      falls through to the parent), `some (some none)` own `None`, `some (some (some l))` own dict with keys `l` -/
  var : Nat → Option (Option (Option (List Nat)))

def upd {β : Type} (f : Nat → β) (i : Nat) (x : β) : Nat → β := fun j => if j = i then x else f j

theorem upd_self {β : Type} (f : Nat → β) (i : Nat) (x : β) : upd f i x i = x := if_pos rfl
theorem upd_ne {β : Type} (f : Nat → β) {i j : Nat} (x : β) (h : j ≠ i) : upd f i x j = f j := if_neg h

structure IV (v : View) : Prop where
  /-- the record of every class exists -/
  range : ∀ c k a o, v.cls c = some (k, a, o) → v.var a ≠ none
  /-- no two classes of the family share a record -/
  inj : ∀ c1 c2 a o1 o2, v.cls c1 = some (true, a, o1) → v.cls c2 = some (true, a, o2) → c1 = c2
  /-- a class of the family has an own `_variants` entry: its lookup never falls through to a parent's -/
  own : ∀ c a o, v.cls c = some (true, a, o) → v.var a ≠ some none
  /-- the own entry of a customised variant is `None`, and its original is a declared class of the family -/
  variant : ∀ c a r, v.cls c = some (true, a, some r) →
    v.var a = some (some none) ∧ ∃ ar, v.cls r = some (true, ar, none)
  /-- the keys of an own dict are variants whose original is the owner -/
  sound : ∀ c a o l, v.cls c = some (true, a, o) → v.var a = some (some (some l)) →
    ∀ x, x ∈ l → ∃ ax, v.cls x = some (true, ax, some c)
  /-- every variant is a key of the own dict of its original -/
  complete : ∀ x ax r, v.cls x = some (true, ax, some r) →
    ∃ ar l, v.cls r = some (true, ar, none) ∧ v.var ar = some (some (some l)) ∧ x ∈ l

/-- the discipline only reads the classes of the family and the records they use -/
theorem IV.congr {v v' : View} (i : IV v)
    (hcls : ∀ c a o, v'.cls c = some (true, a, o) ↔ v.cls c = some (true, a, o))
    (hvar : ∀ c a o, v.cls c = some (true, a, o) → v'.var a = v.var a)
    (hrange : ∀ c k a o, v'.cls c = some (k, a, o) → v'.var a ≠ none) : IV v' where
  range := hrange
  inj c1 c2 a o1 o2 h1 h2 := i.inj c1 c2 a o1 o2 ((hcls ..).mp h1) ((hcls ..).mp h2)
  own c a o h := hvar c a o ((hcls ..).mp h) ▸ i.own c a o ((hcls ..).mp h)
  variant c a r h := by
    have h := (hcls ..).mp h
    obtain ⟨h1, ar, h2⟩ := i.variant c a r h
    exact ⟨hvar c a _ h ▸ h1, ar, (hcls ..).mpr h2⟩
  sound c a o l h hl x hx := by
    have h := (hcls ..).mp h
    obtain ⟨ax, h1⟩ := i.sound c a o l h (hvar c a o h ▸ hl) x hx
    exact ⟨ax, (hcls ..).mpr h1⟩
  complete x ax r h := by
    obtain ⟨ar, l, h1, h2, h3⟩ := i.complete x ax r ((hcls ..).mp h)
    exact ⟨ar, l, (hcls ..).mpr h1, hvar r ar none h1 ▸ h2, h3⟩

theorem IV.ne_fresh {v : View} (i : IV v) {a : Nat} (ha : v.var a = none) {c k a' o} (h : v.cls c = some (k, a', o)) :
    a' ≠ a := fun e => i.range c k a' o h (e ▸ ha)

theorem IV.addRecord {v : View} (i : IV v) (a : Nat) (ha : v.var a = none) (rv : Option (Option (List Nat))) :
    IV { v with var := upd v.var a (some rv) } := by
  refine i.congr (fun _ _ _ => Iff.rfl) (fun c a' o h => upd_ne _ _ (i.ne_fresh ha h)) (fun c k a' o h => ?_)
  show upd v.var a (some rv) a' ≠ none
  rw [upd_ne _ _ (i.ne_fresh ha h)]
  exact i.range c k a' o h

theorem IV.addSimple {v : View} (i : IV v) (c a : Nat) (o : Option Nat) (hc : v.cls c = none) (ha : v.var a ≠ none) :
    IV { v with cls := upd v.cls c (some (false, a, o)) } := by
  have hcls : ∀ c', c' ≠ c → upd v.cls c (some (false, a, o)) c' = v.cls c' := fun _ => upd_ne _ _
  refine i.congr (fun c' a' o' => ?_) (fun _ _ _ _ => rfl) (fun c' k a' o' h => ?_)
  · show upd v.cls c (some (false, a, o)) c' = _ ↔ _
    by_cases e : c' = c
    · simp [e, upd_self, hc]
    · rw [hcls c' e]
  · by_cases e : c' = c
    · have h : upd v.cls c (some (false, a, o)) c = _ := e ▸ h
      rw [upd_self] at h
      cases h; exact ha
    · exact i.range c' k a' o' ((hcls c' e).symm.trans h)

theorem upd_cases {β : Type} (f : Nat → Option β) (c : Nat) (t : β) (hc : f c = none) :
    (∀ c' t', upd f c (some t) c' = some t' → (c' = c ∧ t' = t) ∨ (c' ≠ c ∧ f c' = some t')) ∧
    (∀ c' t', f c' = some t' → upd f c (some t) c' = some t') := by
  refine ⟨fun c' t' h => ?_, fun c' t' h => (upd_ne _ _ (fun e => by rw [e, hc] at h; cases h)).trans h⟩
  by_cases e : c' = c
  · rw [e, upd_self] at h
    exact Or.inl ⟨e, (Option.some.inj h).symm⟩
  · exact Or.inr ⟨e, (upd_ne _ _ e).symm.trans h⟩

/-- a fresh class of the family on a fresh record whose own `_variants` is `None`: a declared class (`o = none`), or a
    customised variant, which the own list of its original gets as last key; the cell of no other class of the family
    changes, and no cell vanishes -/
theorem IV.addFamily {v : View} (i : IV v) (c a : Nat) (o : Option Nat) (hc : v.cls c = none) (ha : v.var a = none)
    (w : Nat → Option (Option (Option (List Nat)))) (wa : w a = some (some none))
    (wr : ∀ x, v.var x ≠ none → w x ≠ none)
    (ho : ∀ r, o = some r → ∃ ar, v.cls r = some (true, ar, none))
    (wo : ∀ c' a' o', v.cls c' = some (true, a', o') →
      (o ≠ some c' ∧ w a' = v.var a') ∨
      (o = some c' ∧ ∃ y, v.var a' = some (some y) ∧ w a' = some (some (some (y.getD [] ++ [c]))))) :
    IV ⟨upd v.cls c (some (true, a, o)), w⟩ := by
  obtain ⟨hcls, hkeep⟩ := upd_cases v.cls c (true, a, o) hc
  refine ⟨fun c' k a' o' h => ?_, fun c1 c2 a' o1 o2 h1 h2 => ?_, fun c' a' o' h => ?_, fun c' a' r h => ?_,
    fun c' a' o' l h hl x hx => ?_, fun x ax r h => ?_⟩
  · show w a' ≠ none
    rcases hcls _ _ h with ⟨_, e⟩ | ⟨_, h⟩
    · cases e; rw [wa]; nofun
    · exact wr _ (i.range _ _ _ _ h)
  · rcases hcls _ _ h1 with ⟨e1, t1⟩ | ⟨_, h1⟩ <;> rcases hcls _ _ h2 with ⟨e2, t2⟩ | ⟨_, h2⟩
    · rw [e1, e2]
    · cases t1; exact absurd rfl (i.ne_fresh ha h2)
    · cases t2; exact absurd rfl (i.ne_fresh ha h1)
    · exact i.inj _ _ _ _ _ h1 h2
  · show w a' ≠ some none
    rcases hcls _ _ h with ⟨_, e⟩ | ⟨_, h⟩
    · cases e; rw [wa]; nofun
    · rcases wo _ _ _ h with ⟨_, e⟩ | ⟨_, _, _, e⟩ <;> rw [e]
      · exact i.own _ _ _ h
      · nofun
  · show w a' = _ ∧ ∃ ar, upd v.cls c _ r = _
    rcases hcls _ _ h with ⟨_, e⟩ | ⟨_, h⟩
    · cases e
      obtain ⟨ar, hr⟩ := ho r rfl
      exact ⟨wa, ar, hkeep _ _ hr⟩
    · obtain ⟨h1, ar, h2⟩ := i.variant _ _ _ h
      rcases wo _ _ _ h with ⟨_, e⟩ | ⟨e, _⟩
      · exact ⟨e.trans h1, ar, hkeep _ _ h2⟩
      · -- the original of the new class is no variant
        obtain ⟨_, hr⟩ := ho _ e
        cases h.symm.trans hr
  · show ∃ ax, upd v.cls c _ x = _
    replace hl : w a' = some (some (some l)) := hl
    rcases hcls _ _ h with ⟨_, e⟩ | ⟨_, h⟩
    · cases e; rw [wa] at hl; cases hl
    · rcases wo _ _ _ h with ⟨_, e⟩ | ⟨e, y, hy, e'⟩
      · obtain ⟨ax, h1⟩ := i.sound _ _ _ _ h (e ▸ hl) x hx
        exact ⟨ax, hkeep _ _ h1⟩
      · -- the list of the original: its old members, and the new class
        cases hl.symm.trans e'
        rcases List.mem_append.mp hx with hx | hx
        · cases y with
          | none => cases hx
          | some l' =>
            obtain ⟨ax, h1⟩ := i.sound _ _ _ _ h hy x hx
            exact ⟨ax, hkeep _ _ h1⟩
        · rw [List.mem_singleton.mp hx, e]
          exact ⟨a, upd_self ..⟩
  · show ∃ ar l, upd v.cls c _ r = _ ∧ w ar = _ ∧ x ∈ l
    have reg : ∀ ar l, v.cls r = some (true, ar, none) → v.var ar = some (some (some l)) → x ∈ l →
        ∃ l', w ar = some (some (some l')) ∧ x ∈ l' := fun ar l h1 h2 h3 => by
      rcases wo _ _ _ h1 with ⟨_, e⟩ | ⟨_, y, hy, e⟩
      · exact ⟨l, e.trans h2, h3⟩
      · cases hy.symm.trans h2
        exact ⟨_, e, List.mem_append_left _ h3⟩
    rcases hcls _ _ h with ⟨ex, e⟩ | ⟨_, h⟩
    · cases e
      obtain ⟨ar, hr⟩ := ho r rfl
      rcases wo _ _ _ hr with ⟨e, _⟩ | ⟨_, y, _, e⟩
      · exact absurd rfl e
      · exact ⟨ar, _, hkeep _ _ hr, e, by rw [ex]; exact List.mem_append_right _ List.mem_cons_self⟩
    · obtain ⟨ar, l, h1, h2, h3⟩ := i.complete _ _ _ h
      obtain ⟨l', e, h4⟩ := reg ar l h1 h2 h3
      exact ⟨ar, l', hkeep _ _ h1, e, h4⟩

theorem IV.addDeclared {v : View} (i : IV v) (c a : Nat) (hc : v.cls c = none) (ha : v.var a = none) :
    IV { cls := upd v.cls c (some (true, a, none)), var := upd v.var a (some (some none)) } :=
  i.addFamily c a none hc ha _ (upd_self ..) (fun x hx => by rw [upd_ne _ _ (fun e : x = a => hx (e ▸ ha))]; exact hx) nofun
    (fun _ _ _ h => Or.inl ⟨nofun, upd_ne _ _ (i.ne_fresh ha h)⟩)

/-- `ComplexModelBase.customize` + `_process_variants`, in the order of the writes: the fresh record comes without an
    own `_variants`, the own list of the original gets the fresh class, the record's own entry is set to `None` -/
theorem IV.addVariant {v : View} (i : IV v) (c a r ar : Nat) (hc : v.cls c = none) (ha : v.var a = none)
    (hr : v.cls r = some (true, ar, none)) (y : Option (List Nat)) (hy : v.var ar = some (some y)) :
    IV { cls := upd v.cls c (some (true, a, some r)),
         var := upd (upd (upd v.var a (some none)) ar (some (some (some (y.getD [] ++ [c]))))) a (some (some none)) } := by
  refine i.addFamily c a (some r) hc ha _ (upd_self ..) (fun x hx => ?_)
    (fun _ e => Option.some.inj e ▸ ⟨ar, hr⟩) (fun c' a' o' h => ?_)
  · rw [upd_ne _ _ (fun e : x = a => hx (e ▸ ha))]
    by_cases e : x = ar
    · rw [e, upd_self]; nofun
    · rw [upd_ne _ _ e, upd_ne _ _ (fun e : x = a => hx (e ▸ ha))]; exact hx
  · rw [upd_ne _ _ (i.ne_fresh ha h)]
    by_cases e : a' = ar
    · -- the class on the record of the original is the original
      subst e
      cases i.inj _ _ _ _ _ h hr
      exact Or.inr ⟨rfl, y, hy, upd_self ..⟩
    · refine Or.inl ⟨fun e' => ?_, by rw [upd_ne _ _ e, upd_ne _ _ (i.ne_fresh ha h)]⟩
      cases e'
      cases h.symm.trans hr
      exact e rfl

def viewOf (h : Heap) : View :=
  { cls := fun c => (h.cls[c]?).map (fun cl => (cl.kind.isComplex, cl.attrs, cl.orig)),
    var := fun x => (h.attrs[x]?).map (·.variants) }

/-- the variants discipline holds in heap `h` -/
def Inv (h : Heap) : Prop := IV (viewOf h)

theorem viewOf_updCls (h : Heap) (c : Nat) (f : Cls → Cls)
    (hf : ∀ cl, (f cl).kind = cl.kind ∧ (f cl).attrs = cl.attrs ∧ (f cl).orig = cl.orig) :
    viewOf (h.updCls c f) = viewOf h := by
  simp only [viewOf, View.mk.injEq, (h.updCls_rest c f).1, and_true]
  funext j
  rw [h.updCls_cls]
  split
  · cases h.cls[j]? <;> simp [hf]
  · rfl

theorem viewOf_updCells_keep (h : Heap) (a : Nat) (f : AttrRec → AttrRec) (hf : ∀ r, (f r).variants = r.variants) :
    viewOf (h.updCells a f) = viewOf h := by
  simp only [viewOf, View.mk.injEq, (h.updCells_rest a f).1, true_and]
  funext j
  rw [h.updCells_attrs]
  split
  · cases h.attrs[j]? <;> simp [hf]
  · rfl

theorem viewOf_updCells_var (h : Heap) (a : Nat) (f : AttrRec → AttrRec) (r : AttrRec) (hr : h.attrs[a]? = some r) :
    viewOf (h.updCells a f) = { viewOf h with var := upd (viewOf h).var a (some (f r).variants) } := by
  simp only [viewOf, View.mk.injEq, (h.updCells_rest a f).1, true_and]
  funext j
  rw [h.updCells_attrs]
  simp only [upd]
  split
  · simp [*]
  · rfl

theorem map_getElem?_concat {β γ : Type} (l : List β) (x : β) (f : β → γ) :
    (fun j => ((l ++ [x])[j]?).map f) = upd (fun j => (l[j]?).map f) l.length (some (f x)) := by
  funext j
  simp only [upd]
  split
  · rename_i e; subst e; simp
  · rcases Nat.lt_or_ge j l.length with hl | hl
    · rw [List.getElem?_append_left hl]
    · rw [List.getElem?_eq_none (by simp; omega), List.getElem?_eq_none (by omega)]

theorem viewOf_allocAttrs (h : Heap) (r : AttrRec) :
    viewOf { h with attrs := h.attrs ++ [r] } = { viewOf h with var := upd (viewOf h).var h.attrs.length (some r.variants) } := by
  simp only [viewOf, map_getElem?_concat]

theorem viewOf_allocCls (h : Heap) (cl : Cls) :
    viewOf { h with cls := h.cls ++ [cl] }
      = { viewOf h with cls := upd (viewOf h).cls h.cls.length (some (cl.kind.isComplex, cl.attrs, cl.orig)) } := by
  simp only [viewOf, map_getElem?_concat]

theorem viewOf_append (h : Heap) (cl : Cls) (r : AttrRec) :
    viewOf { h with cls := h.cls ++ [cl], attrs := h.attrs ++ [r] }
      = { cls := upd (viewOf h).cls h.cls.length (some (cl.kind.isComplex, cl.attrs, cl.orig)),
          var := upd (viewOf h).var h.attrs.length (some r.variants) } := by
  simp only [viewOf, map_getElem?_concat]

theorem viewOf_var_fresh (h : Heap) : (viewOf h).var h.attrs.length = none := by simp [viewOf]
theorem viewOf_cls_fresh (h : Heap) : (viewOf h).cls h.cls.length = none := by simp [viewOf]

theorem viewOf_registerVariant (h : Heap) (ra n : Nat) (x : Option (List Nat))
    (hx : (viewOf h).var ra = some (some x)) :
    viewOf (registerVariant h ra n)
      = { viewOf h with var := upd (viewOf h).var ra (some (some (some ((x.getD []) ++ [n])))) } := by
  cases hr : h.attrs[ra]? with
  | none => simp [viewOf, hr] at hx
  | some r =>
    have hv : r.variants = some x := by simpa [viewOf, hr] using hx
    unfold registerVariant variantsH
    rw [chainH_own h.attrs (fun r => r.variants) ra r x hr hv]
    cases x <;> simp only <;> rw [viewOf_updCells_var h ra _ r hr] <;> simp

theorem viewOf_updCells_const (h : Heap) (a : Nat) (f : AttrRec → AttrRec) (c : Option (List Nat))
    (hne : (viewOf h).var a ≠ none) (hc : ∀ r, (f r).variants = some c) :
    viewOf (h.updCells a f) = { viewOf h with var := upd (viewOf h).var a (some (some c)) } := by
  cases hr : h.attrs[a]? with
  | none => simp [viewOf, hr] at hne
  | some r => rw [viewOf_updCells_var h a f r hr, hc r]

theorem view_cls_of (h : Heap) (c : Nat) (cl : Cls) (hc : h.cls[c]? = some cl) :
    (viewOf h).cls c = some (cl.kind.isComplex, cl.attrs, cl.orig) := by simp [viewOf, hc]

theorem cls_of_view (h : Heap) (c : Nat) (k : Bool) (a : Nat) (o : Option Nat)
    (hv : (viewOf h).cls c = some (k, a, o)) :
    ∃ cl, h.cls[c]? = some cl ∧ cl.kind.isComplex = k ∧ cl.attrs = a ∧ cl.orig = o := by
  simp only [viewOf] at hv
  cases hc : h.cls[c]? with
  | none => simp [hc] at hv
  | some cl =>
    simp only [hc, Option.map_some, Option.some.injEq, Prod.mk.injEq] at hv
    exact ⟨cl, rfl, hv.1, hv.2.1, hv.2.2⟩

theorem variantsOf_own (h : Heap) (c : Nat) (cl : Cls) (hc : h.cls[c]? = some cl) (x : Option (List Nat))
    (hx : (viewOf h).var cl.attrs = some (some x)) : variantsOf h c = x.getD [] := by
  cases hr : h.attrs[cl.attrs]? with
  | none => simp [viewOf, hr] at hx
  | some r =>
    have hv : r.variants = some x := by simpa [viewOf, hr] using hx
    unfold variantsOf variantsH
    simp only [hc]
    rw [chainH_own h.attrs (fun r => r.variants) cl.attrs r x hr hv]
    cases x <;> rfl

/-- with the discipline, the resolved `_variants` of a class of the family is its own cell -/
theorem inv_variantsOf (h : Heap) (ih : Inv h) (c : Nat) (cl : Cls) (hc : h.cls[c]? = some cl)
    (hk : cl.kind.isComplex = true) :
    ∃ x, (viewOf h).var cl.attrs = some (some x) ∧ variantsOf h c = x.getD [] := by
  have hv := view_cls_of h c cl hc
  rw [hk] at hv
  have h1 := ih.range _ _ _ _ hv
  have h2 := ih.own _ _ _ hv
  cases hvar : (viewOf h).var cl.attrs with
  | none => exact absurd hvar h1
  | some y =>
    cases y with
    | none => exact absurd hvar h2
    | some x => exact ⟨x, rfl, variantsOf_own h c cl hc x hvar⟩

theorem inv_range (h : Heap) (ih : Inv h) (c : Nat) (cl : Cls) (hc : h.cls[c]? = some cl) :
    cl.attrs < h.attrs.length := by
  have := ih.range c _ _ _ (view_cls_of h c cl hc)
  simp only [viewOf] at this
  rcases Nat.lt_or_ge cl.attrs h.attrs.length with hl | hl
  · exact hl
  · rw [List.getElem?_eq_none hl] at this; simp at this

/-- started in a heap with the discipline and `P`, the program ends (normally or not) in a heap with the
    discipline, and a normal result satisfies `Q` there -/
def Keeps {α : Type} (P : Heap → Prop) (m : M α) (Q : α → Heap → Prop) : Prop :=
  ∀ h, Inv h → P h → Inv (m h).heap ∧ ∀ h' a, m h = .ok h' a → Q a h'

abbrev Tr : Heap → Prop := fun _ => True
abbrev TrQ {α : Type} : α → Heap → Prop := fun _ _ => True

theorem Keeps.toTr {α : Type} {P : Heap → Prop} {m : M α} {Q : α → Heap → Prop} (k : Keeps P m Q) : Keeps P m TrQ :=
  fun h ih ph => ⟨(k h ih ph).1, fun _ _ _ => trivial⟩

end SpyneModel.Derive
