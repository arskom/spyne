/-
  C06: the two sides meet on whole documents. The generated schema validates the element of a registered class as the
  denoted type does (`valid_gen`), and the encoder writes what the denoted type accepts (`emitted_validS`): hence
  `emitted_valid_gen`.
-/
import Proofs.SchemaGen
import Proofs.SchemaLex
import Proofs.SchemaEmit
namespace SpyneModel
namespace Schema
open Xml

theorem occWf_default : occWf ({} : Occ) = true := by decide

theorem tyWf_toTy (A : App) (hwf : A.wf = true) (C : ClassDef) (hC : C ∈ A.allClasses) :
    tyWf (ClassDef.toTy C) = true := by
  have hc := closed_of_wf A hwf
  simp only [ClassDef.toTy, tyWf, occWf_default, hc.nodup C hC, hc.fwf C hC, Bool.and_self]


theorem chainSameNs_parent (I : Iface) (f : Nat) (D P : ClassDef) (hp : parentOf I D = some P)
    (hs : chainSameNs I (f + 1) D = true) : P.ns = D.ns ∧ chainSameNs I f P = true := by
  obtain ⟨b, hb, hf⟩ := parentOf_eq_some.mp hp
  simpa only [chainSameNs, hb, hf, Bool.and_eq_true, decide_eq_true_eq] using hs

theorem fieldNs_same (A : App) : ∀ (f : Nat) (D : ClassDef), chainOk A.iface f D = true →
    chainSameNs A.iface f D = true → fieldNs A f D = List.replicate D.fields.length D.ns := by
  intro f
  induction f with
  | zero => intro D h; simp [chainOk] at h
  | succ f ih =>
    intro D hc hs
    simp only [fieldNs]
    cases hp : parentOf A.iface D with
    | none => simp [ownFields, hp, List.map_const']
    | some P =>
      obtain ⟨hpre, hch⟩ := chainOk_parent A.iface f D P hp hc
      obtain ⟨hns, hsn⟩ := chainSameNs_parent A.iface f D P hp hs
      simp only [ownFields, hp, ih P hch hsn, hns, List.map_const', List.length_drop]
      rw [List.replicate_append_replicate]
      congr 1
      have := congrArg List.length hpre
      simp only [List.length_take] at this
      omega

mutual
  theorem denoteG_same (A : App) (h : SameNs A) : ∀ (t : Ty) (ctx : Text), (∀ D ∈ nested t, D ∈ A.allClasses) →
      denoteG A ctx t = denote (primFacetsA A) A.tns ctx t
    | .prim p o, ctx, _ => by simp [denoteG, denote]
    | .obj name ns b fields o, ctx, hn => by
      have hD : ({ name := name, ns := ns, base := b, fields := fields } : ClassDef) ∈ A.allClasses := hn _ (by simp [nested])
      have := fieldNs_same A _ _ (h.ok _ hD).1 (h.ok _ hD).2
      simp only [denoteG, denote, this]
      rw [denoteFieldsG_same A h fields ns (fun D hD' => hn D (by simp [nested, hD']))]
    | .arr m e o, ctx, hn => by
      simp only [denoteG, denote]
      rw [denoteG_same A h e ctx (fun D hD => hn D (by simpa [nested] using hD))]

  theorem denoteFieldsG_same (A : App) (h : SameNs A) : ∀ (fs : List (Text × Ty)) (ns : Text),
      (∀ D ∈ nestedFields fs, D ∈ A.allClasses) →
      denoteFieldsG A (List.replicate fs.length ns) fs = denoteFields (primFacetsA A) A.tns ns fs
    | [], ns, _ => by simp [denoteFieldsG, denoteFields]
    | (k, t) :: r, ns, hn => by
      simp only [List.length_cons, List.replicate_succ, denoteFieldsG, denoteFields]
      rw [denoteG_same A h t ns (fun D hD => hn D (by simp [nestedFields, hD])),
        denoteFieldsG_same A h r ns (fun D hD => hn D (by simp [nestedFields, hD]))]
end

theorem sameNs_of (A : App) (hwf : A.wf = true) (hs : A.sameNsChains = true) : SameNs A := by
  have hc := closed_of_wf A hwf
  unfold App.sameNsChains at hs
  rw [List.all_eq_true] at hs
  exact ⟨fun D hD => ⟨hc.chain D hD, hs D hD⟩⟩

/-- `validElem_gen_pos` for documents: a document whose root is the element of a registered class is valid against
    the generated schema iff it is valid for the type the class denotes -/
theorem valid_gen (A : App) (hwf : A.wf = true) (C : ClassDef) (hC : C ∈ A.iface.classes) (x : Node)
    (hkey : nodeKey x = (C.ns, C.name)) :
    (gen A).valid x = validS (denoteG A C.ns (ClassDef.toTy C)) false x := by
  have hc := closed_of_wf A hwf
  have hCa : C ∈ A.allClasses := List.mem_append.mpr (Or.inl hC)
  have hl := hc.cplx C hCa
  have he := gen_elements_lookup A (C.ns, C.name) (by rw [Schema.hasComplex, hl]; rfl)
  unfold Schema.valid
  rw [hkey, he]
  exact validElem_gen_pos A hc x C.ns C.name [] (ClassDef.toTy C) false
    (by
      simp only [ClassDef.toTy, posOk, Bool.and_eq_true, Option.isNone_iff_eq_none, beq_iff_eq]
      exact ⟨hc.simp C hCa, hl⟩)
    (nested_toTy_mem A C hCa)

theorem validS_no_attrs (d : STy) (n n' : Bool) (ns name : Text) (text : Option Text) (children : List Node) :
    validS d n (.elem ns name [] text children) = validS d n' (.elem ns name [] text children) := by
  rw [validS_plain, validS_plain]

theorem encode_obj_shape (F : Facts08) (cfg : Cfg) (I : Iface) (ns name cname cns : Text) (b : Option Text)
    (fields : List (Text × Ty)) (o : Occ) (vs : List (Text × Val)) :
    encode F cfg I ns name (.obj cname cns b fields o) (.obj cname vs) =
      [.elem ns name [] none (membersToParent F cfg I cns fields vs)] := by
  simp only [encode, toParent, polyTarget_self]

theorem valid_gen_same (A : App) (hwf : A.wf = true) (hs : A.sameNsChains = true) (C : ClassDef) (hC : C ∈ A.iface.classes)
    (x : Node) (hkey : nodeKey x = (C.ns, C.name)) :
    (gen A).valid x = validS (denote (primFacetsA A) A.tns C.ns (ClassDef.toTy C)) false x := by
  have hCa : C ∈ A.allClasses := List.mem_append.mpr (Or.inl hC)
  rw [valid_gen A hwf C hC x hkey, denoteG_same A (sameNs_of A hwf hs) (ClassDef.toTy C) C.ns (nested_toTy_mem A C hCa)]

/-- **emitted_valid**: the message document the encoder writes for a conformant instance of a
    registered class is valid against the schema generated for the application -/
theorem emitted_valid_gen (A : App) (G : A.leaf.Good) (hwf : A.wf = true) (hsn : A.sameNsChains = true) (cfg : Cfg)
    (C : ClassDef) (hC : C ∈ A.iface.classes) (vs : List (Text × Val))
    (hc : conformsOne (ClassDef.toTy C) (.obj C.name vs) = true)
    (hr : leavesOne (leafCond A) (ClassDef.toTy C) (.obj C.name vs) = true) :
    ∃ x, encode A.leaf cfg A.iface C.ns C.name (ClassDef.toTy C) (.obj C.name vs) = [x] ∧ (gen A).valid x = true := by
  have hCa : C ∈ A.allClasses := List.mem_append.mpr (Or.inl hC)
  obtain ⟨x, hx, hk, hv⟩ := emitted_validS A.leaf (primFacetsA A) (leafCond A) (fun p v h1 h2 => leaf_simpleOkA A G p v h1 h2)
    cfg A.iface (ClassDef.toTy C) (.obj C.name vs) C.ns C.name hc (tyWf_toTy A hwf C hCa) hr
  refine ⟨x, hx, ?_⟩
  rw [valid_gen_same A hwf hsn C hC x hk]
  have hshape := encode_obj_shape A.leaf cfg A.iface C.ns C.name C.name C.ns C.base C.fields {} vs
  simp only [ClassDef.toTy] at hx hv ⊢
  rw [hshape] at hx
  injection hx with hx _
  subst hx
  rw [validS_no_attrs _ false true]
  exact hv

end Schema
end SpyneModel
