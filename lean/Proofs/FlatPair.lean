/-
  The decoder's walk on the pair (object graph, increments): a key changes one member of an instance and adds
  increments that belong to that member (`walkP_law`); a key through a slot of a member (the member itself, a position
  of its list) acts on the instance in the slot as one step of the walk of its class (`updP_push`; all the keys:
  `foldO_updP_slot`, `foldO_updP_new`); an array member kept with its idxmap is a store keyed by
  the sparse index (`getAP`, `updP_arr_law`), so its keys may arrive in any order (`arr_member_idxmap`). The deep part
  of the frequency check is carried child by child: `freqDeep` of what is read under every element (`evsUnder`).
  In the names, `P` is the pair (object graph, increments) — `walkP` on the state `PSt`, `updP` on one member, read by
  `getPr` —, `A` an array member as a store keyed by the sparse index (`getAP`, `updAP`), and `I` an invariant of the
  state under construction (`InstI` of an instance, `ArrI` of an array member). `G` is the facts the walk runs under.
-/
import Proofs.FlatEvs
namespace SpyneModel.Flat
open SpyneModel

/-- what a key does to the member `k` named by its first segment, and to that member's increments -/
def updP (G : Facts03) (strict : Bool) (fields : List Fld) (k : Text) (cur : Node × List Ev) (e : KEntry) :
    Outcome (Node × List Ev) :=
  match e.segs with
  | [] => .crash "IndexError"
  | _ :: rest =>
    obind (stepMember G strict fields cur.1 k (rest.map Prod.fst) e.idxs e.kv.payload) fun r =>
      .ok (r.1, cur.2 ++ r.2)

/-- a member and the increments that belong to it -/
def getPr (st : PSt) (k : Text) : Node × List Ev := (getAttr st.1 k, st.2.filter (ownedBy k))

theorem ownedBy_unique {k j : Text} {e : Ev} (h : ownedBy k e = true) (hj : j ≠ k) : ownedBy j e = false := by
  unfold ownedBy at h ⊢
  cases hk : e.key with
  | nil => rw [hk] at h; simp only [decide_eq_true_eq] at h; simp [h, Ne.symm hj]
  | cons c r => rw [hk] at h; simp only [decide_eq_true_eq] at h; simp [h, Ne.symm hj]

theorem filter_owned_other {k j : Text} {l : List Ev} (h : ∀ e, e ∈ l → ownedBy k e = true) (hj : j ≠ k) :
    l.filter (ownedBy j) = [] := by
  apply List.filter_eq_nil_iff.mpr
  intro e he
  rw [ownedBy_unique (h e he) hj]
  simp

/-- the instance under construction: it has the members of its class, and increments made at the instance itself carry
    the member list of the class -/
def InstI (fields : List Fld) (st : PSt) : Prop :=
  st.1.map Prod.fst = fields.map Prod.fst ∧ ∀ e, e ∈ st.2 → e.key = [] → e.spec = specOf fields

/-- the keyed-store law of an instance with its increments -/
theorem walkP_law (G : Facts03) (hG : G.freqScope = .perMember) {strict : Bool} {fields : List Fld}
    {st : PSt} {e : KEntry} {v' : Node × List Ev} (hk : e.head ∈ fields.map Prod.fst) (hI : InstI fields st)
    (h : updP G strict fields e.head (getPr st e.head) e = .ok v') :
    ∃ s', walkP G strict fields st e = .ok s' ∧ InstI fields s' ∧ getPr s' e.head = v' ∧
      ∀ j, j ≠ e.head → getPr s' j = getPr st j := by
  unfold updP at h
  unfold walkP walk KEntry.path
  cases hs : e.segs with
  | nil => rw [hs] at h; exact absurd h (by simp)
  | cons s rest =>
    rw [hs] at h
    have hh : e.head = s.1 := by simp [KEntry.head, hs]
    rw [hh] at h hk ⊢
    simp only [getPr] at h
    obtain ⟨r, hr, rfl⟩ := obind_ok_eq_ok.mp h
    have hown := stepMember_owned G hG hr
    refine ⟨(setAttr st.1 s.1 r.1, st.2 ++ r.2), ?_, ⟨?_, ?_⟩, ?_, ?_⟩
    · simp only [List.map_cons, hr, obind_ok]
    · rw [setAttr_keys _ _ _ (hI.1 ▸ hk)]
      exact hI.1
    · intro ev hev hkey
      rcases List.mem_append.mp hev with hev | hev
      · exact hI.2 ev hev hkey
      · exact ((hown ev hev).2 hkey).1
    · simp only [getPr, getAttr_setAttr_same, List.filter_append, List.filter_eq_self.mpr (fun ev hev => (hown ev hev).1)]
    · intro j hj
      simp only [getPr, getAttr_setAttr_ne _ _ _ _ hj, List.filter_append,
        filter_owned_other (fun ev hev => (hown ev hev).1) hj, List.append_nil]

theorem evCount_filter_owned (evs : List Ev) (k : Text) :
    evCount (evs.filter (ownedBy k)) [] k = evCount evs [] k := by
  induction evs with
  | nil => rfl
  | cons e r ih =>
    simp only [List.filter_cons]
    by_cases ho : ownedBy k e = true
    · simp only [ho, if_true, evCount_cons, ih]
    · simp only [ho, Bool.false_eq_true, if_false, evCount_cons, ih]
      have : ¬ (e.key = [] ∧ e.name = k) := by
        intro ⟨h1, h2⟩
        apply ho
        simp [ownedBy, h1, h2]
      simp [this]

theorem evsUnder_filter_owned (evs : List Ev) (k : Text) (i : Nat) :
    evsUnder (k, i) (evs.filter (ownedBy k)) = evsUnder (k, i) evs := by
  induction evs with
  | nil => rfl
  | cons e r ih =>
    simp only [List.filter_cons]
    by_cases ho : ownedBy k e = true
    · simp only [ho, if_true]
      simp only [evsUnder, List.filterMap_cons] at ih ⊢
      rw [ih]
    · simp only [ho, Bool.false_eq_true, if_false, ih]
      obtain ⟨key, spec, nm, inc⟩ := e
      cases key with
      | nil => simp [evsUnder]
      | cons c tl =>
        have : c ≠ (k, i) := by
          intro e; apply ho; simp [ownedBy, e]
        simp [evsUnder, this]

/-- A key below a slot of member `k` (the member itself, or a position of its list). When the decoder's step from `cur`
    through the slot is the step inside the instance `child`, put back by `slot`, with increments `hdr` of its own and the
    others under `c`, the key acts on `child` as one step of the walk of its class. -/
theorem updP_push (G : Facts03) (strict : Bool) {fields sub : List Fld} {k : Text} (oi : Option Nat) (c : Text × Nat)
    {cur : Node} {child : Attrs} (slot : Attrs → Node) (hdr : List Ev)
    (hstep : ∀ q rest idxs pl, stepMember G strict fields cur k (q :: rest) (oi.toList ++ idxs) pl =
      obind (stepMember G strict sub (getAttr child q) q rest idxs pl) fun r =>
        .ok (slot (setAttr child q r.1), hdr ++ r.2.map (Ev.under [c])))
    (y : KEntry) (hy : y.segs ≠ []) (evs : List Ev) :
    updP G strict fields k (cur, evs) (y.push k oi) =
      omap (fun r => (slot r.1, evs ++ (hdr ++ r.2.map (Ev.under [c]))))
        (walk G strict sub child y.path y.idxs y.kv.payload) := by
  obtain ⟨segs, kv⟩ := y
  cases segs with
  | nil => exact absurd rfl hy
  | cons s rest =>
    simp only [updP, KEntry.push, KEntry.path, List.map_cons, walk]
    rw [show (KEntry.mk ((k, oi) :: s :: rest) kv).idxs = oi.toList ++ (KEntry.mk (s :: rest) kv).idxs from
      push_idxs k oi ⟨s :: rest, kv⟩, hstep]
    cases stepMember G strict sub (getAttr child s.1) s.1 (rest.map Prod.fst) (KEntry.mk (s :: rest) kv).idxs kv.payload <;> rfl

/-- The keys below a slot that holds an instance act on it as the walk of its class. -/
theorem foldO_updP_slot (G : Facts03) (strict : Bool) {fields sub : List Fld} {k : Text} (oi : Option Nat)
    (c : Text × Nat) (slot : Attrs → Node)
    (hstep : ∀ child q rest idxs pl, stepMember G strict fields (slot child) k (q :: rest) (oi.toList ++ idxs) pl =
      obind (stepMember G strict sub (getAttr child q) q rest idxs pl) fun r =>
        .ok (slot (setAttr child q r.1), r.2.map (Ev.under [c])))
    (ys : List KEntry) (hys : ∀ y, y ∈ ys → y.segs ≠ []) (child : Attrs) (evk acc : List Ev) :
    foldO (updP G strict fields k) (slot child, evk ++ acc.map (Ev.under [c])) (ys.map (KEntry.push k oi)) =
      omap (fun r => (slot r.1, evk ++ r.2.map (Ev.under [c]))) (foldO (walkP G strict sub) (child, acc) ys) := by
  induction ys generalizing child acc with
  | nil => rfl
  | cons y ys ih =>
    simp only [List.map_cons, foldO_cons, walkP]
    rw [updP_push G strict oi c slot [] (hstep child) y (hys y List.mem_cons_self)]
    cases walk G strict sub child y.path y.idxs y.kv.payload with
    | ok r =>
      simp only [omap_ok, obind_ok, List.nil_append, List.append_assoc, ← List.map_append]
      exact ih (fun y' hy' => hys y' (List.mem_cons_of_mem _ hy')) r.1 (acc ++ r.2)
    | _ => rfl

/-- … and from a node `cur` where the first key makes the instance (increments `hdr`): they act on the new instance. -/
theorem foldO_updP_new (G : Facts03) (strict : Bool) {fields sub : List Fld} {k : Text} (oi : Option Nat)
    (c : Text × Nat) {cur : Node} {child : Attrs} (slot : Attrs → Node) (hdr : List Ev)
    (hnew : ∀ q rest idxs pl, stepMember G strict fields cur k (q :: rest) (oi.toList ++ idxs) pl =
      obind (stepMember G strict sub (getAttr child q) q rest idxs pl) fun r =>
        .ok (slot (setAttr child q r.1), hdr ++ r.2.map (Ev.under [c])))
    (hstep : ∀ child q rest idxs pl, stepMember G strict fields (slot child) k (q :: rest) (oi.toList ++ idxs) pl =
      obind (stepMember G strict sub (getAttr child q) q rest idxs pl) fun r =>
        .ok (slot (setAttr child q r.1), r.2.map (Ev.under [c])))
    (ys : List KEntry) (hys : ∀ y, y ∈ ys → y.segs ≠ []) (hne : ys ≠ []) (evs : List Ev) :
    foldO (updP G strict fields k) (cur, evs) (ys.map (KEntry.push k oi)) =
      omap (fun r => (slot r.1, evs ++ (hdr ++ r.2.map (Ev.under [c]))))
        (foldO (walkP G strict sub) (child, []) ys) := by
  cases ys with
  | nil => exact absurd rfl hne
  | cons y ys =>
    simp only [List.map_cons, foldO_cons, walkP]
    rw [updP_push G strict oi c slot hdr hnew y (hys y List.mem_cons_self)]
    cases walk G strict sub child y.path y.idxs y.kv.payload with
    | ok r =>
      have := foldO_updP_slot G strict oi c slot hstep ys (fun y' hy' => hys y' (List.mem_cons_of_mem _ hy')) r.1
        (evs ++ hdr) r.2
      simp only [List.append_assoc] at this
      simp only [omap_ok, obind_ok, List.nil_append, this]
    | _ => rfl

/-- an object member from `None`: the first key creates the instance and counts it in -/
theorem foldO_updP_obj_none (G : Facts03) (hG : G.freqScope = .perMember) (strict : Bool) {fields : List Fld} {k : Text}
    {occ : Occ} {cid : Nat} {sub : List Fld}
    (hl : lookupFld fields k = some (k, occ, .obj cid sub)) (hm : occ.many = false)
    (ys : List KEntry) (hys : ∀ y, y ∈ ys → y.segs ≠ []) (hne : ys ≠ []) :
    foldO (updP G strict fields k) (.none, []) (ys.map (KEntry.push k none)) =
      omap (fun r => (Node.obj r.1, (⟨[], specOf fields, k, 1⟩ : Ev) :: r.2.map (Ev.under [(k, 0)])))
        (foldO (walkP G strict sub) (freshAttrs sub, []) ys) :=
  foldO_updP_new G strict none (k, 0) Node.obj [⟨[], specOf fields, k, 1⟩]
    (fun q rest idxs pl => by
      simp only [Option.toList, List.nil_append, stepMember, hl, hm, hG, Bool.false_eq_true, if_false])
    (fun child q rest idxs pl => by
      simp only [Option.toList, List.nil_append, stepMember, hl, hm, hG, Bool.false_eq_true, if_false])
    ys hys hne []

/-- what a key does to the element it addresses, and to the increments made under that element -/
def updAP (G : Facts03) (strict : Bool) (sub : List Fld) (cur : Node × List Ev) (y : KEntry) :
    Outcome (Node × List Ev) :=
  match cur.1 with
  | .obj child => omap (fun r => (Node.obj r.1, r.2)) (walkP G strict sub (child, cur.2) y)
  | _ => .crash "IndexError"

/-- an array member with its increments as a store keyed by the sparse index: is the index known,
    the element, the increments made under it -/
def getAP (sub : List Fld) (k : Text) (s : Node × List Ev) (j : Nat) : Bool × Node × List Ev :=
  match s.1 with
  | .arr m items => (decide (j ∈ mkeys m), arrGet m items (fresh sub) j, evsUnder (k, j) s.2)
  | _ => (false, fresh sub, evsUnder (k, j) s.2)

/-- the array member under construction: the idxmap invariant, one creation increment per element -/
def ArrI (k : Text) (s : Node × List Ev) : Prop :=
  ∃ m items, s.1 = .arr m items ∧ ArrInv m items.length ∧ evCount s.2 [] k = m.length

/-- the keys of one element, taken together, for any walk `w` on a state that sits inside the element (`inj`): the
    flag says the element exists -/
theorem foldO_updElem {τ ν : Type} (inj : τ → ν) (w : τ → KEntry → Outcome τ) (u : ν → KEntry → Outcome ν)
    (hu : ∀ t y, u (inj t) y = omap inj (w t y)) (k : Text) (j : Nat) (ys : List KEntry) (b : Bool) (t : τ) :
    foldO (fun (bv : Bool × ν) e => omap (fun v => (true, v)) (u bv.2 e.tail)) (b, inj t)
        (ys.map (KEntry.push k (some j))) =
      if ys = [] then .ok (b, inj t) else omap (fun r => (true, inj r)) (foldO w t ys) := by
  induction ys generalizing b t with
  | nil => rfl
  | cons y ys ih =>
    simp only [List.map_cons, foldO_cons, push_tail, reduceCtorEq, if_false, hu]
    cases w t y with
    | ok t1 =>
      simp only [omap_ok, obind_ok]
      rw [ih true t1]
      split
      · rename_i h; subst h; rfl
      · rfl
    | fault => rfl
    | crash e => rfl

theorem updP_push_arr_none (G : Facts03) (strict : Bool) {fields : List Fld} {k : Text} {occ : Occ} {cid : Nat}
    {sub : List Fld} (hl : lookupFld fields k = some (k, occ, .obj cid sub)) (hm : occ.many = true)
    (i : Nat) (y : KEntry) (hy : y.segs ≠ []) :
    updP G strict fields k (.none, []) (y.push k (some i)) = updP G strict fields k (.arr [] [], []) (y.push k (some i)) := by
  obtain ⟨segs, kv⟩ := y
  cases segs with
  | nil => exact absurd rfl hy
  | cons s rest =>
    simp only [updP, KEntry.push, List.map_cons, stepMember_arr_none G strict hl hm]

theorem updP_arr_law (G : Facts03) (hG : G.freqScope = .perMember) {fields : List Fld} {k : Text} {occ : Occ}
    {cid : Nat} {sub : List Fld} (hl : lookupFld fields k = some (k, occ, .obj cid sub)) (hm : occ.many = true)
    {s : Node × List Ev} {i : Nat} {y : KEntry} (hy : y.segs ≠ []) {v' : Bool × Node × List Ev}
    (hI : ArrI k s)
    (hupd : omap (fun v => (true, v.1, v.2)) (updAP G false sub ((getAP sub k s i).2.1, (getAP sub k s i).2.2) y) = .ok v') :
    ∃ s', updP G false fields k s (y.push k (some i)) = .ok s' ∧ ArrI k s' ∧ getAP sub k s' i = v' ∧
      ∀ j, j ≠ i → getAP sub k s' j = getAP sub k s j := by
  obtain ⟨m, items, hs1, hinv, hcnt⟩ := hI
  obtain ⟨node, evk⟩ := s
  simp only at hs1 hcnt
  subst hs1
  simp only [getAP, updAP] at hupd
  cases hag : arrGet m items (fresh sub) i with
  | obj child =>
    rw [hag] at hupd
    simp only [walkP] at hupd
    obtain ⟨w, hw, rfl⟩ := obind_ok_eq_ok.mp hupd
    obtain ⟨r, hr, rfl⟩ := obind_ok_eq_ok.mp hw
    obtain ⟨r0, hr0, rfl⟩ := obind_ok_eq_ok.mp hr
    have hupdP := updP_push G false (sub := sub) (child := child) (some i) (k, i)
      (fun c => .arr (arrPut m items i (.obj c)).1 (arrPut m items i (.obj c)).2) (countNew m i ⟨[], specOf fields, k, 1⟩)
      (fun q rest idxs pl => by
        rw [Option.toList_some, List.singleton_append, stepMember_arr G hG hl hm hinv]
        simp only [popIdx, hag])
      y hy evk
    rw [hr0, omap_ok] at hupdP
    have hkl : ∀ e, e ∈ countNew m i ⟨[], specOf fields, k, 1⟩ → e.key = [] := countNew_keyless rfl
    refine ⟨_, hupdP, ⟨_, _, rfl, arrPut_inv hinv i _, ?_⟩, ?_, ?_⟩
    · simp only [evCount_append, evCount_under_nil, hcnt, arrPut_map_length, Nat.add_zero, countNew]
      cases mapGet m i with
      | some c => simp [evCount_nil]
      | none => rw [evCount_cons, evCount_nil]; simp
    · simp only [getAP, mem_arrPut_keys.mpr (Or.inr rfl), decide_true, arrGet_arrPut_same hinv i _ (fresh sub),
        evsUnder_append _ evk, evsUnder_arrStep k i _ hkl, if_true]
    · intro j hj
      simp only [getAP, arrGet_arrPut_ne hinv i j _ (fresh sub) hj, evsUnder_append _ evk, evsUnder_arrStep k i _ hkl, hj, if_false,
        List.append_nil, mem_arrPut_keys, or_false]
  | _ => rw [hag] at hupd; exact absurd hupd (by simp)

theorem eraseItems_of_elems {sub : List Fld} {elems : List (Nat × Members)} {m : List (Nat × Nat)} {items : List Node}
    (hinv : ArrInv m items.length) (hinc : StrictInc (elems.map Prod.fst))
    (hmem : ∀ j, j ∈ mkeys m ↔ j ∈ elems.map Prod.fst)
    (hel : ∀ el, el ∈ elems → eraseNode (arrGet m items (fresh sub) el.1) = .obj (expInto sub el.2 (freshAttrs sub))) :
    eraseItems items = expElems sub elems ∧ m.length = elems.length := by
  have hperm : (mkeys m).Perm (elems.map Prod.fst) :=
    (List.perm_ext_iff_of_nodup hinv.nodup hinc.nodup).mpr hmem
  refine ⟨?_, by simpa [mkeys] using hperm.length_eq⟩
  rw [eraseItems_eq_map, expElems_eq_map, items_eq_map_arrGet hinv (elems.map Prod.fst) hinc hperm (fresh sub),
    List.map_map, List.map_map]
  exact List.map_congr_left hel

/-- under the keys of a non-empty array, `None` behaves like the empty list it becomes at the first key -/
theorem foldO_updP_arr_none (G : Facts03) (strict : Bool) {fields : List Fld} {k : Text} {occ : Occ} {cid : Nat}
    {sub : List Fld} (hl : lookupFld fields k = some (k, occ, .obj cid sub)) (hm : occ.many = true)
    {elems : List (Nat × Members)} (hne : elems ≠ []) (hnonempty : ∀ i ms, (i, ms) ∈ elems → kentries sub ms ≠ [])
    (es : List KEntry) (hp : es.Perm (kentriesElems sub k elems)) :
    foldO (updP G strict fields k) (.none, []) es = foldO (updP G strict fields k) (.arr [] [], []) es := by
  cases es with
  | nil =>
    obtain ⟨⟨i, ms⟩, r, rfl⟩ := List.exists_cons_of_ne_nil hne
    have : kentriesElems sub k ((i, ms) :: r) = [] := hp.symm.eq_nil
    simp only [kentriesElems, List.append_eq_nil_iff, List.map_eq_nil_iff] at this
    exact absurd this.1 (hnonempty i ms List.mem_cons_self)
  | cons e es' =>
    obtain ⟨i, ms, y, _, hy, rfl⟩ := kentriesElems_form sub k elems e (hp.subset List.mem_cons_self)
    simp only [foldO_cons]
    rw [updP_push_arr_none G strict hl hm i y (kentries_segs_ne sub ms y hy)]

theorem FreqConfAll_mem {fields : List Fld} {ms : Members} (h : FreqConfAll fields ms) {n : Text} {sv : SVal}
    (hm : (n, sv) ∈ ms) : FreqConfVal (subOf fields n) sv :=
  forall_mem_of_cons (P := FreqConfAll fields) (Q := fun m => FreqConfVal (subOf fields m.1) m.2) (fun _ _ h => h) ms h _ hm

theorem FreqConfElems_mem {sub : List Fld} {elems : List (Nat × Members)} (h : FreqConfElems sub elems)
    {i : Nat} {ms : Members} (hm : (i, ms) ∈ elems) : FreqConf sub ms :=
  forall_mem_of_cons (P := FreqConfElems sub) (Q := fun el => FreqConf sub el.2) (fun _ _ h => h) elems h _ hm

/-- The keys of an array member `k` kept with its idxmap, from `None`, in any order: the elements end up in index
    order, each counted in once; when the elements respect their occurrence constraints the increments below every
    element pass the deep check. -/
theorem arr_member_idxmap (G : Facts03) (hG : G.freqScope = .perMember) {fields : List Fld} {k : Text} {occ : Occ}
    {cid : Nat} {sub : List Fld}
    (hl : lookupFld fields k = some (k, occ, .obj cid sub)) (hm : occ.many = true)
    {elems : List (Nat × Members)} (hne : elems ≠ []) (hinc : StrictInc (elems.map Prod.fst))
    (hnonempty : ∀ i ms, (i, ms) ∈ elems → kentries sub ms ≠ [])
    (hchild : ∀ i ms, (i, ms) ∈ elems → ∀ ys : List KEntry, ys.Perm (kentries sub ms) →
        ∃ st', foldO (walkP G false sub) (freshAttrs sub, []) ys = .ok st' ∧
          eraseAttrs st'.1 = expInto sub ms (freshAttrs sub) ∧ (FreqConf sub ms → freqOk sub st'.2 = true))
    (es : List KEntry) (hp : es.Perm (kentriesElems sub k elems)) :
    ∃ v, foldO (updP G false fields k) (.none, []) es = .ok v ∧ eraseNode v.1 = .arr [] (expElems sub elems) ∧
      evCount v.2 [] k = elems.length ∧ (FreqConfElems sub elems → ∀ j, freqDeep (evsUnder (k, j) v.2) = true) := by
  have hnd : (elems.map Prod.fst).Nodup := hinc.nodup
  have hform : ∀ e, e ∈ es → ∃ (i : Nat) (y : KEntry), e = y.push k (some i) ∧ y.segs ≠ [] := by
    intro e he
    obtain ⟨i, ms, y, _, h2, rfl⟩ := kentriesElems_form sub k elems e (hp.subset he)
    exact ⟨i, y, rfl, kentries_segs_ne sub ms y h2⟩
  rw [foldO_updP_arr_none G false hl hm hne hnonempty es hp]
  have key := foldO_by_key (σ := Node × List Ev) (ε := KEntry) (κ := Nat) (ν := Bool × Node × List Ev)
    (getAP sub k) (updP G false fields k) headIdx
    (fun _ bv e => omap (fun v => (true, v.1, v.2)) (updAP G false sub (bv.2.1, bv.2.2) e.tail))
    (ArrI k)
    (fun e => ∃ (i : Nat) (y : KEntry), e = y.push k (some i) ∧ y.segs ≠ [])
    (fun j bv => (bv.1 = true ↔ j ∈ elems.map Prod.fst) ∧
      (∀ ms, (j, ms) ∈ elems → eraseNode bv.2.1 = .obj (expInto sub ms (freshAttrs sub))) ∧
      (FreqConfElems sub elems → freqDeep bv.2.2 = true))
    (by
      intro s e v' hP hI hupd
      obtain ⟨i, y, rfl, hy⟩ := hP
      have hkey : headIdx (y.push k (some i)) = i := rfl
      simp only [hkey, push_tail] at hupd ⊢
      exact updP_arr_law G hG hl hm hy hI hupd)
    es (.arr [] [], []) hform ⟨[], [], rfl, ArrInv.empty, rfl⟩
    (by
      intro j
      rcases elems_group sub k elems hnd hp j with ⟨hj, hnil⟩ | ⟨ms, ys, hel, hys, hyseq⟩
      · rw [hnil]
        exact ⟨_, rfl, iff_of_false (by simp [getAP, mkeys]) hj,
          fun ms hms => absurd (List.mem_map_of_mem (f := Prod.fst) hms) hj, fun _ => rfl⟩
      · rw [hyseq]
        have hysne : ys ≠ [] := by
          intro e; subst e
          exact hnonempty j ms hel hys.symm.eq_nil
        obtain ⟨st', hc', hce, hdeep⟩ := hchild j ms hel ys hys
        have := foldO_updElem (fun r : PSt => (Node.obj r.1, r.2)) (walkP G false sub) (updAP G false sub)
          (fun _ _ => rfl) k j ys false (freshAttrs sub, [])
        simp only [hysne, if_false, hc', omap_ok] at this
        refine ⟨(true, .obj st'.1, st'.2), ?_, iff_of_true rfl (List.mem_map_of_mem (f := Prod.fst) hel), ?_,
          fun hC => (Bool.and_eq_true _ _ ▸ freqOk_eq sub st'.2 ▸ hdeep (FreqConfElems_mem hC hel)).2⟩
        · simpa [getAP, mkeys, arrGet, mapGet, fresh, evsUnder] using this
        · intro ms' hms'
          rw [unique_of_nodup elems hnd hms' hel]
          simp [eraseNode, hce])
  obtain ⟨s', hs', ⟨m', items', hs1, hinv', hcnt'⟩, hq⟩ := key
  obtain ⟨node', evk'⟩ := s'
  simp only at hs1 hcnt'
  subst hs1
  obtain ⟨hitems, hlen⟩ := eraseItems_of_elems (sub := sub) hinv' hinc
    (fun j => decide_eq_true_iff.symm.trans (hq j).1)
    (fun el hel => by simpa [getAP] using (hq el.1).2.1 el.2 hel)
  exact ⟨_, hs', by simp only [eraseNode, hitems], by rw [hcnt', hlen], fun hC j => (hq j).2.2 hC⟩

end SpyneModel.Flat
