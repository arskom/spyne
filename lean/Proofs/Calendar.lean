/-
  The proleptic Gregorian calendar: `toOrdinal` counts the days that `nextDay` / `prevDay` step through.
-/
import SpyneModel.Prim2
import Proofs.Prim
namespace SpyneModel

/-- month and day are a day of the calendar (any year) -/
def Date.wf (x : Date) : Prop := 1 ≤ x.m ∧ x.m ≤ 12 ∧ 1 ≤ x.d ∧ x.d ≤ daysInMonth x.y x.m

theorem daysInMonth_ge (y m : Nat) : 28 ≤ daysInMonth y m := by
  unfold daysInMonth; split <;> (try split) <;> omega

/-- a table of eleven months, for leap and common years -/
theorem dbm_succ (y m : Nat) (h1 : 1 ≤ m) (h2 : m < 12) :
    daysBeforeMonth y (m + 1) = daysBeforeMonth y m + daysInMonth y m := by
  unfold daysBeforeMonth daysInMonth
  generalize isLeap y = b
  revert h1; revert h2; revert m; revert b
  decide

theorem isLeap_iff (y : Nat) : isLeap y = true ↔ (y % 4 = 0 ∧ (y % 100 ≠ 0 ∨ y % 400 = 0)) := by simp [isLeap]

/-- the leap days up to year `y` are `y / 4 - y / 100 + y / 400`: year `y` adds one exactly when it is a leap year -/
theorem leap_step (y : Nat) :
    ((y : Int) / 4 - (y : Int) / 100 + (y : Int) / 400) -
      (((y : Int) - 1) / 4 - ((y : Int) - 1) / 100 + ((y : Int) - 1) / 400) = (if isLeap y then 1 else 0) := by
  cases y with
  | zero => decide
  | succ n =>
    -- from `n` to `n + 1` a quotient by `k` goes up by one exactly when `k` divides `n + 1`
    have d (k : Nat) : ((n + 1 : Nat) : Int) / (k : Int) = (n : Int) / (k : Int) + ((if k ∣ n + 1 then 1 else 0 : Nat) : Int) := by
      rw [← Int.natCast_ediv, ← Int.natCast_ediv, Nat.succ_div, Int.natCast_add]
    have d4 := d 4
    have d100 := d 100
    have d400 := d 400
    simp only [Int.cast_ofNat_Int] at d4 d100 d400
    have e : ((n + 1 : Nat) : Int) - 1 = (n : Int) := by omega
    have hl : isLeap (n + 1) = (decide (4 ∣ n + 1) && (!decide (100 ∣ n + 1) || decide (400 ∣ n + 1))) := by
      simp [isLeap, Nat.dvd_iff_mod_eq_zero]
    rw [e, d4, d100, d400, hl]
    generalize (n : Int) / 4 = a
    generalize (n : Int) / 100 = b
    generalize (n : Int) / 400 = c
    -- a multiple of 400 is one of 100, and that one of 4: four cases
    by_cases h400 : 400 ∣ n + 1
    · have h100 : 100 ∣ n + 1 := Nat.dvd_trans (by decide) h400
      have h4 : 4 ∣ n + 1 := Nat.dvd_trans (by decide) h100
      simp [h4, h100, h400]; omega
    · by_cases h100 : 100 ∣ n + 1
      · have h4 : 4 ∣ n + 1 := Nat.dvd_trans (by decide) h100
        simp [h4, h100, h400]; omega
      · by_cases h4 : 4 ∣ n + 1 <;> simp [h4, h100, h400] <;> omega

/-- days before the first of January of year `y` -/
def yearBase (y : Nat) : Int := 365 * (y : Int) - 365 + ((y : Int) - 1) / 4 - ((y : Int) - 1) / 100 + ((y : Int) - 1) / 400

theorem toOrdinal_eq (x : Date) : toOrdinal x = yearBase x.y + (daysBeforeMonth x.y x.m : Int) + (x.d : Int) := rfl

theorem yearBase_succ (y : Nat) : yearBase (y + 1) = yearBase y + 365 + (if isLeap y then 1 else 0) := by
  have := leap_step y
  unfold yearBase
  have e : ((y + 1 : Nat) : Int) - 1 = (y : Int) := by omega
  rw [e]
  omega

theorem dbm_jan (y : Nat) : daysBeforeMonth y 1 = 0 := by simp [daysBeforeMonth]
theorem dbm_dec (y : Nat) : daysBeforeMonth y 12 = 334 + (if isLeap y then 1 else 0) := by
  cases hl : isLeap y <;> simp [daysBeforeMonth, hl]

theorem toOrdinal_nextDay (x : Date) (hw : x.wf) : toOrdinal (nextDay x) = toOrdinal x + 1 ∧ (nextDay x).wf := by
  obtain ⟨hm1, hm2, hd1, hd2⟩ := hw
  unfold nextDay
  by_cases h1 : x.d < daysInMonth x.y x.m
  · simp only [h1, if_true]
    refine ⟨?_, hm1, hm2, by simp, by simp; omega⟩
    rw [toOrdinal_eq, toOrdinal_eq]; simp only; omega
  · simp only [h1, if_false]
    have hd : x.d = daysInMonth x.y x.m := by omega
    by_cases h2 : x.m < 12
    · simp only [h2, if_true]
      have hge := daysInMonth_ge x.y (x.m + 1)
      refine ⟨?_, by simp, by simp; omega, by simp, by simp; omega⟩
      rw [toOrdinal_eq, toOrdinal_eq]
      simp only [dbm_succ x.y x.m hm1 h2, hd]
      omega
    · simp only [h2, if_false]
      have hm : x.m = 12 := by omega
      refine ⟨?_, by simp, by simp, by simp, by simp [daysInMonth]⟩
      have hd31 : x.d = 31 := by rw [hd, hm]; simp [daysInMonth]
      rw [toOrdinal_eq, toOrdinal_eq]
      simp only [hm, hd31, yearBase_succ, dbm_jan, dbm_dec]
      split <;> omega

theorem prevDay_nextDay (x : Date) (hw : x.wf) : prevDay (nextDay x) = x := by
  obtain ⟨hm1, hm2, hd1, hd2⟩ := hw
  obtain ⟨y, m, d⟩ := x
  simp only at hm1 hm2 hd1 hd2
  unfold nextDay
  by_cases h1 : d < daysInMonth y m
  · simp only [h1, if_true]
    have : 1 < d + 1 := by omega
    simp [prevDay, this]
  · simp only [h1, if_false]
    have hd : d = daysInMonth y m := by omega
    by_cases h2 : m < 12
    · simp only [h2, if_true]
      have : 1 < m + 1 := by omega
      simp [prevDay, this, hd]
    · simp only [h2, if_false]
      have hm : m = 12 := by omega
      subst hm
      simp [daysInMonth] at hd
      simp [prevDay, hd]

theorem nextDay_prevDay (x : Date) (hw : x.wf) (hy : 1 ≤ x.y) : nextDay (prevDay x) = x := by
  obtain ⟨hm1, hm2, hd1, hd2⟩ := hw
  obtain ⟨y, m, d⟩ := x
  simp only at hm1 hm2 hd1 hd2 hy
  unfold prevDay
  by_cases h1 : 1 < d
  · simp only [h1, if_true]
    have : d - 1 < daysInMonth y m := by omega
    simp [nextDay, this]; omega
  · simp only [h1, if_false]
    have hd : d = 1 := by omega
    by_cases h2 : 1 < m
    · simp only [h2, if_true]
      have : m - 1 < 12 := by omega
      simp [nextDay, this, hd]; omega
    · simp only [h2, if_false]
      have hm : m = 1 := by omega
      simp [nextDay, daysInMonth, hd, hm]; omega

theorem prevDay_wf (x : Date) (hw : x.wf) : (prevDay x).wf := by
  obtain ⟨hm1, hm2, hd1, hd2⟩ := hw
  have hge := daysInMonth_ge x.y (x.m - 1)
  unfold prevDay Date.wf
  split
  · simp only; omega
  · split
    · simp only; omega
    · simp [daysInMonth]

/-- stepping back undoes stepping forward, so the ordinal goes down by what it went up -/
theorem toOrdinal_prevDay (x : Date) (hw : x.wf) (hy : 1 ≤ x.y) :
    toOrdinal (prevDay x) = toOrdinal x - 1 ∧ (prevDay x).wf := by
  have hw' := prevDay_wf x hw
  have := (toOrdinal_nextDay (prevDay x) hw').1
  rw [nextDay_prevDay x hw hy] at this
  exact ⟨by omega, hw'⟩

theorem iter_one {α : Type} (f : α → α) (a : α) : iter f 1 a = f a := rfl
theorem iter_zero {α : Type} (f : α → α) (a : α) : iter f 0 a = a := rfl

theorem addDays_neg_one (x : Date) : addDays x (-1) = prevDay x := by
  simp [addDays, iter_one]
theorem addDays_one (x : Date) : addDays x 1 = nextDay x := by
  have : (1 : Int).toNat = 1 := by decide
  simp [addDays, this, iter_one]
theorem addDays_zero (x : Date) : addDays x 0 = x := by simp [addDays, iter_zero]

theorem addDays_small (x : Date) (hw : x.wf) (k : Int) (hk1 : -1 ≤ k) (hk2 : k ≤ 1) (hy : 1 ≤ x.y) :
    toOrdinal (addDays x k) = toOrdinal x + k ∧ (addDays x k).wf ∧ (1 ≤ (addDays x k).y → addDays (addDays x k) (-k) = x) := by
  have hc : k = -1 ∨ k = 0 ∨ k = 1 := by omega
  rcases hc with h | h | h <;> subst h
  · have := toOrdinal_prevDay x hw hy
    rw [addDays_neg_one]
    refine ⟨by rw [this.1]; omega, this.2, ?_⟩
    intro _
    have e : (-(-1 : Int)) = 1 := by decide
    rw [e, addDays_one, nextDay_prevDay x hw hy]
  · rw [addDays_zero]
    exact ⟨by omega, hw, fun _ => by simp [addDays_zero]⟩
  · have := toOrdinal_nextDay x hw
    rw [addDays_one]
    refine ⟨this.1, this.2, ?_⟩
    intro _
    rw [addDays_neg_one, prevDay_nextDay x hw]

theorem Date.valid_wf (x : Date) (h : x.valid = true) : x.wf ∧ 1 ≤ x.y := by
  obtain ⟨hy1, _, hw⟩ := (Date.valid_iff x).1 h
  exact ⟨hw, hy1⟩

end SpyneModel
