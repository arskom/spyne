/-
  The arithmetic of UTF-8 on plain numbers: a code point `n` and its 6-bit groups `n / 64 ^ k % 64` (the payloads of the
  continuation bytes) under the lead payload `n / 64 ^ k`.  No model is imported; the three UTF-8 models
  (SpyneModel/DispatchBytes.lean, SpyneModel/Hier.lean, SpyneModel/FlatQs.lean) write the groups as
  `n / 64`, `n / 4096`, `n / 262144`, `… % 64`.
-/
import Proofs.Radix
namespace SpyneModel.Utf8

theorem div4096 (n : Nat) : n / 4096 = n / 64 / 64 := (Nat.div_div_eq_div_mul n 64 64).symm

theorem div262144 (n : Nat) : n / 262144 = n / 64 / 64 / 64 := by
  rw [Nat.div_div_eq_div_mul, Nat.div_div_eq_div_mul]

theorem mod64_lt (n : Nat) : n % 64 < 64 := Nat.mod_lt n (by decide)

/-! ### a code point is rebuilt from its groups: as a decoder that shifts an accumulator does it … -/

theorem horner3 (n : Nat) : (n / 4096 * 64 + n / 64 % 64) * 64 + n % 64 = n := by
  rw [div4096, Nat.div_add_mod', Nat.div_add_mod']

theorem horner4 (n : Nat) : ((n / 262144 * 64 + n / 4096 % 64) * 64 + n / 64 % 64) * 64 + n % 64 = n := by
  rw [div262144, div4096, Nat.div_add_mod', Nat.div_add_mod', Nat.div_add_mod']

/-! ### … and as a decoder that weighs each byte does it -/

theorem digits3 (n : Nat) : n / 4096 * 4096 + n / 64 % 64 * 64 + n % 64 = n := by
  have h := horner3 n
  rwa [Nat.add_mul, Nat.mul_assoc] at h

theorem digits4 (n : Nat) : n / 262144 * 262144 + n / 4096 % 64 * 4096 + n / 64 % 64 * 64 + n % 64 = n := by
  have h := horner4 n
  simp only [Nat.add_mul, Nat.mul_assoc] at h
  exact h

/-! ### the groups of such a sum are the given ones (so the encoding of a decoded code point is the bytes it came from) -/

theorem of_digits2 {l d0 n : Nat} (h0 : d0 < 64) (h : n = l * 64 + d0) : n / 64 = l ∧ n % 64 = d0 :=
  h ▸ ⟨Radix.div_mul_add h0, Nat.mul_add_mod_of_lt h0⟩

theorem of_digits3 {l d1 d0 n : Nat} (h1 : d1 < 64) (h0 : d0 < 64) (h : n = l * 4096 + d1 * 64 + d0) :
    n / 4096 = l ∧ n / 64 % 64 = d1 ∧ n % 64 = d0 := by
  obtain ⟨a1, a0⟩ := of_digits2 (l := l * 64 + d1) h0 (h.trans (by rw [Nat.add_mul, Nat.mul_assoc]))
  obtain ⟨b1, b0⟩ := of_digits2 (l := l) h1 rfl
  rw [div4096, a1, a0, b1, b0]
  exact ⟨rfl, rfl, rfl⟩

theorem of_digits4 {l d2 d1 d0 n : Nat} (h2 : d2 < 64) (h1 : d1 < 64) (h0 : d0 < 64)
    (h : n = l * 262144 + d2 * 4096 + d1 * 64 + d0) :
    n / 262144 = l ∧ n / 4096 % 64 = d2 ∧ n / 64 % 64 = d1 ∧ n % 64 = d0 := by
  obtain ⟨a1, a0⟩ := of_digits2 (l := l * 4096 + d2 * 64 + d1) h0
    (h.trans (by rw [Nat.add_mul, Nat.add_mul, Nat.mul_assoc, Nat.mul_assoc]))
  obtain ⟨b2, b1, b0⟩ := of_digits3 (l := l) h2 h1 rfl
  rw [div262144, div4096, a1, a0, ← div4096, b2, b1, b0]
  exact ⟨rfl, rfl, rfl, rfl⟩

theorem lead2 {n : Nat} (h1 : ¬ n < 0x80) (h2 : n < 0x800) : 2 ≤ n / 64 ∧ n / 64 < 32 :=
  ⟨(Nat.le_div_iff_mul_le (by decide)).2 (Nat.le_of_not_lt h1), Nat.div_lt_of_lt_mul h2⟩

theorem lead3 {n : Nat} (h : n < 0x10000) : n / 4096 < 16 := Nat.div_lt_of_lt_mul h

theorem lead4 {n : Nat} (h : n < 0x110000) : n / 262144 < 5 := Nat.div_lt_of_lt_mul (Nat.lt_trans h (by decide))

end SpyneModel.Utf8
