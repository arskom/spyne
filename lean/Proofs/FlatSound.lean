/-
  Soundness of soft validation for EVERY flat document, C05 (⇒) for HttpRpc
  (both array modes). The invariant `WCFields` ("well counted") ties the object graph under construction to the
  frequency increments made so far: what a member holds and how often it was counted; below an
  object member, the same for the child instance with the increments made under it.
-/
import Proofs.FlatEvs
import Proofs.Leaf
namespace SpyneModel.Flat
open SpyneModel

/-- a native value that went through `validate_string`/`from_string`/`validate_native` of soft
    validation: `None` only where the member is nillable, else every facet holds -/
def LeafV (nillable : Bool) (p : PK) (v : Leaf) : Prop := (v = .none ∧ nillable = true) ∨ p.valueOk v = true

/-- the instance has an entry of its own in the frequency table (it will be checked) -/
def HasEntry (sub : List Fld) (evs : List Ev) : Prop := ∃ e, e ∈ evs ∧ e.key = [] ∧ e.spec = specOf sub

theorem HasEntry.append_left {sub : List Fld} {evs : List Ev} (h : HasEntry sub evs) (more : List Ev) :
    HasEntry sub (evs ++ more) :=
  let ⟨e, he, hk⟩ := h
  ⟨e, List.mem_append_left _ he, hk⟩

theorem HasEntry.append_right {sub : List Fld} {more : List Ev} (h : HasEntry sub more) (evs : List Ev) :
    HasEntry sub (evs ++ more) :=
  let ⟨e, he, hk⟩ := h
  ⟨e, List.mem_append_right _ he, hk⟩

mutual
/-- member of type `ty`: the value `n` it holds, the count `c` in the entry of its instance, the
    increments `E i` made under its element `i` -/
def WCTy (strict : Bool) : Ty → Occ → Node → Nat → (Nat → List Ev) → Prop
  | .prim p, occ, n, c, _ =>
    (n = .none ∧ c = 0) ∨
    (occ.many = false ∧ ∃ v, n = .leaf v ∧ 1 ≤ c ∧ LeafV occ.nillable p v) ∨
    (occ.many = true ∧ ∃ vs, n = .leaves vs ∧ c = vs.length ∧ ∀ v, v ∈ vs → LeafV occ.nillable p v)
  | .obj _ sub, occ, n, c, E =>
    (n = .none ∧ c = 0 ∧ ∀ i, E i = []) ∨
    (occ.many = false ∧ ∃ a, n = .obj a ∧ 1 ≤ c ∧ (c = 1 → HasEntry sub (E 0) ∧ WCFields strict sub a (E 0))) ∨
    (occ.many = true ∧ ∃ m items, n = .arr m items ∧ c = items.length ∧
      ((strict = false ∧ ArrInv m items.length ∧       -- idxmap branch: elements by sparse index
        (∀ i, i ∉ mkeys m → E i = []) ∧
        ∀ i, i ∈ mkeys m → ∃ a, arrGet m items Node.none i = .obj a ∧ HasEntry sub (E i) ∧ WCFields strict sub a (E i)) ∨
       (strict = true ∧                                 -- strict_arrays: the index is the position
        (∀ i, items.length ≤ i → E i = []) ∧
        ∀ i, i < items.length → ∃ a, items.getD i Node.none = .obj a ∧ HasEntry sub (E i) ∧ WCFields strict sub a (E i))))
def WCFields (strict : Bool) : List Fld → Attrs → List Ev → Prop
  | [], _, _ => True
  | (k, occ, ty) :: fs, attrs, evs =>
    WCTy strict ty occ (getAttr attrs k) (evCount evs [] k) (fun i => evsUnder (k, i) evs) ∧ WCFields strict fs attrs evs
end

theorem WCFields_iff {strict : Bool} {fields : List Fld} {attrs : Attrs} {evs : List Ev} :
    WCFields strict fields attrs evs ↔ ∀ f, f ∈ fields →
      WCTy strict f.2.2 f.2.1 (getAttr attrs f.1) (evCount evs [] f.1) (fun i => evsUnder (f.1, i) evs) := by
  induction fields with
  | nil => simp [WCFields]
  | cons g r ih =>
    obtain ⟨k, occ, ty⟩ := g
    simp only [WCFields, ih, List.forall_mem_cons]

theorem WCFields_freshAttrs (strict : Bool) (fields : List Fld) {evs : List Ev}
    (hc : ∀ k, evCount evs [] k = 0) (hu : ∀ c, evsUnder c evs = []) : WCFields strict fields (freshAttrs fields) evs := by
  apply WCFields_iff.mpr
  intro f _
  obtain ⟨k, occ, ty⟩ := f
  simp only [getAttr_freshAttrs, hc, hu]
  cases ty <;> simp [WCTy]

theorem WCFields_fresh (strict : Bool) (fields : List Fld) : WCFields strict fields (freshAttrs fields) [] :=
  WCFields_freshAttrs strict fields (fun _ => rfl) (fun _ => rfl)

theorem WCFields_touch (strict : Bool) (sub : List Fld) : WCFields strict sub (freshAttrs sub) [⟨[], specOf sub, [], 0⟩] :=
  WCFields_freshAttrs strict sub (fun k => by simp [evCount_cons, evCount_nil]) (fun c => by simp [evsUnder])

theorem evCount_other {fields : List Fld} {new : List Ev} {p : Text}
    (hown : ∀ e, e ∈ new → Owned fields p e) {k : Text} (hk : k ≠ p) :
    evCount new [] k = 0 := by
  induction new with
  | nil => rfl
  | cons e r ih =>
    rw [evCount_cons, ih (fun e' he' => hown e' (List.mem_cons_of_mem _ he'))]
    have := (hown e List.mem_cons_self).2
    by_cases h : e.key = [] ∧ e.name = k
    · exact absurd ((this h.1).2.symm.trans h.2) (Ne.symm hk)
    · simp [h]

theorem evsUnder_other {new : List Ev} {p : Text}
    (hown : ∀ e, e ∈ new → ownedBy p e = true) {k : Text} (hk : k ≠ p) (i : Nat) :
    evsUnder (k, i) new = [] := by
  induction new with
  | nil => rfl
  | cons e r ih =>
    have hr := ih (fun e' he' => hown e' (List.mem_cons_of_mem _ he'))
    have he := hown e List.mem_cons_self
    obtain ⟨key, spec, nm, inc⟩ := e
    cases key with
    | nil => simpa [evsUnder] using hr
    | cons h tl =>
      simp only [ownedBy, decide_eq_true_eq] at he
      have : h ≠ (k, i) := fun e => hk (by rw [← he, e])
      simpa [evsUnder, this] using hr

/-- The invariant after a key through member `p`, whose increments `new` all belong to `p`: it is enough to show `WCTy`
    of `p` with its count and the increments under it extended by those of `new`; every other member reads the
    same value, count and increments as before. -/
theorem wc_setAttr {strict : Bool} {fields : List Fld} (hn : (fields.map Prod.fst).Nodup) {attrs : Attrs} {evs : List Ev}
    (hw : WCFields strict fields attrs evs) {p : Text} {occ : Occ} {ty : Ty}
    (hl : lookupFld fields p = some (p, occ, ty)) (new : List Ev)
    (hown : ∀ e, e ∈ new → Owned fields p e) (n' : Node)
    (h' : WCTy strict ty occ n' (evCount evs [] p + evCount new [] p) (fun i => evsUnder (p, i) evs ++ evsUnder (p, i) new)) :
    WCFields strict fields (setAttr attrs p n') (evs ++ new) := by
  apply WCFields_iff.mpr
  intro f hf
  by_cases hk : f.1 = p
  · -- the member itself
    have : f = (p, occ, ty) := by
      have := lookupFld_of_mem hn hf
      rw [hk, hl] at this
      exact (Option.some.inj this).symm
    subst this
    simp only [getAttr_setAttr_same, evCount_append, evsUnder_append]
    exact h'
  · have h0 := WCFields_iff.mp hw f hf
    rw [getAttr_setAttr_ne _ _ _ _ hk, evCount_append, evCount_other hown hk, Nat.add_zero]
    have : (fun i => evsUnder (f.1, i) (evs ++ new)) = (fun i => evsUnder (f.1, i) evs) := by
      funext i
      rw [evsUnder_append, evsUnder_other (fun e he => (hown e he).1) hk, List.append_nil]
    rw [this]
    exact h0

/-- the value a key carries fits the member its path ends at. The cases are those of `KVOk` (FlatDoc), which speaks of
    the spelled values of a documented request; here the key is any key that soft validation lets through (`LeafV`). -/
def PlOk (occ : Occ) : Ty → Payload → Prop
  | .prim p, .prims many vs => many = occ.many ∧ ∀ v, v ∈ vs → LeafV occ.nillable p v
  | .obj _ _, .emptyArr => occ.many = true
  | .obj _ sub, .emptyObj fs => occ.many = false ∧ fs = sub
  | _, _ => False

theorem WCTy_congr {strict : Bool} {ty : Ty} {occ : Occ} {n : Node} {c c' : Nat} {E E' : Nat → List Ev}
    (hc : c = c') (hE : ∀ i, E i = E' i) (h : WCTy strict ty occ n c E) : WCTy strict ty occ n c' E' := by
  have : E = E' := funext hE
  subst hc this
  exact h

theorem memberAt_cons2 {fields : List Fld} {p : Text} {occ : Occ} {ty : Ty}
    (hl : lookupFld fields p = some (p, occ, ty)) (q : Text) (rest : List Text) :
    memberAt fields (p :: q :: rest) = match ty with | .obj _ sub => memberAt sub (q :: rest) | .prim _ => none := by
  cases ty <;> simp [memberAt, hl]

theorem memberAt_lookup {fields : List Fld} {q : Text} {rest : List Text} {o : Occ} {t : Ty}
    (h : memberAt fields (q :: rest) = some (o, t)) : ∃ qocc qty, lookupFld fields q = some (q, qocc, qty) := by
  cases rest with
  | nil =>
    simp only [memberAt, Option.map_eq_some_iff] at h
    obtain ⟨⟨n, fo, ft⟩, hf, _⟩ := h
    cases (lookupFld_some hf).2
    exact ⟨fo, ft, hf⟩
  | cons m rest' =>
    simp only [memberAt] at h
    split at h
    · next fn focc cid sub hl =>
      cases (lookupFld_some hl).2
      exact ⟨focc, _, hl⟩
    · simp at h

theorem evsUnder_touch (p : Text) (j k : Nat) (spec s2 : List (Text × Nat × Option Nat)) (rest : List Ev) :
    evsUnder (p, j) ((⟨[], spec, p, 1⟩ : Ev) :: ⟨[(p, k)], s2, [], 0⟩ :: rest) =
      (if j = k then [(⟨[], s2, [], 0⟩ : Ev)] else []) ++ evsUnder (p, j) rest := by
  by_cases h : j = k
  · subst h; simp [evsUnder]
  · have : ¬ ((p, k) = (p, j)) := fun e => h (by simpa using e.symm)
    simp [evsUnder, h, this]

/-- strict_arrays: the list of a member that held `n0` elements, with the increments `s.2` made for it since
    (on top of `E`): the new elements are counted in, every element is an instance with an entry of its own -/
def SlotInv (sub : List Fld) (p : Text) (n0 : Nat) (E : Nat → List Ev) (s : List Node × List Ev) : Prop :=
  n0 ≤ s.1.length ∧ evCount s.2 [] p = s.1.length - n0 ∧
  (∀ j, s.1.length ≤ j → E j ++ evsUnder (p, j) s.2 = []) ∧
  ∀ j, j < s.1.length → ∃ a, s.1.getD j Node.none = .obj a ∧ HasEntry sub (E j ++ evsUnder (p, j) s.2) ∧
    WCFields true sub a (E j ++ evsUnder (p, j) s.2)

theorem SlotInv.push {sub : List Fld} {p : Text} {n0 : Nat} {E : Nat → List Ev} {s : List Node × List Ev}
    (spec : List (Text × Nat × Option Nat)) (h : SlotInv sub p n0 E s) :
    SlotInv sub p n0 E (s.1 ++ [fresh sub], s.2 ++ ⟨[], spec, p, 1⟩ :: [⟨[(p, s.1.length)], specOf sub, [], 0⟩]) := by
  obtain ⟨hle, hcnt, hEn, hEl⟩ := h
  have hE : ∀ j, E j ++ evsUnder (p, j) (s.2 ++ ⟨[], spec, p, 1⟩ :: [⟨[(p, s.1.length)], specOf sub, [], 0⟩]) =
      (E j ++ evsUnder (p, j) s.2) ++ if j = s.1.length then [⟨[], specOf sub, [], 0⟩] else [] := by
    intro j
    rw [evsUnder_append, evsUnder_touch, List.append_assoc]
    simp [evsUnder]
  refine ⟨by simp only [List.length_append, List.length_singleton]; omega, ?_, fun j hj => ?_, fun j hj => ?_⟩
  · simp only [evCount_append, evCount_cons, evCount_nil, hcnt, List.length_append, List.length_singleton]
    simp
    omega
  · simp only [List.length_append, List.length_singleton] at hj
    rw [hE, hEn j (by omega), if_neg (by omega)]
    rfl
  · simp only [List.length_append, List.length_singleton] at hj
    rw [hE]
    by_cases hjl : j = s.1.length
    · rw [hEn j (by omega), if_pos hjl, List.nil_append, hjl]
      exact ⟨freshAttrs sub, by simp [List.getD_eq_getElem?_getD, fresh],
        ⟨_, List.mem_singleton_self _, rfl, rfl⟩, WCFields_touch true sub⟩
    · rw [if_neg hjl, List.append_nil]
      have hlt : j < s.1.length := by omega
      obtain ⟨a, h1, h2⟩ := hEl j hlt
      refine ⟨a, ?_, h2⟩
      rw [← h1]
      simp only [List.getD_eq_getElem?_getD]
      rw [List.getElem?_append_left hlt]

/-- strict_arrays: what `strictSlot` appends (the element the key addresses, and element 0 when the
    list was empty) are fresh instances that are counted in and have an entry of their own -/
theorem strictSlot_inv {fields sub : List Fld} {p : Text} {items : List Node} {E : Nat → List Ev} {i : Nat}
    {s : List Node × List Ev}
    (hEn : ∀ j, items.length ≤ j → E j = [])
    (hEl : ∀ j, j < items.length → ∃ a, items.getD j Node.none = .obj a ∧ HasEntry sub (E j) ∧ WCFields true sub a (E j))
    (hs : strictSlot sub ⟨[], specOf fields, p, 1⟩ (fun j => [⟨[(p, j)], specOf sub, [], 0⟩]) items i = .ok s) :
    i < s.1.length ∧ SlotInv sub p items.length E s ∧ (items = [] → (⟨[], specOf fields, p, 1⟩ : Ev) ∈ s.2) := by
  have h0 : SlotInv sub p items.length E (items, []) :=
    ⟨Nat.le_refl _, by simp [evCount_nil], fun j hj => by simp [evsUnder, hEn j hj],
      fun j hj => by simpa [evsUnder] using hEl j hj⟩
  unfold strictSlot at hs
  generalize hs0 : (if items.isEmpty then ([fresh sub], (⟨[], specOf fields, p, 1⟩ : Ev) :: [⟨[(p, 0)], specOf sub, [], 0⟩])
    else (items, [])) = s0 at hs
  have h1 : SlotInv sub p items.length E s0 ∧ (items = [] → (⟨[], specOf fields, p, 1⟩ : Ev) ∈ s0.2) := by
    subst hs0
    split
    · next he =>
      cases List.isEmpty_iff.mp he
      exact ⟨h0.push (specOf fields), fun _ => List.mem_cons_self⟩
    · next he => exact ⟨h0, fun e => absurd (List.isEmpty_iff.mpr e) he⟩
  simp only at hs
  split at hs
  · cases hs
  · split at hs
    · next hlen =>
      cases hs
      refine ⟨by simp [hlen], ?_, fun e => List.mem_append_left _ (h1.2 e)⟩
      rw [hlen]
      exact h1.1.push (specOf fields)
    · cases hs
      exact ⟨by simp only at *; omega, h1⟩

/-- an array member; `None` is read as the empty list it becomes at the first key -/
theorem WCTy_arr {strict : Bool} {cid : Nat} {sub : List Fld} {occ : Occ} {cur : Node} {c : Nat} {E : Nat → List Ev}
    (hm : occ.many = true) (hw : WCTy strict (.obj cid sub) occ cur c E) :
    ∃ m items, (cur = .arr m items ∨ (cur = .none ∧ m = [] ∧ items = [])) ∧ c = items.length ∧
      ((strict = false ∧ ArrInv m items.length ∧ (∀ i, i ∉ mkeys m → E i = []) ∧
        ∀ i, i ∈ mkeys m → ∃ a, arrGet m items Node.none i = .obj a ∧ HasEntry sub (E i) ∧ WCFields strict sub a (E i)) ∨
       (strict = true ∧ (∀ i, items.length ≤ i → E i = []) ∧
        ∀ i, i < items.length → ∃ a, items.getD i Node.none = .obj a ∧ HasEntry sub (E i) ∧ WCFields strict sub a (E i))) := by
  simp only [WCTy] at hw
  rcases hw with ⟨rfl, rfl, hE⟩ | ⟨hm', _⟩ | ⟨_, m, items, rfl, hc, hdisj⟩
  · refine ⟨[], [], Or.inr ⟨rfl, rfl, rfl⟩, rfl, ?_⟩
    cases strict with
    | false => exact Or.inl ⟨rfl, ArrInv.empty, fun i _ => hE i, fun i hi => by simp [mkeys] at hi⟩
    | true => exact Or.inr ⟨rfl, fun i _ => hE i, fun i hi => by simp at hi⟩
  · rw [hm] at hm'; cases hm'
  · exact ⟨m, items, Or.inl rfl, hc, hdisj⟩

/-- One key keeps `WCTy` of the member `p` it goes through (induction on the rest of its path): the count of `p` grows
    by what the key counts at the instance itself, `E i` by what it counts under element `i`, and a member that was
    `None` is counted in. A key that finds `None` also leaves the entry of the instance among its increments. -/
theorem stepMember_wc (F : Facts03) (hF : F.freqScope = .perMember) (hT : F.freqTouch = true) (strict : Bool) :
    ∀ (rest : List Text) {fields : List Fld} {p : Text} {occ : Occ} {ty : Ty} {cur : Node} {idxs : List Nat}
      {pl : Payload} {c : Nat} {E : Nat → List Ev} {r : Node × List Ev} {tocc : Occ} {tty : Ty},
      WfFields fields →
      lookupFld fields p = some (p, occ, ty) →
      memberAt fields (p :: rest) = some (tocc, tty) → PlOk tocc tty pl →
      WCTy strict ty occ cur c E →
      stepMember F strict fields cur p rest idxs pl = .ok r →
      WCTy strict ty occ r.1 (c + evCount r.2 [] p) (fun i => E i ++ evsUnder (p, i) r.2) ∧
      (cur = .none → HasEntry fields r.2) := by
  intro rest
  induction rest with
  | nil =>
    intro fields p occ ty cur idxs pl c E r tocc tty _ hl hat hpl hw h
    simp only [memberAt, hl, Option.map_some, Option.some.injEq, Prod.mk.injEq] at hat
    obtain ⟨rfl, rfl⟩ := hat
    simp only [stepMember] at h
    obtain ⟨n, hn, rfl⟩ := obind_ok_eq_ok.mp h
    refine ⟨?_, fun _ => ⟨_, List.mem_cons_self, rfl, rfl⟩⟩
    cases ty with
    | prim pk =>
      cases pl with
      | prims many vs =>
        obtain ⟨hmany, hvs⟩ := hpl
        have hcnt : evCount [(⟨[], specOf fields, p, (Payload.prims many vs).len⟩ : Ev)] [] p = vs.length := by
          rw [evCount_cons, evCount_nil]; simp [Payload.len]
        simp only [hcnt]
        apply WCTy_congr rfl (E := E) (fun i => by simp [evsUnder])
        simp only [WCTy] at hw ⊢
        cases many with
        | true =>
          rcases hw with ⟨rfl, rfl⟩ | ⟨hm, _⟩ | ⟨_, old, rfl, rfl, hold⟩
          · cases hn
            exact Or.inr (Or.inr ⟨hmany.symm, vs, rfl, by simp, hvs⟩)
          · rw [← hmany] at hm; exact absurd hm (by simp)
          · cases hn
            refine Or.inr (Or.inr ⟨hmany.symm, old ++ vs, rfl, by simp, ?_⟩)
            intro v hv
            rcases List.mem_append.mp hv with hv | hv
            · exact hold v hv
            · exact hvs v hv
        | false =>
          cases vs with
          | nil => simp [assignNode] at hn
          | cons v vs' =>
            cases hn
            exact Or.inr (Or.inl ⟨hmany.symm, v, rfl, by simp only [List.length_cons]; omega, hvs v List.mem_cons_self⟩)
      | _ => exact absurd hpl (by simp [PlOk])
    | obj cid sub =>
      cases pl with
      | prims many vs => exact absurd hpl (by simp [PlOk])
      | emptyArr =>
        have hmany : occ.many = true := hpl
        have hcnt : evCount [(⟨[], specOf fields, p, Payload.emptyArr.len⟩ : Ev)] [] p = 0 := by
          rw [evCount_cons, evCount_nil]; simp [Payload.len]
        simp only [hcnt, Nat.add_zero]
        apply WCTy_congr rfl (E := E) (fun i => by simp [evsUnder])
        simp only [WCTy] at hw ⊢
        rcases hw with ⟨rfl, rfl, hE⟩ | ⟨hm, _⟩ | ⟨_, m, items, rfl, hrest⟩
        · cases hn
          refine Or.inr (Or.inr ⟨hmany, [], [], rfl, rfl, ?_⟩)
          cases strict with
          | false => exact Or.inl ⟨rfl, ArrInv.empty, fun i _ => hE i, fun i hi => by simp [mkeys] at hi⟩
          | true => exact Or.inr ⟨rfl, fun i _ => hE i, fun i hi => by simp at hi⟩
        · rw [hmany] at hm; exact absurd hm (by simp)
        · cases hn
          exact Or.inr (Or.inr ⟨hmany, m, items, rfl, hrest⟩)
      | emptyObj fs =>
        obtain ⟨hmany, rfl⟩ := hpl
        cases hn
        have hcnt : evCount ((⟨[], specOf fields, p, (Payload.emptyObj fs).len⟩ : Ev) ::
            (if F.freqTouch = true then [(⟨[(memberLabel F fields p, 0)], specOf fs, [], 0⟩ : Ev)] else [])) [] p = 1 := by
          rw [evCount_cons]
          simp only [hT, if_true]
          rw [evCount_cons, evCount_nil]
          simp [Payload.len]
        simp only [hcnt]
        simp only [WCTy]
        refine Or.inr (Or.inl ⟨hmany, freshAttrs fs, rfl, by omega, ?_⟩)
        intro hc1
        have hc0 : c = 0 := by omega
        simp only [WCTy] at hw
        have hE : ∀ i, E i = [] := by
          rcases hw with ⟨_, _, hE⟩ | ⟨_, a, _, hge, _⟩ | ⟨hm, _⟩
          · exact hE
          · omega
          · rw [hmany] at hm; exact absurd hm (by simp)
        have hu : evsUnder (p, 0) ((⟨[], specOf fields, p, (Payload.emptyObj fs).len⟩ : Ev) ::
            (if F.freqTouch = true then [(⟨[(memberLabel F fields p, 0)], specOf fs, [], 0⟩ : Ev)] else [])) =
            [⟨[], specOf fs, [], 0⟩] := by
          simp [evsUnder, hT, memberLabel, hF]
        rw [hE 0, hu, List.nil_append]
        exact ⟨⟨_, List.mem_singleton_self _, rfl, rfl⟩, WCFields_touch strict fs⟩
  | cons q rest ih =>
    intro fields p occ ty cur idxs pl c E r tocc tty hwf hl hat hpl hw h
    rw [memberAt_cons2 hl] at hat
    cases ty with
    | prim pk => simp at hat
    | obj cid sub =>
      simp only at hat
      obtain ⟨qocc, qty, hlq⟩ := memberAt_lookup hat
      obtain ⟨hnsub, hwfsub⟩ := Wf_sub hwf hl
      -- what the key does inside a child instance `child` whose increments so far are `evc`
      have inner : ∀ (child : Attrs) (evc : List Ev) (idxs' : List Nat) (r' : Node × List Ev),
          WCFields strict sub child evc →
          stepMember F strict sub (getAttr child q) q rest idxs' pl = .ok r' →
          WCFields strict sub (setAttr child q r'.1) (evc ++ r'.2) ∧
          (getAttr child q = .none → HasEntry sub r'.2) := by
        intro child evc idxs' r' hwc hs
        have hq := WCFields_iff.mp hwc _ (lookupFld_some hlq).1
        obtain ⟨h1, h2⟩ := ih hwfsub hlq hat hpl hq hs
        have hown := stepMember_owned F hF hs
        exact ⟨wc_setAttr hnsub.1 hwc hlq r'.2 hown r'.1 h1, h2⟩
      by_cases hm : occ.many = true
      · -- an array of objects
        obtain ⟨m, items, hcur, hc, hdisj⟩ := WCTy_arr hm hw
        have h' : stepMember F strict fields (.arr m items) p (q :: rest) idxs pl = .ok r := by
          rcases hcur with rfl | ⟨rfl, rfl, rfl⟩
          · exact h
          · rw [← stepMember_arr_none F strict hl hm]; exact h
        cases strict with
        | false =>
          obtain ⟨_, hinv, hEn, hEl⟩ | ⟨⟨⟩, _⟩ := hdisj
          rw [stepMember_arr F hF hl hm hinv] at h'
          generalize hi : (popIdx idxs).1 = i at h'
          generalize (popIdx idxs).2 = idxs' at h'
          -- the child instance the key goes through, and its increments so far
          have hchild : ∃ child, arrGet m items (fresh sub) i = .obj child ∧ WCFields false sub child (E i) ∧
              (i ∉ mkeys m → child = freshAttrs sub) ∧ (i ∈ mkeys m → HasEntry sub (E i)) := by
            by_cases hik : i ∈ mkeys m
            · obtain ⟨a, ha, he, hwa⟩ := hEl i hik
              exact ⟨a, by rw [arrGet_dflt hinv hik (fresh sub) Node.none]; exact ha, hwa, fun hn => absurd hik hn, fun _ => he⟩
            · refine ⟨freshAttrs sub, by rw [arrGet_none_key hik]; rfl, ?_, fun _ => rfl, fun hk => absurd hk hik⟩
              rw [hEn i hik]
              exact WCFields_fresh false sub
          obtain ⟨child, hag, hwchild, hfresh, hentry⟩ := hchild
          rw [hag] at h'
          simp only at h'
          obtain ⟨r', hs, rfl⟩ := obind_ok_eq_ok.mp h'
          obtain ⟨hwc', hnone'⟩ := inner child (E i) idxs' r' hwchild hs
          have hkl : ∀ e, e ∈ countNew m i ⟨[], specOf fields, p, 1⟩ → e.key = [] := countNew_keyless rfl
          refine ⟨?_, fun hcn => ?_⟩
          · simp only [WCTy]
            refine Or.inr (Or.inr ⟨hm, _, _, rfl, ?_, Or.inl ⟨trivial, arrPut_inv hinv i _, ?_, ?_⟩⟩)
            · -- the count is the length of the list
              rw [evCount_append, evCount_under_nil, Nat.add_zero, (arrPut_inv hinv i _).len, arrPut_map_length,
                hc, hinv.len]
              unfold countNew
              cases mapGet m i <;> simp [evCount_cons, evCount_nil]
            · intro j hj
              obtain ⟨hjm, hji⟩ := not_or.mp (mt mem_arrPut_keys.mpr hj)
              rw [hEn j hjm, evsUnder_arrStep p i j hkl, if_neg hji]
              rfl
            · intro j hj
              rw [evsUnder_arrStep p i j hkl]
              by_cases hji : j = i
              · subst hji
                simp only [if_true]
                refine ⟨_, arrGet_arrPut_same hinv j _ _, ?_, hwc'⟩
                by_cases hik : j ∈ mkeys m
                · exact (hentry hik).append_left _
                · exact (hnone' (by rw [hfresh hik, getAttr_freshAttrs])).append_right _
              · simp only [hji, if_false, List.append_nil]
                rw [arrGet_arrPut_ne hinv i j _ _ hji]
                exact hEl j ((mem_arrPut_keys.mp hj).resolve_right hji)
          · -- a member that was `None` is counted in
            rcases hcur with rfl | ⟨_, rfl, rfl⟩
            · cases hcn
            · refine ⟨⟨[], specOf fields, p, 1⟩, List.mem_append_left _ ?_, rfl, rfl⟩
              simp [countNew, mapGet]
        | true =>
          -- strict_arrays: the index is the position
          obtain ⟨⟨⟩, _⟩ | ⟨_, hEn, hEl⟩ := hdisj
          simp only [stepMember, hl, hm, if_true, hF, hT] at h'
          generalize (popIdx idxs).1 = i at h'
          generalize (popIdx idxs).2 = idxs' at h'
          obtain ⟨sl, hsl, h2⟩ := obind_eq_ok.mp h'
          obtain ⟨s, hs, rfl⟩ := obind_ok_eq_ok.mp hsl
          simp only at h2
          obtain ⟨hilt, ⟨hlen, hcnt, hEn1, hEl1⟩, hfirst⟩ := strictSlot_inv hEn hEl hs
          obtain ⟨child, hch, hent, hwch⟩ := hEl1 i hilt
          rw [getElem?_of_getD s.1 i Node.none hilt, hch] at h2
          simp only at h2
          obtain ⟨r', hs', rfl⟩ := obind_ok_eq_ok.mp h2
          obtain ⟨hwc', _⟩ := inner child _ idxs' r' hwch hs'
          have hsplit : ∀ j, E j ++ evsUnder (p, j) (s.2 ++ r'.2.map (Ev.under [(p, i)])) =
              (E j ++ evsUnder (p, j) s.2) ++ (if j = i then r'.2 else []) := by
            intro j
            rw [evsUnder_append, evsUnder_under, List.append_assoc]
          refine ⟨?_, fun hcn => ?_⟩
          · simp only [WCTy]
            refine Or.inr (Or.inr ⟨hm, _, _, rfl, ?_, Or.inr ⟨trivial, ?_, ?_⟩⟩)
            · rw [evCount_append, evCount_under_nil, hcnt, setAt_length]; omega
            · intro j hj
              rw [setAt_length] at hj
              rw [hsplit, hEn1 j hj]
              have : j ≠ i := by omega
              simp [this]
            · intro j hj
              rw [setAt_length] at hj
              rw [hsplit]
              by_cases hji : j = i
              · subst hji
                simp only [if_true]
                exact ⟨_, setAt_getD_same _ _ _ _ hilt, hent.append_left _, hwc'⟩
              · simp only [hji, if_false, List.append_nil]
                rw [setAt_getD_ne _ _ _ _ _ hji]
                exact hEl1 j hj
          · rcases hcur with rfl | ⟨_, _, rfl⟩
            · cases hcn
            · exact ⟨_, List.mem_append_left _ (hfirst rfl), rfl, rfl⟩
      · -- a single object
        have hm' : occ.many = false := by simpa using hm
        simp only [stepMember, hl, hm', hF, Bool.false_eq_true, if_false] at h
        simp only [WCTy] at hw
        rcases hw with ⟨rfl, rfl, hE⟩ | ⟨_, a, rfl, hge, hone⟩ | ⟨hmt, _⟩
        · simp only at h
          obtain ⟨r', hs, rfl⟩ := obind_ok_eq_ok.mp h
          obtain ⟨hwc', hnone'⟩ := inner (freshAttrs sub) [] idxs r' (WCFields_fresh strict sub) hs
          refine ⟨?_, fun _ => ⟨_, List.mem_append_left _ (List.mem_singleton_self _), rfl, rfl⟩⟩
          simp only [WCTy]
          refine Or.inr (Or.inl ⟨hm', _, rfl, ?_, fun _ => ?_⟩)
          · rw [evCount_append, evCount_under_nil, evCount_cons, evCount_nil]; simp
          · rw [hE 0, evsUnder_append, evsUnder_under, evsUnder_own]
            simp only [evsUnder, List.filterMap_nil, if_true, List.nil_append]
            simp only [List.nil_append] at hwc'
            exact ⟨hnone' (getAttr_freshAttrs sub q), hwc'⟩
        · simp only at h
          obtain ⟨r', hs, rfl⟩ := obind_ok_eq_ok.mp h
          refine ⟨?_, fun hcn => by cases hcn⟩
          simp only [WCTy]
          have hcnt : evCount ([] ++ r'.2.map (Ev.under [(p, 0)])) [] p = 0 := by
            rw [List.nil_append, evCount_under_nil]
          rw [hcnt, Nat.add_zero]
          refine Or.inr (Or.inl ⟨hm', _, rfl, hge, fun hc1 => ?_⟩)
          obtain ⟨hent, hwa⟩ := hone hc1
          obtain ⟨hwc', _⟩ := inner a (E 0) idxs r' hwa hs
          rw [List.nil_append, evsUnder_under]
          simp only [if_true]
          exact ⟨hent.append_left _, hwc'⟩
        · rw [hm'] at hmt; exact absurd hmt (by simp)

theorem nativeOf_sound (F : Facts03) (L : LeafLaws F.leaf) (nillable : Bool) (p : PK) (t : Option Text) (v : Leaf)
    (h : nativeOf F true nillable p t = .ok v) : LeafV nillable p v := by
  unfold nativeOf at h
  simp only [Bool.true_and] at h
  split at h
  · exact absurd h (by simp)
  · rename_i hs
    have hs' : softString F nillable p t = true := by simpa using hs
    obtain ⟨n, hn, h2⟩ := obind_eq_ok.mp h
    split at h2
    · exact absurd h2 (by simp)
    · rename_i hv
      have hv' : softNative nillable p n = true := by simpa using hv
      simp only [Outcome.ok.injEq] at h2
      subst h2
      cases t with
      | none =>
        cases hn
        exact Or.inl ⟨rfl, hv'⟩
      | some s =>
        -- the shared reader's verdict, whenever HttpRpc's reader is the shared one
        have shared : leafFromText F.leaf p s = .ok n → LeafV nillable p n := by
          intro hfrom
          by_cases hnn : n = .none
          · subst hnn; exact Or.inl ⟨rfl, hv'⟩
          · right
            rw [← L.soft p s n hfrom]
            have h1 : validateString F.leaf p s = true := hs'
            have h2 : validateNative p n = true := by
              cases n <;> first | exact absurd rfl hnn | exact hv'
            simp [h1, h2]
        cases p with
        | integer k r =>
          simp only [leafFrom] at hn
          split at hn
          · cases hn
            exact Or.inl ⟨rfl, hv'⟩
          · exact shared hn
        | boolean =>
          simp only [leafFrom] at hn
          cases hb : boolFromHttp F s with
          | ok b =>
            rw [hb] at hn
            cases hn
            exact Or.inr rfl
          | fault => rw [hb] at hn; simp [Outcome.map] at hn
          | crash e => rw [hb] at hn; simp [Outcome.map] at hn
        | _ => exact shared hn

theorem toNative_sound (F : Facts03) (L : LeafLaws F.leaf) (nillable : Bool) (p : PK) :
    ∀ (ts : List (Option Text)) (vs : List Leaf), toNative F true nillable p ts = .ok vs →
      ∀ v, v ∈ vs → LeafV nillable p v := by
  intro ts
  induction ts with
  | nil => intro vs h; cases h; simp
  | cons t r ih =>
    intro vs h
    simp only [toNative] at h
    obtain ⟨x, hx, h2⟩ := obind_eq_ok.mp h
    obtain ⟨xs, hxs, rfl⟩ := obind_ok_eq_ok.mp h2
    intro v hv
    rcases List.mem_cons.mp hv with rfl | hv
    · exact nativeOf_sound F L nillable p t _ hx
    · exact ih xs hxs v hv

mutual
theorem stiTy_sound (delim : Text) (fields : List Fld) (pre rel : List Text) (occ : Occ) (ty : Ty)
    (hrel : rel ≠ []) (hat : memberAt fields rel = some (occ, ty))
    (hsub : ∀ cid sub, ty = .obj cid sub → NamesOk sub ∧ WfFields sub)
    (hext : ∀ cid sub q rest, ty = .obj cid sub → memberAt fields (rel ++ q :: rest) = memberAt sub (q :: rest)) :
    ∀ x, x ∈ stiTy delim (pre ++ rel) occ ty →
      ∃ rel' occ' ty', memberAt fields rel' = some (occ', ty') ∧ x.2 = memOf (pre ++ rel') occ' ty' := by
  intro x hx
  cases ty with
  | prim pk =>
    simp only [stiTy, List.mem_singleton] at hx
    subst hx
    exact ⟨rel, occ, _, hat, rfl⟩
  | obj cid sub =>
    simp only [stiTy, List.mem_cons] at hx
    rcases hx with rfl | hx
    · exact ⟨rel, occ, _, hat, rfl⟩
    · obtain ⟨hn, hw⟩ := hsub cid sub rfl
      obtain ⟨rel', occ', ty', h1, h2⟩ := stiFields_sound delim sub (pre ++ rel) hn hw x hx
      refine ⟨rel ++ rel', occ', ty', ?_, by rw [h2, List.append_assoc]⟩
      cases rel' with
      | nil => simp [memberAt] at h1
      | cons q rest => rw [hext cid sub q rest rfl]; exact h1
theorem stiFields_sound (delim : Text) (fields : List Fld) (pre : List Text)
    (hn : NamesOk fields) (hw : WfFields fields) :
    ∀ x, x ∈ stiFields delim pre fields →
      ∃ rel occ ty, memberAt fields rel = some (occ, ty) ∧ x.2 = memOf (pre ++ rel) occ ty := by
  intro x hx
  match fields, hn, hw, hx with
  | [], _, _, hx => simp [stiFields] at hx
  | (n, occ, t) :: r, hn, hw, hx =>
    simp only [stiFields, List.mem_append] at hx
    simp only [WfFields] at hw
    obtain ⟨hnot, hnd⟩ := List.nodup_cons.mp (show (n :: r.map Prod.fst).Nodup from hn.1)
    have hl : lookupFld ((n, occ, t) :: r) n = some (n, occ, t) := by simp [lookupFld]
    rcases hx with hx | hx
    · exact stiTy_sound delim ((n, occ, t) :: r) pre [n] occ t (by simp) (by simp [memberAt, hl])
        (fun cid sub e => by subst e; simpa only [WfTy] using hw.1)
        (fun cid sub q rest e => by subst e; simp [memberAt, hl]) x hx
    · obtain ⟨rel, occ', ty', h1, h2⟩ :=
        stiFields_sound delim r pre ⟨hnd, fun m hm => hn.2 m (List.mem_cons_of_mem _ hm)⟩ hw.2 x hx
      refine ⟨rel, occ', ty', ?_, h2⟩
      -- the path does not start with `n`: names are distinct
      cases rel with
      | nil => simp [memberAt] at h1
      | cons q rest =>
        obtain ⟨qocc, qty, hlq⟩ := memberAt_lookup h1
        have hqn : n ≠ q := fun e => hnot (e ▸ List.mem_map_of_mem (f := Prod.fst) (lookupFld_some hlq).1)
        have hl' : lookupFld ((n, occ, t) :: r) q = lookupFld r q := by simp [lookupFld, hqn]
        cases rest with
        | nil => simpa [memberAt, hl'] using h1
        | cons q2 rest2 => simpa [memberAt, hl'] using h1
end

theorem walk_wc (F : Facts03) (hF : F.freqScope = .perMember) (hT : F.freqTouch = true) (strict : Bool)
    (fields : List Fld) (hn : NamesOk fields) (hw : WfFields fields) {attrs : Attrs} {evs : List Ev}
    {path : List Text} {idxs : List Nat} {pl : Payload} {tocc : Occ} {tty : Ty}
    (hat : memberAt fields path = some (tocc, tty)) (hpl : PlOk tocc tty pl)
    (hwc : WCFields strict fields attrs evs) {r : Attrs × List Ev}
    (h : walk F strict fields attrs path idxs pl = .ok r) : WCFields strict fields r.1 (evs ++ r.2) := by
  cases path with
  | nil => simp [memberAt] at hat
  | cons p rest =>
    obtain ⟨occ, ty, hl⟩ := memberAt_lookup hat
    simp only [walk] at h
    obtain ⟨r', hs, rfl⟩ := obind_ok_eq_ok.mp h
    have hq := WCFields_iff.mp hwc _ (lookupFld_some hl).1
    obtain ⟨h1, _⟩ := stepMember_wc F hF hT strict rest hw hl hat hpl hq hs
    have hown := stepMember_owned F hF hs
    exact wc_setAttr hn.1 hwc hl r'.2 hown r'.1 h1

theorem stepKey_wc (F : Facts03) (L : LeafLaws F.leaf) (hF : F.freqScope = .perMember) (hT : F.freqTouch = true)
    (strict : Bool) (delim : Text) (fields : List Fld) (hn : NamesOk fields) (hw : WfFields fields)
    (st st' : Attrs × List Ev) (kv : Text × List (Option Text))
    (hwc : WCFields strict fields st.1 st.2)
    (h : stepKey F ⟨strict, true, delim⟩ fields (stiFields delim [] fields) st kv = .ok st') :
    WCFields strict fields st'.1 st'.2 := by
  unfold stepKey at h
  cases hg : stiGet (stiFields delim [] fields) (stripIdx kv.1) with
  | none => rw [hg] at h; cases h; exact hwc
  | some mem =>
    rw [hg] at h
    obtain ⟨rel, occ, ty, hat, hmem⟩ := stiFields_sound delim fields [] hn hw _ (stiGet_mem hg)
    simp only [List.nil_append] at hmem
    simp only at hmem h
    subst hmem
    cases ty with
    | prim pk =>
      simp only [memOf] at h
      obtain ⟨vs, hvs, h2⟩ := obind_eq_ok.mp h
      obtain ⟨r, hr, rfl⟩ := obind_ok_eq_ok.mp h2
      exact walk_wc F hF hT strict fields hn hw hat
        (show PlOk occ (.prim pk) (.prims occ.many vs) from ⟨rfl, toNative_sound F L occ.nillable pk kv.2 vs hvs⟩) hwc hr
    | obj cid sub =>
      simp only [memOf] at h
      split at h
      · obtain ⟨r, hr, rfl⟩ := obind_ok_eq_ok.mp h
        by_cases hm : occ.many = true
        · simp only [hm, if_true] at hr
          exact walk_wc F hF hT strict fields hn hw hat (show PlOk occ (.obj cid sub) .emptyArr from hm) hwc hr
        · simp only [hm] at hr
          exact walk_wc F hF hT strict fields hn hw hat
            (show PlOk occ (.obj cid sub) (.emptyObj sub) from ⟨by simpa using hm, rfl⟩) hwc hr
      · cases h; exact hwc

theorem foldO_stepKey_wc (F : Facts03) (L : LeafLaws F.leaf) (hF : F.freqScope = .perMember) (hT : F.freqTouch = true)
    (strict : Bool) (delim : Text) (fields : List Fld) (hn : NamesOk fields) (hw : WfFields fields) :
    ∀ (doc : Doc) (st st' : Attrs × List Ev), WCFields strict fields st.1 st.2 →
      foldO (stepKey F ⟨strict, true, delim⟩ fields (stiFields delim [] fields)) st doc = .ok st' →
      WCFields strict fields st'.1 st'.2 := by
  intro doc
  induction doc with
  | nil => intro st st' hwc h; cases h; exact hwc
  | cons kv r ih =>
    intro st st' hwc h
    simp only [foldO_cons] at h
    obtain ⟨s1, h1, h2⟩ := obind_eq_ok.mp h
    exact ih s1 st' (stepKey_wc F L hF hT strict delim fields hn hw st s1 kv hwc h1) h2

mutual
/-- the declared constraints of a member of the flat signature on the value it holds: occurrence
    bounds, nillability and facets of the leaves, at every depth -/
def ConfTy : Ty → Occ → Node → Prop
  | .prim p, occ, n =>
    (n = .none ∧ occ.minOcc = 0) ∨
    (occ.many = false ∧ ∃ v, n = .leaf v ∧ LeafV occ.nillable p v) ∨
    (occ.many = true ∧ ∃ vs, n = .leaves vs ∧ CountOk occ vs.length ∧ ∀ v, v ∈ vs → LeafV occ.nillable p v)
  | .obj _ sub, occ, n =>
    (n = .none ∧ occ.minOcc = 0) ∨
    (occ.many = false ∧ ∃ a, n = .obj a ∧ ConfFields sub a) ∨
    (occ.many = true ∧ ∃ m items, n = .arr m items ∧ CountOk occ items.length ∧
      ∀ it, it ∈ items → ∃ a, it = .obj a ∧ ConfFields sub a)
def ConfFields : List Fld → Attrs → Prop
  | [], _ => True
  | (k, occ, ty) :: fs, a => ConfTy ty occ (getAttr a k) ∧ ConfFields fs a
end

mutual
/-- a member that is not a list has `max_occurs ≤ 1` -/
def SigOccTy : Ty → Prop
  | .prim _ => True
  | .obj _ fs => SigOccFields fs
def SigOccFields : List Fld → Prop
  | [] => True
  | (_, occ, t) :: r => (occ.many = false → ∃ mx, occ.maxOcc = some mx ∧ mx ≤ 1) ∧ SigOccTy t ∧ SigOccFields r
end

/-- an instance with an entry of its own in the table passes `_check_freq_dict` -/
theorem freqDeep_entry {evs : List Ev} (hd : freqDeep evs = true) {sub : List Fld} (he : HasEntry sub evs) :
    freqOkAt evs [] (specOf sub) = true := by
  obtain ⟨e, hmem, hk, hsp⟩ := he
  rw [← hk, ← hsp]
  exact freqDeep_at hd hmem

mutual
theorem conf_of_wc_ty (strict : Bool) (ty : Ty) (occ : Occ) (n : Node) (c : Nat) (E : Nat → List Ev)
    (hw : WCTy strict ty occ n c E) (hc : CountOk occ c)
    (hmax : occ.many = false → ∃ mx, occ.maxOcc = some mx ∧ mx ≤ 1) (hsig : SigOccTy ty)
    (hdeep : ∀ i, freqDeep (E i) = true)
    (hown : ∀ i sub, HasEntry sub (E i) → freqOkAt (E i) [] (specOf sub) = true) : ConfTy ty occ n := by
  match ty, hw, hsig with
  | .prim p, hw, _ =>
    simp only [WCTy] at hw
    simp only [ConfTy]
    rcases hw with ⟨rfl, rfl⟩ | ⟨hm, v, rfl, _, hv⟩ | ⟨hm, vs, rfl, rfl, hvs⟩
    · exact Or.inl ⟨rfl, by have := hc.1; omega⟩
    · exact Or.inr (Or.inl ⟨hm, v, rfl, hv⟩)
    · exact Or.inr (Or.inr ⟨hm, vs, rfl, hc, hvs⟩)
  | .obj cid sub, hw, hsig =>
    simp only [WCTy] at hw
    simp only [ConfTy]
    simp only [SigOccTy] at hsig
    rcases hw with ⟨rfl, rfl, _⟩ | ⟨hm, a, rfl, hge, hone⟩ | ⟨hm, m, items, rfl, rfl, hdisj⟩
    · exact Or.inl ⟨rfl, by have := hc.1; omega⟩
    · obtain ⟨mx, hmx, hle⟩ := hmax hm
      have : c = 1 := by have := hc.2 mx hmx; omega
      obtain ⟨hent, hwa⟩ := hone this
      exact Or.inr (Or.inl ⟨hm, a, rfl, conf_of_wc_fields strict sub a (E 0) hwa (hown 0 sub hent) (hdeep 0) hsig⟩)
    · refine Or.inr (Or.inr ⟨hm, m, items, rfl, hc, ?_⟩)
      intro it hit
      rcases hdisj with ⟨_, hinv, _, hel⟩ | ⟨_, _, hel⟩
      · obtain ⟨i, hi, rfl⟩ := item_has_index hinv Node.none hit
        obtain ⟨a, ha, hent, hwa⟩ := hel i hi
        exact ⟨a, ha, conf_of_wc_fields strict sub a (E i) hwa (hown i sub hent) (hdeep i) hsig⟩
      · obtain ⟨i, hi, rfl⟩ := List.getElem_of_mem hit
        obtain ⟨a, ha, hent, hwa⟩ := hel i hi
        refine ⟨a, ?_, conf_of_wc_fields strict sub a (E i) hwa (hown i sub hent) (hdeep i) hsig⟩
        rw [← ha]
        simp [List.getD_eq_getElem?_getD, hi]
theorem conf_of_wc_fields (strict : Bool) (fields : List Fld) (a : Attrs) (evs : List Ev)
    (hw : WCFields strict fields a evs) (hown : freqOkAt evs [] (specOf fields) = true) (hdeep : freqDeep evs = true)
    (hsig : SigOccFields fields) : ConfFields fields a := by
  match fields, hw, hown, hsig with
  | [], _, _, _ => trivial
  | (k, occ, ty) :: fs, hw, hown, hsig =>
    simp only [WCFields] at hw
    simp only [SigOccFields] at hsig
    simp only [ConfFields]
    refine ⟨conf_of_wc_ty strict ty occ _ _ _ hw.1 (freqOkAt_iff.mp hown (k, occ, ty) List.mem_cons_self) hsig.1 hsig.2.1
      (fun i => freqDeep_child evs (k, i) hdeep) (fun i sub he => freqDeep_entry (freqDeep_child evs (k, i) hdeep) he), ?_⟩
    have hown' : freqOkAt evs [] (specOf fs) = true :=
      freqOkAt_iff.mpr fun f hf => freqOkAt_iff.mp hown f (List.mem_cons_of_mem _ hf)
    exact conf_of_wc_fields strict fs a evs hw.2 hown' hdeep hsig.2.2
end

/-- (⇒) in the decoder's own vocabulary: for every flat signature with well-formed names in which a member that is
    not a list has `max_occurs ≤ 1`, in both array modes, whatever document arrives, what soft validation lets
    through satisfies every declared constraint -/
theorem decode_soft_conf (F : Facts03) (L : LeafLaws F.leaf) (hF : F.freqScope = .perMember) (hT : F.freqTouch = true)
    (strict : Bool) (delim : Text) (fields : List Fld) (hn : NamesOk fields) (hw : WfFields fields)
    (hsig : SigOccFields fields) (doc : Doc) (node : Node)
    (h : decode F ⟨strict, true, delim⟩ fields doc = .ok node) :
    ∃ attrs, node = .obj (eraseAttrs attrs) ∧ ConfFields fields attrs := by
  unfold decode at h
  split at h
  · cases h
  · obtain ⟨r, hr, h2⟩ := obind_eq_ok.mp h
    simp only [Bool.true_and] at h2
    split at h2
    · cases h2
    · rename_i hfreq
      cases h2
      have hfr : freqOk fields r.2 = true := by simpa using hfreq
      rw [freqOk_eq, Bool.and_eq_true] at hfr
      exact ⟨r.1, rfl, conf_of_wc_fields strict fields r.1 r.2
        (foldO_stepKey_wc F L hF hT strict delim fields hn hw _ _ r (WCFields_fresh strict fields) hr) hfr.1 hfr.2 hsig⟩

end SpyneModel.Flat
