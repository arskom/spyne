/-
  C14: the specification automaton accepts finitely many traces, and every one
  of them satisfies the sentences of the property.
-/
import SpyneModel.EventsSpec
namespace SpyneModel.Events

theorem runFrom_reject (t : List Sym) : runFrom .reject t = .reject := by
  induction t with
  | nil => rfl
  | cons s t ih => simpa [runFrom, Q.step] using ih

theorem runFrom_cons (q : Q) (s : Sym) (t : List Sym) : runFrom q (s :: t) = runFrom (q.step s) t := rfl

theorem mem_allSym (s : Sym) : s ∈ allSym := by
  cases s with
  | user => exact List.mem_cons_self
  | ev e => exact List.mem_cons_of_mem _ (List.mem_map_of_mem (by cases e <;> decide))

theorem rank_step (q : Q) (s : Sym) : q.step s ≠ .reject → (q.step s).rank < q.rank := by
  unfold Q.step
  split <;> intro h <;> first | exact absurd rfl h | exact Nat.le_of_ble_eq_true rfl

theorem len_le_rank (t : List Sym) (q : Q) (h : (runFrom q t).isDone = true) : t.length ≤ q.rank := by
  induction t generalizing q with
  | nil => simp
  | cons s t ih =>
    rw [runFrom_cons] at h
    have hne : q.step s ≠ .reject := by
      intro c; rw [c, runFrom_reject] at h; simp [Q.isDone] at h
    have := ih _ h
    have := rank_step q s hne
    simp only [List.length_cons]; omega

theorem mem_lang (n : Nat) (q : Q) (t : List Sym) (hl : t.length ≤ n) (h : (runFrom q t).isDone = true) :
    (t, runFrom q t) ∈ lang n q := by
  induction n generalizing q t with
  | zero =>
    have : t = [] := List.eq_nil_of_length_eq_zero (by omega)
    subst this
    simp only [runFrom, List.foldl_nil] at h ⊢
    simp [lang, h]
  | succ n ih =>
    cases t with
    | nil =>
      simp only [runFrom, List.foldl_nil] at h ⊢
      simp [lang, h]
    | cons s t =>
      rw [runFrom_cons] at h ⊢
      have hne : q.step s ≠ .reject := by
        intro c; rw [c, runFrom_reject] at h; simp [Q.isDone] at h
      have := ih (q.step s) t (by simpa using hl) h
      simp only [lang, List.mem_append, List.mem_flatMap]
      refine Or.inr ⟨s, mem_allSym s, ?_⟩
      simp only [hne, if_false, List.mem_map]
      exact ⟨_, this, rfl⟩

theorem accepted_mem (t : List Sym) (h : (final t).isDone = true) : (t, final t) ∈ lang 9 .start :=
  mem_lang 9 .start t (len_le_rank t .start h) h

/-- the seven accepted traces, with the state each ends in -/
theorem lang_start : lang 9 .start =
    [([.ev .created, .ev .call, .user, .ev .returnObject, .ev .exceptionObject, .ev .exceptionDocument,
       .ev .exceptionString, .ev .closed], .done true true true),
     ([.ev .created, .ev .call, .user, .ev .returnObject, .ev .returnDocument, .ev .returnString, .ev .closed],
       .done true true false),
     ([.ev .created, .ev .call, .user, .ev .exceptionObject, .ev .exceptionDocument, .ev .exceptionString,
       .ev .closed], .done true false true),
     ([.ev .created, .ev .call, .user, .ev .redirect, .ev .returnDocument, .ev .returnString, .ev .closed],
       .done true false false),
     ([.ev .created, .ev .call, .user, .ev .redirectException, .ev .exceptionDocument, .ev .exceptionString,
       .ev .closed], .done true false true),
     ([.ev .created, .ev .call, .ev .exceptionObject, .ev .exceptionDocument, .ev .exceptionString, .ev .closed],
       .done false false true),
     ([.ev .created, .ev .exceptionObject, .ev .exceptionDocument, .ev .exceptionString, .ev .closed],
       .done false false true)] := by
  decide +kernel

theorem lang_clauses : (lang 9 .start).all (fun p =>
    match p.2 with
    | .done u r f => clauses p.1 u r f
    | _ => true) = true := by
  rw [lang_start]
  decide +kernel

end SpyneModel.Events
