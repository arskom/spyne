/-
  C06 lemmas: on a well-formed universe the reference validator, run on the GENERATED
  schema, computes exactly validity against the type the class denotes (`validElem_gen_pos`).
-/
import Proofs.SchemaLists
namespace SpyneModel
namespace Schema
open Xml

mutual
  /-- `chainOk` compares the member lists of parent and child with `fieldsBeq`: the proofs want the equation -/
  theorem Ty.beq_eq : ∀ (a b : Ty), Ty.beq a b = true → a = b
    | .prim p o, .prim p' o', h => by
      simp only [Ty.beq, Bool.and_eq_true, decide_eq_true_eq] at h
      rw [h.1, h.2]
    | .obj n ns b fs o, .obj n' ns' b' fs' o', h => by
      simp only [Ty.beq, Bool.and_eq_true, decide_eq_true_eq] at h
      obtain ⟨⟨⟨⟨h1, h2⟩, h3⟩, h4⟩, h5⟩ := h
      rw [h1, h2, h3, h5, fieldsBeq_eq fs fs' h4]
    | .arr m e o, .arr m' e' o', h => by
      simp only [Ty.beq, Bool.and_eq_true, decide_eq_true_eq] at h
      obtain ⟨⟨h1, h2⟩, h3⟩ := h
      rw [h1, h3, Ty.beq_eq e e' h2]
    | .prim _ _, .obj _ _ _ _ _, h => by cases h
    | .prim _ _, .arr _ _ _, h => by cases h
    | .obj _ _ _ _ _, .prim _ _, h => by cases h
    | .obj _ _ _ _ _, .arr _ _ _, h => by cases h
    | .arr _ _ _, .prim _ _, h => by cases h
    | .arr _ _ _, .obj _ _ _ _ _, h => by cases h

  theorem fieldsBeq_eq : ∀ (a b : List (Text × Ty)), fieldsBeq a b = true → a = b
    | [], [], _ => rfl
    | (k, t) :: fs, (k', t') :: fs', h => by
      simp only [fieldsBeq, Bool.and_eq_true, decide_eq_true_eq] at h
      obtain ⟨⟨h1, h2⟩, h3⟩ := h
      rw [h1, Ty.beq_eq t t' h2, fieldsBeq_eq fs fs' h3]
    | [], _ :: _, h => by cases h
    | _ :: _, [], h => by cases h
end


mutual
  theorem nested_closed : ∀ (t : Ty) (D : ClassDef), D ∈ nested t → ∀ D' ∈ nestedFields D.fields, D' ∈ nested t
    | .prim _ _, D, h => by simp [nested] at h
    | .obj n ns b fs o, D, h => by
      intro D' hD'
      simp only [nested, List.mem_cons] at h ⊢
      rcases h with e | e
      · subst e; exact Or.inr hD'
      · exact Or.inr (nestedFields_closed fs D e D' hD')
    | .arr m e o, D, h => by
      intro D' hD'
      simp only [nested] at h ⊢
      exact nested_closed e D h D' hD'

  theorem nestedFields_closed : ∀ (fs : List (Text × Ty)) (D : ClassDef), D ∈ nestedFields fs →
      ∀ D' ∈ nestedFields D.fields, D' ∈ nestedFields fs
    | [], D, h => by simp [nestedFields] at h
    | (k, t) :: r, D, h => by
      intro D' hD'
      simp only [nestedFields, List.mem_append] at h ⊢
      rcases h with e | e
      · exact Or.inl (nested_closed t D e D' hD')
      · exact Or.inr (nestedFields_closed r D e D' hD')
end

theorem nested_sub_nestedFields (fs : List (Text × Ty)) (k : Text) (t : Ty) (h : (k, t) ∈ fs) :
    ∀ D ∈ nested t, D ∈ nestedFields fs := by
  induction fs with
  | nil => cases h
  | cons g r ih =>
    obtain ⟨k', t'⟩ := g
    intro D hD
    simp only [nestedFields, List.mem_append]
    rcases List.mem_cons.mp h with e | e
    · injection e with e1 e2; subst e2; exact Or.inl hD
    · exact Or.inr (ih e D hD)

theorem allClasses_closed (A : App) (D : ClassDef) (h : D ∈ A.allClasses) :
    ∀ D' ∈ nestedFields D.fields, D' ∈ A.allClasses := by
  intro D' hD'
  unfold App.allClasses at h ⊢
  rcases List.mem_append.mp h with e | e
  · exact List.mem_append.mpr (Or.inr (List.mem_flatMap.mpr ⟨D, e, hD'⟩))
  · obtain ⟨C, hC, hDC⟩ := List.mem_flatMap.mp e
    exact List.mem_append.mpr (Or.inr (List.mem_flatMap.mpr ⟨C, hC, nestedFields_closed C.fields D hDC D' hD'⟩))

/-- `__extends__`: the parent is the registered class the base names -/
theorem parentOf_eq_some {I : Iface} {D P : ClassDef} :
    parentOf I D = some P ↔ ∃ b, D.base = some b ∧ I.classes.find? b = some P := by
  unfold parentOf
  cases D.base with
  | none => exact ⟨fun h => (nomatch h), fun ⟨_, h, _⟩ => (nomatch h)⟩
  | some b => exact ⟨fun h => ⟨b, rfl, h⟩, fun ⟨_, hb, h⟩ => Option.some.inj hb ▸ h⟩

theorem parent_mem (A : App) (D P : ClassDef) (h : parentOf A.iface D = some P) : P ∈ A.allClasses := by
  obtain ⟨b, _, hf⟩ := parentOf_eq_some.mp h
  exact List.mem_append.mpr (Or.inl (Registry.find?_some hf).1)

theorem ownFields_sub (I : Iface) (D : ClassDef) : ∀ f ∈ ownFields I D, f ∈ D.fields := by
  intro f hf
  unfold ownFields at hf
  split at hf
  · exact List.mem_of_mem_drop hf
  · exact hf

theorem nested_field_mem (A : App) (D : ClassDef) (hD : D ∈ A.allClasses) (f : Text × Ty) (hf : f ∈ ownFields A.iface D) :
    ∀ D' ∈ nested f.2, D' ∈ A.allClasses :=
  fun D' hD' => allClasses_closed A D hD D' (nested_sub_nestedFields D.fields f.1 f.2 (ownFields_sub _ _ f hf) D' hD')

theorem nested_toTy_mem (A : App) (C : ClassDef) (hC : C ∈ A.allClasses) : ∀ D ∈ nested (ClassDef.toTy C), D ∈ A.allClasses := by
  intro D hD
  rcases List.mem_cons.mp (by simpa only [ClassDef.toTy, nested] using hD) with e | e
  · subst e; exact hC
  · exact allClasses_closed A C hC D e

/-! ### the content model of a class in the generated schema

The base chain of a class is walked once, into the list of its flattened members, each with the class
that declares it; the particles of the generated complexType, the namespaces `denoteG` uses and the
registry's member list are three images of that list. -/

theorem declFields_mem (A : App) : ∀ (f : Nat) (D : ClassDef), D ∈ A.allClasses →
    ∀ x ∈ declFields A f D, x.1 ∈ A.allClasses ∧ x.2 ∈ ownFields A.iface x.1
  | 0, _, _, _, hx => nomatch hx
  | f + 1, D, hD, x, hx => by
    rcases List.mem_append.mp hx with h | h
    · cases hp : parentOf A.iface D with
      | none => rw [hp] at h; cases h
      | some P => rw [hp] at h; exact declFields_mem A f P (parent_mem A D P hp) x h
    · obtain ⟨fl, hfl, rfl⟩ := List.mem_map.mp h
      exact ⟨hD, hfl⟩

theorem effParticles_gen (A : App)
    (hres : ∀ D ∈ A.allClasses, (gen A).complex.lookup (D.ns, D.name) = some (classComplex A D).2) :
    ∀ (f : Nat) (D : ClassDef), D ∈ A.allClasses →
      effParticles (gen A).complex f (D.ns, D.name) = (declFields A f D).map (fun x => (x.1.ns, particleOf A x.1 x.2))
  | 0, _, _ => rfl
  | f + 1, D, hD => by
    simp only [effParticles, declFields, hres D hD, classComplex, List.map_append, List.map_map, Function.comp_def]
    cases hp : parentOf A.iface D with
    | none => rfl
    | some P => simp only [Option.map_some, effParticles_gen A hres f P (parent_mem A D P hp)]

theorem fieldNs_eq (A : App) : ∀ (f : Nat) (D : ClassDef), fieldNs A f D = (declFields A f D).map (·.1.ns)
  | 0, _ => rfl
  | f + 1, D => by
    simp only [declFields, fieldNs, List.map_append, List.map_map, Function.comp_def]
    cases parentOf A.iface D with
    | none => rfl
    | some P => simp only [fieldNs_eq A f P]

theorem chainOk_parent (I : Iface) (f : Nat) (D P : ClassDef) (hp : parentOf I D = some P)
    (hc : chainOk I (f + 1) D = true) : P.fields = D.fields.take P.fields.length ∧ chainOk I f P = true := by
  obtain ⟨b, hb, hf⟩ := parentOf_eq_some.mp hp
  simp only [chainOk, hb, hf, Bool.and_eq_true, decide_eq_true_eq] at hc
  exact ⟨fieldsBeq_eq _ _ hc.1.2, hc.2⟩

theorem declFields_snd (A : App) : ∀ (f : Nat) (D : ClassDef), chainOk A.iface f D = true →
    (declFields A f D).map (·.2) = D.fields := by
  intro f
  induction f with
  | zero => intro D h; simp [chainOk] at h
  | succ f ih =>
    intro D hc
    simp only [declFields, List.map_append, List.map_map, Function.comp_def, List.map_id']
    cases hp : parentOf A.iface D with
    | none => simp [ownFields, hp]
    | some P =>
      obtain ⟨hpre, hch⟩ := chainOk_parent A.iface f D P hp hc
      simp only [ownFields, hp, ih P hch]
      conv => rhs; rw [← List.take_append_drop P.fields.length D.fields]
      rw [← hpre]

theorem denoteFieldsG_map (A : App) : ∀ l : List (ClassDef × (Text × Ty)),
    denoteFieldsG A (l.map (·.1.ns)) (l.map (·.2)) =
      l.map (fun x => ((x.1.ns, x.2.1), x.2.2.occ, denoteG A x.1.ns x.2.2))
  | [] => rfl
  | (D, (k, t)) :: r => by simp only [List.map_cons, denoteFieldsG, denoteFieldsG_map A r]

/-- particles and denoted slots that are images of one list under maps that agree on the names: looking a
    child up gives images of the same member -/
theorem find_map {α} (l : List α) (g : α → Text × Particle) (h : α → Key × Occ × STy)
    (hk : ∀ x, (h x).1 = ((g x).1, (g x).2.name)) (ns name : Text) :
    ∃ o : Option α, (∀ x, o = some x → x ∈ l) ∧ findParticle (l.map g) ns name = o.map (fun x => (g x).2) ∧
      findS (l.map h) (ns, name) = o.map (fun x => (h x).2) := by
  refine ⟨l.find? (fun x => decide ((g x).1 = ns) && decide ((g x).2.name = name)),
    fun x hx => List.mem_of_find?_eq_some hx, ?_, ?_⟩
  · simp only [findParticle, List.find?_map, Option.map_map, Function.comp_def]
  · have : (fun x => decide ((h x).1 = (ns, name))) = fun x => decide ((g x).1 = ns) && decide ((g x).2.name = name) := by
      funext x; rw [hk x]; simp
    simp only [findS, List.find?_map, Option.map_map, Function.comp_def, this]


theorem class_mem_rawComplex (A : App) (D : ClassDef) (hD : D ∈ A.allClasses) :
    ((D.ns, D.name), (classComplex A D).2) ∈ rawComplex A :=
  mem_rawComplex.mpr ⟨D, hD, Or.inr rfl⟩

theorem noClash_unfold (A : App) (h : A.noClash = true) : NoClash A := by
  unfold App.noClash at h
  simp only [Bool.and_eq_true, List.all_eq_true, Option.isNone_iff_eq_none] at h
  exact ⟨h.1.1, h.1.2, h.2⟩

theorem complex_lookup (A : App) (h : NoClash A) (k : Key) (d : ComplexDef) (hm : (k, d) ∈ rawComplex A) :
    (gen A).complex.lookup k = some d ∧ (gen A).simple.lookup k = none := by
  refine ⟨(gen_complex_lookup A k).trans (lookup_functional _ h.fc k d hm), ?_⟩
  rw [gen_simple_lookup]
  apply lookup_eq_none.mpr
  intro e he hk
  have := h.disj e he
  rw [hk, lookup_functional _ h.fc k d hm] at this
  cases this

theorem simple_lookup (A : App) (h : NoClash A) (k : Key) (d : SimpleDef) (hm : (k, d) ∈ rawSimple A) :
    (gen A).simple.lookup k = some d :=
  (gen_simple_lookup A k).trans (lookup_functional _ h.fs k d hm)

theorem clampOpt_none (F6 : Facts06) (k : IntKind) : clampOpt F6 k none = none := rfl

theorem primFacets_default (F6 : Facts06) (p : PrimTy) (h1 : isEnum p = false) (h2 : primIsDefault p = true) :
    primFacets F6 p = [] := by
  cases p with
  | integer k r =>
    simp only [primIsDefault, Bool.and_eq_true, Option.isNone_iff_eq_none] at h2
    obtain ⟨⟨⟨a, b⟩, c⟩, d⟩ := h2
    show intFacets (writtenRange F6 k r) = []
    unfold writtenRange
    rw [a, b, c, d]
    simp only [clampOpt_none]
    split <;> rfl
  | unicode a b c d =>
    simp only [primIsDefault, Bool.and_eq_true, decide_eq_true_eq, Option.isNone_iff_eq_none, List.isEmpty_iff] at h2
    obtain ⟨⟨⟨h1', h2'⟩, h3⟩, h4⟩ := h2
    subst h1'; subst h2'; subst h3; subst h4
    rfl
  | enum names => simp [isEnum] at h1
  | _ => rfl

theorem primFacetsA_default (A : App) (p : PrimTy) (h1 : isEnum p = false) (h2 : isDefaultA A p = true) :
    primFacetsA A p = [] := by
  simp only [isDefaultA, Bool.and_eq_true, List.isEmpty_iff] at h2
  simp only [primFacetsA, App.enumLits, h2.2, List.filterMap_nil, List.map_nil, List.nil_append]
  exact primFacets_default A.facts p h1 h2.1

/-- the generated schema is closed at a type position whose definitions were collected: on a clash-free universe
    each of them is found under its key -/
theorem posOk_of_noClash (A : App) (h : NoClash A) (cns cname k : Text) :
    ∀ t : Ty, (∀ e ∈ (tyDefs A cns cname k t).simple, e ∈ rawSimple A) →
      (∀ e ∈ (tyDefs A cns cname k t).complex, e ∈ rawComplex A) →
      (∀ D ∈ nested t, D ∈ A.allClasses) → posOk A (gen A) cns cname k t = true
  | .prim p o, hs, _, _ => by
    simp only [posOk]
    by_cases hq : (isEnum p || !isDefaultA A p) = true
    · rw [if_pos hq]
      have hm : (itemKey A cns cname k (.prim p o), ({ base := builtinOf p, facets := primFacetsA A p } : SimpleDef)) ∈ rawSimple A := by
        apply hs
        simp [tyDefs, hq]
      rw [simple_lookup A h _ _ hm]
      simp
    · rw [if_neg hq]
      simp only [Bool.or_eq_true, Bool.not_eq_true', not_or, Bool.not_eq_true, Bool.not_eq_false] at hq
      rw [primFacetsA_default A p hq.1 hq.2]; rfl
  | .obj name ns b fields o, _, _, hn => by
    have hD : ({ name := name, ns := ns, base := b, fields := fields } : ClassDef) ∈ A.allClasses := hn _ (by simp [nested])
    have := complex_lookup A h _ _ (class_mem_rawComplex A _ hD)
    simp only [posOk, this.1, this.2]
    simp
  | .arr m e o, hs, hc, hn => by
    have hm : (itemKey A cns cname k (.arr m e o), ({ base := none, particles := [{ name := memberLocal m, type := refOf A cns cname k e, occ := e.occ }] } : ComplexDef)) ∈ rawComplex A := by
      apply hc
      simp [tyDefs, Defs.append]
    have := complex_lookup A h _ _ hm
    have hsub : (∀ x ∈ (tyDefs A cns cname k e).simple, x ∈ (tyDefs A cns cname k (.arr m e o)).simple) ∧
        (∀ x ∈ (tyDefs A cns cname k e).complex, x ∈ (tyDefs A cns cname k (.arr m e o)).complex) := by
      simp only [tyDefs, Defs.append, List.mem_append]
      exact ⟨fun x hx => Or.inl hx, fun x hx => Or.inl hx⟩
    have hrec := posOk_of_noClash A h cns cname k e (fun x hx => hs x (hsub.1 x hx)) (fun x hx => hc x (hsub.2 x hx))
      (fun D hD => hn D (by simpa [nested] using hD))
    simp only [posOk, this.1, this.2, hrec]
    simp


theorem closed_of_wf (A : App) (h : A.wf = true) : Closed A := by
  unfold App.wf at h
  simp only [Bool.and_eq_true] at h
  obtain ⟨⟨hb, hnc⟩, hv⟩ := h
  have hN := noClash_unfold A hnc
  unfold App.wfBase at hb
  simp only [List.all_eq_true, Bool.and_eq_true] at hb
  exact
    { cplx := fun D hD => (complex_lookup A hN _ _ (class_mem_rawComplex A D hD)).1
      simp := fun D hD => (complex_lookup A hN _ _ (class_mem_rawComplex A D hD)).2
      pos := fun D hD f hf =>
        posOk_of_noClash A hN D.ns D.name f.1 f.2 (fun _ he => mem_rawSimple.mpr ⟨D, hD, f, hf, he⟩)
          (fun _ he => mem_rawComplex.mpr ⟨D, hD, Or.inl ⟨f, hf, he⟩⟩) (nested_field_mem A D hD f hf)
      chain := fun D hD => (hb D hD).1.1.1
      nodup := fun D hD => (hb D hD).1.1.2
      fwf := fun D hD => (hb D hD).1.2
      arrNs := fun D hD => (hb D hD).2
      noClash := hN
      valuesWf := hv }

theorem nodeKey_eq (c : Node) : nodeKey c = (c.ns, c.name) := by cases c; rfl

/-- children are validated alike against particles and denoted slots that are images of one member list,
    when each member's particle type validates like its denoted type -/
theorem validChildren_map {α} (S : Schema) (l : List α) (g : α → Text × Particle) (h : α → Key × Occ × STy)
    (hk : ∀ x, (h x).1 = ((g x).1, (g x).2.name)) (cs : List Node)
    (hv : ∀ c ∈ cs, ∀ x ∈ l, validElem S (g x).2.type (g x).2.occ.nillable c = validS (h x).2.2 (h x).2.1.nillable c) :
    validChildren S (l.map g) cs = validChildrenS (l.map h) cs := by
  rw [validChildren_all, validChildrenS_all]
  refine all_congr_mem (fun c hc => ?_)
  obtain ⟨o, hmem, h1, h2⟩ := find_map l g h hk c.ns c.name
  rw [childOkS, nodeKey_eq, h1, h2]
  cases o with
  | none => rfl
  | some x => exact hv c hc x (hmem x rfl)

theorem denoteFields_isEmpty (F6 : PrimTy → List Facet) (tns ns : Text) (fs : List (Text × Ty)) :
    (denoteFields F6 tns ns fs).isEmpty = fs.isEmpty := by
  cases fs with
  | nil => rfl
  | cons f r => obtain ⟨k, t⟩ := f; rfl

theorem validElem_simple (S : Schema) (t : TypeRef) (nillable : Bool) (b : Builtin) (fs : List Facet)
    (h : S.resolve t = some (.simple b fs)) : ∀ x : Node, validElem S t nillable x = validS (.simple b fs) nillable x
  | .elem ns name attrs text children => by
    simp only [validElem, validS, h]
    rcases nilAttr attrs with _ | _ | _ | _ <;> rfl

theorem validElem_complex (S : Schema) (t : TypeRef) (nillable : Bool) (ns name : Text) (attrs : List (Text × Text))
    (text : Option Text) (children : List Node) (ps : List (Text × Particle)) (qs : List (Key × Occ × STy))
    (h : S.resolve t = some (.complex ps)) (h1 : ps.isEmpty = qs.isEmpty) (h2 : slots ps = slotsS qs)
    (h3 : validChildren S ps children = validChildrenS qs children) :
    validElem S t nillable (.elem ns name attrs text children) =
      validS (.complex qs) nillable (.elem ns name attrs text children) := by
  simp only [validElem, validS, h, h1, h2, h3]
  rcases nilAttr attrs with _ | _ | _ | _ <;> rfl

theorem refOf_prim (A : App) (cns cname k : Text) (p : PrimTy) (o : Occ) :
    refOf A cns cname k (.prim p o) =
      if (isEnum p || !isDefaultA A p) = true then .named (itemKey A cns cname k (.prim p o)) else .builtin (builtinOf p) := by
  simp only [refOf]
  cases isEnum p <;> cases isDefaultA A p <;> rfl

/-- the schema side of C06 (`generated_schema_denotes`): the reference validator on the generated schema and validity for
    the denoted type agree at every type position of a well-formed universe, by induction on the element -/
theorem validElem_gen_pos (A : App) (hc : Closed A) : ∀ x : Node, GenAgrees A x := by
  intro x
  induction x using Node.rec (motive_2 := fun cs => ∀ c ∈ cs, GenAgrees A c) with
  | nil => rename_i c hm; cases hm
  | cons head tail ih1 ih2 => rename_i c hm; exact List.forall_mem_cons.mpr ⟨ih1, ih2⟩ c hm
  | elem ns name attrs text children ih =>
    intro cns cname k t nillable hpos hnest
    have hb := gen_chainBound A
    cases t with
    | prim p o =>
      simp only [posOk] at hpos
      rw [refOf_prim]
      simp only [denoteG]
      by_cases hq : (isEnum p || !isDefaultA A p) = true
      · rw [if_pos hq] at hpos ⊢
        exact validElem_simple _ _ _ _ _ (by simp only [Schema.resolve, beq_iff_eq.mp hpos]) _
      · rw [if_neg hq] at hpos ⊢
        rw [beq_iff_eq.mp hpos]
        exact validElem_simple _ _ _ _ _ rfl _
    | obj cn ons b fields o =>
      simp only [posOk, Bool.and_eq_true, Option.isNone_iff_eq_none, beq_iff_eq] at hpos
      have hD : ({ name := cn, ns := ons, base := b, fields := fields } : ClassDef) ∈ A.allClasses :=
        hnest _ (by simp [nested])
      have hres : (gen A).resolve (.named (ons, cn)) =
          some (.complex ((declFields A (A.iface.classes.length + 1) ⟨cn, ons, b, fields⟩).map
            (fun x => (x.1.ns, particleOf A x.1 x.2)))) := by
        rw [← effParticles_gen A hc.cplx _ _ hD]
        simp only [Schema.resolve, Schema.hasComplex, hpos.1, hpos.2, hb, Option.isSome_some, if_true]
      have hden := denoteFieldsG_map A (declFields A (A.iface.classes.length + 1) ⟨cn, ons, b, fields⟩)
      rw [← fieldNs_eq, declFields_snd A _ _ (hc.chain _ hD)] at hden
      simp only [denoteG]
      rw [hden]
      refine validElem_complex _ _ _ _ _ _ _ _ _ _ hres (by simp only [List.isEmpty_map])
        (by simp only [slots, slotsS, List.map_map]; rfl) ?_
      apply validChildren_map _ _ _ _ (fun _ => rfl)
      intro c hcm x hx
      obtain ⟨hD', hown⟩ := declFields_mem A _ _ hD x hx
      exact ih c hcm x.1.ns x.1.name x.2.1 x.2.2 _ (hc.pos _ hD' _ hown) (nested_field_mem A _ hD' _ hown)
    | arr m e o =>
      simp only [posOk, Bool.and_eq_true, Option.isNone_iff_eq_none, beq_iff_eq] at hpos
      obtain ⟨⟨hs1, hs2⟩, hs3⟩ := hpos
      have hres : (gen A).resolve (.named (itemKey A cns cname k (.arr m e o))) = some (.complex
          ([()].map (fun _ => (memberNs A.tns cns m e, ({ name := memberLocal m, type := refOf A cns cname k e, occ := e.occ } : Particle))))) := by
        simp only [Schema.resolve, Schema.hasComplex, hs1, hs2, hb, Option.isSome_some, if_true, effParticles, List.nil_append,
          List.map_cons, List.map_nil]
        rfl
      refine validElem_complex _ _ _ _ _ _ _ _ _
        ([()].map (fun _ => ((memberNs A.tns cns m e, memberLocal m), e.occ, denoteG A cns e))) hres rfl rfl ?_
      apply validChildren_map _ _ _ _ (fun _ => rfl)
      intro c hcm _ _
      exact ih c hcm cns cname k e e.occ.nillable hs3 (fun D hD => hnest D (by simpa [nested] using hD))

end Schema
end SpyneModel
