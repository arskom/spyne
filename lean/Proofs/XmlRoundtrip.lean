/-
  C01 (and the XML part of C16): the decoder reads back what the encoder wrote, for every type,
  every conformant value (instances of registered subclasses included when the protocol is
  polymorphic) and every validator setting.
-/
import Proofs.XmlRules
import Proofs.XmlBasic
import Proofs.XmlLeafRt
import Proofs.XmlBridge
namespace SpyneModel
namespace Xml


theorem toParent_single {F : Facts08} (L : LeafLaws F) (cfg : Cfg) (I : Iface) (ns name : Text) (t : Ty) (v : Val)
    {poly strict : Bool} (hok : okOneX I poly strict t v = true) (hfit : fitsV F v = true) :
    ∃ e, toParent F cfg I ns name t v = [e] := by
  cases v with
  | none => exact ⟨_, rfl⟩
  | obj cls vs =>
    cases t with
    | obj cname cns cb fields o =>
      simp only [toParent]
      split <;> exact ⟨_, rfl⟩
    | _ => simp [okOneX] at hok
  | list vs =>
    cases t with
    | arr member elem o => exact ⟨_, rfl⟩
    | _ => simp [okOneX] at hok
  | _ =>
    rw [okOneX_leaf rfl (by simp)] at hok
    rw [toParent_leaf rfl (by simp)]
    cases t with
    | prim p o =>
      simp only [leafOk, Bool.and_eq_true] at hok
      obtain ⟨s, hto, _⟩ := L.roundtrip p _ hok.1 (leafFits_of_fitsV F p _ hfit)
      exact ⟨.elem ns name [] (mkText s) [], by simp only [hto]⟩
    | _ => cases hok

theorem itemsToParent_length {F : Facts08} (L : LeafLaws F) (cfg : Cfg) (I : Iface) (ns name : Text) (t : Ty)
    {poly strict : Bool} (vs : List Val) (hok : okItemsX I poly strict t vs = true) (hfit : fitsItemsV F vs = true) :
    (itemsToParent F cfg I ns name t vs).length = vs.length := by
  induction vs with
  | nil => simp [itemsToParent]
  | cons v vs ih =>
    simp only [okItemsX, Bool.and_eq_true] at hok
    simp only [fitsItemsV, Bool.and_eq_true] at hfit
    obtain ⟨e, he⟩ := toParent_single L cfg I ns name t v hok.1 hfit.1
    simp [itemsToParent, he, ih hok.2 hfit.2]

theorem tyWf_occ {t : Ty} (h : tyWf t = true) : occWf t.occ = true := by
  cases t <;> (simp only [tyWf, Bool.and_eq_true] at h; exact h.2)

theorem nonrep_occ {o : Occ} (hr : o.repeated = false) (hw : occWf o = true) :
    o.maxOccurs = some 1 ∧ o.minOccurs ≤ 1 :=
  Occ.Wf.single (by unfold occWf at hw; unfold Occ.Wf; cases h : o.maxOccurs <;> simp_all) hr

theorem memberNodes_count {F : Facts08} (L : LeafLaws F) (cfg : Cfg) (I : Iface) (cns k : Text) (t : Ty) (v : Val)
    {poly strict : Bool} (hw : occWf t.occ = true) (hok : fieldOk I poly strict t v = true)
    (hfit : fitsV F v = true) : t.occ.countOk (memberNodes F cfg I cns k t v).length = true := by
  by_cases hr : t.occ.repeated = true
  · rcases fieldOk_rep hr hok with ⟨hv, hmin⟩ | ⟨items, hv, hcnt, hitems⟩
    · subst hv
      simp [memberNodes, hmin, Occ.countOk]
      cases t.occ.maxOccurs <;> simp
    · subst hv
      simp only [memberNodes, hr, if_true]
      rw [itemsToParent_length L cfg I cns k t items hitems hfit]
      exact hcnt
  · have hr' : t.occ.repeated = false := by simpa using hr
    obtain ⟨hmax, hmin⟩ := nonrep_occ hr' hw
    cases v with
    | none =>
      simp only [memberNodes]
      split
      · simp [Occ.countOk, hmax, hmin]
      · rename_i h
        have : t.occ.minOccurs = 0 := by omega
        simp [Occ.countOk, hmax, this]
    | _ =>
      rw [memberNodes_nonrep F cfg I cns k t _ hr' (by simp)]
      simp only [fieldOk] at hok
      rw [okX_nonrep hr'] at hok
      obtain ⟨e, he⟩ := toParent_single L cfg I cns k t _ hok hfit
      simp [he, Occ.countOk, hmax, hmin]


theorem members_names (F : Facts08) (cfg : Cfg) (I : Iface) (cns : Text) :
    (fs : List (Text × Ty)) → (vs : List (Text × Val)) →
    ∀ e ∈ membersToParent F cfg I cns fs vs, e.name ∈ fieldNames fs
  | [], vs => by intro e he; simp [membersToParent] at he
  | (k, t) :: fs, [] => by intro e he; simp [membersToParent] at he
  | (k, t) :: fs, (k', v) :: vs => by
    intro e he
    by_cases hk : k = k'
    · subst hk
      rw [membersToParent_cons, List.mem_append] at he
      rcases he with he | he
      · have := (memberNodes_nodeOk F cfg I cns k t v e he).1
        simp [fieldNames, this]
      · have := members_names F cfg I cns fs vs e he
        simp only [fieldNames, List.map, List.mem_cons]; right; exact this
    · rw [membersToParent_skip F cfg I cns t v fs vs hk] at he
      have := members_names F cfg I cns fs vs e he
      simp only [fieldNames, List.map, List.mem_cons]; right; exact this

/-- the occurrence check passes on the encoder's own output: every element written carries the name of a member
    (`members_names`), those named `k` are exactly `memberNodes … k` (`countP_name_mid`, names being distinct), and
    there are as many of them as a conformant value allows (`memberNodes_count`) -/
theorem freq_members {F : Facts08} (L : LeafLaws F) (cfg : Cfg) (I : Iface) (cns : Text) {poly strict : Bool} :
    (fs : List (Text × Ty)) → (vs : List (Text × Val)) → namesNodup fs = true → wfFields fs = true →
    okFieldsX I poly strict fs vs = true → fitsFieldsV F vs = true →
    ∀ pre : List Node, (∀ e ∈ pre, e.name ∉ fieldNames fs) →
      fs.all (fun f => f.2.occ.countOk
        ((pre ++ membersToParent F cfg I cns fs vs).countP (fun c => c.name = f.1))) = true
  | [], _, _, _, _, _ => by intro pre _; rfl
  | (k, t) :: fs, [], _, _, hok, _ => by simp [okFieldsX] at hok
  | (k, t) :: fs, (k', v) :: vs, hnd, hwf, hok, hfit => by
    intro pre hpre
    rw [okFieldsX_cons] at hok
    simp only [Bool.and_eq_true, decide_eq_true_eq] at hok
    obtain ⟨⟨hk, hf⟩, hrest⟩ := hok
    subst hk
    obtain ⟨hknot, hnd'⟩ := namesNodup_cons hnd
    simp only [wfFields, Bool.and_eq_true] at hwf
    simp only [fitsFieldsV, Bool.and_eq_true] at hfit
    have hocc : occWf t.occ = true := tyWf_occ hwf.1
    rw [membersToParent_cons]
    simp only [List.all_cons, Bool.and_eq_true]
    constructor
    ·
      rw [countP_name_mid pre _ _ k
        (fun e he hek => hpre e he (by rw [hek]; exact List.mem_cons_self))
        (fun e he => (memberNodes_nodeOk F cfg I cns k t v e he).1)
        (fun e he hek => hknot (hek ▸ members_names F cfg I cns fs vs e he))]
      exact memberNodes_count L cfg I cns k t v hocc hf hfit.1
    ·
      have := freq_members L cfg I cns fs vs hnd' hwf.2 hrest hfit.2 (pre ++ memberNodes F cfg I cns k t v) (by
        intro e he
        rw [List.mem_append] at he
        rcases he with he | he
        · have := hpre e he
          simp only [fieldNames, List.map, List.mem_cons, not_or] at this
          exact this.2
        · rw [(memberNodes_nodeOk F cfg I cns k t v e he).1]
          exact hknot)
      simpa [List.append_assoc] using this


theorem childLoop_step (F : Facts08) (X : FactsXml) (cfg : Cfg) (I : Iface) (allFields : List (Text × Ty))
    (e : Node) (rest : List Node) (st : List (Text × Val)) (t : Ty) (w : Val)
    (hp : allFields.all (fun f => plainName f.1) = true) (hk : lookupField allFields e.name = some t)
    (ha : ∀ a ∈ e.attrs, plainName a.1 = false) (hd : fromElement F X cfg I t e = .ok w) :
    childLoop F X cfg I allFields (e :: rest) st =
      childLoop F X cfg I allFields rest (if t.occ.repeated then stAppend st e.name w else stSet st e.name w) := by
  rw [childLoop]
  simp only [hk, hd, childAttrCrash_of_plain X allFields e.attrs hp ha]
  simp

/-- `accStep` iterated: what a slot that held `acc` holds after the values `ws` were appended one by one
    (`accApp_step`) -/
def accApp (acc : Val) (ws : List Val) : Val :=
  match ws with
  | [] => acc
  | w :: ws' =>
    match acc with
    | .list l => .list (l ++ w :: ws')
    | _ => .list (w :: ws')

theorem accApp_step (acc w : Val) (ws : List Val) : accApp (accStep acc w) ws = accApp acc (w :: ws) := by
  cases acc <;> cases ws <;> simp [accApp, accStep]

theorem stAppend_at (done : List (Text × Val)) (k : Text) (acc w : Val) (tail : List (Text × Val))
    (hk : k ∉ keys done) :
    stAppend (done ++ (k, acc) :: tail) k w = done ++ (k, accStep acc w) :: tail := by
  unfold stAppend
  rw [stGet_at done k acc tail hk]
  cases acc <;> simp [accStep, stSet_at done k _ _ tail hk]


/-- what the round trip needs from the environment -/
structure RtCtx (F : Facts08) (X : FactsXml) (cfg : Cfg) (I : Iface) : Prop where
  L : LeafLaws F
  /-- under soft validation `unicode_from_element` validates `''` for an empty element -/
  hE : cfg.soft = true → X.emptyStringText = true
  /-- `xsi:nil="true"` is read as nil (holds for both measured nil rules) -/
  hN : isNil X [(xsiNilKey, "true".toList)] = true
  hP : cfg.parseXsiType = true
  hI : ifaceWf I = true

theorem isNil_xsiType (X : FactsXml) (v : Text) : isNil X [(xsiTypeKey, v)] = false := by
  rw [isNil_skip X xsiType_ne_nil, isNil_nil]

theorem nil_rt {F : Facts08} {X : FactsXml} {cfg : Cfg} {I : Iface} (C : RtCtx F X cfg I) (ns name : Text) (t : Ty)
    (hn : t.occ.nillable = true) : fromElement F X cfg I t (nilElem ns name) = .ok .none := by
  rw [nilElem, fromElement_nil C.hN]
  simp [hn]

theorem normX_nonrep (I : Iface) (t : Ty) (v : Val) (hr : t.occ.repeated = false) :
    normX I t v = normOneX I t v := by
  rw [normX_def, hr]
  rfl

/-- a leaf value: `modelbase_to_parent` & co. followed by the leaf handler -/
theorem leaf_one_rt {F : Facts08} {X : FactsXml} {cfg : Cfg} {I : Iface} (C : RtCtx F X cfg I)
    (ns name : Text) (t : Ty) (ht : tyWf t = true) (v : Val) (hl : v.isLeaf = true) (hn : v ≠ .none)
    (hok : okOneX I cfg.polymorphic cfg.soft t v = true) (hfit : fitsV F v = true) :
    ∃ e, toParent F cfg I ns name t v = [e] ∧ fromElement F X cfg I t e = .ok (normOneX I t v) := by
  rw [okOneX_leaf hl hn] at hok
  cases t with
  | prim p o =>
    simp only [tyWf, Bool.and_eq_true] at ht
    obtain ⟨s, hto, hfrom⟩ := leaf_rt C.L cfg C.hE I p o v ht.1 hok hfit
    refine ⟨.elem ns name [] (mkText s) [], by rw [toParent_leaf hl hn]; simp only [hto], ?_⟩
    rw [fromElement]
    simp only [isNil_nil, C.hP, List.lookup, if_true]
    exact hfrom
  | _ => cases hok

/-- one round of the member loop: the child loop consumes what `_get_members_etree` wrote for the member `k` holding
    `v` and leaves the normalised value in its slot. `hone`: a present single occurrence is read back; `hrep`: the items
    of a repeated member are appended one by one. -/
theorem member_step {F : Facts08} {X : FactsXml} {cfg : Cfg} {I : Iface} (C : RtCtx F X cfg I)
    (allFields : List (Text × Ty)) (cns k : Text) (t : Ty) (v : Val)
    (hlk : lookupField allFields k = some t) (hpl : allFields.all (fun f => plainName f.1) = true)
    (hf : fieldOk I cfg.polymorphic cfg.soft t v = true)
    (hone : okOneX I cfg.polymorphic cfg.soft t v = true →
      ∃ e, toParent F cfg I cns k t v = [e] ∧ fromElement F X cfg I t e = .ok (normOneX I t v))
    (hrep : ∀ items, v = .list items → t.occ.repeated = true → okItemsX I cfg.polymorphic cfg.soft t items = true →
      ∀ (done : List (Text × Val)) (acc : Val) (tail : List (Text × Val)) (rest : List Node), k ∉ keys done →
        childLoop F X cfg I allFields (itemsToParent F cfg I cns k t items ++ rest) (done ++ (k, acc) :: tail) =
          childLoop F X cfg I allFields rest (done ++ (k, accApp acc (normItemsX I t items)) :: tail))
    (done tail : List (Text × Val)) (rest : List Node) (hkdone : k ∉ keys done) :
    childLoop F X cfg I allFields (memberNodes F cfg I cns k t v ++ rest) (done ++ (k, .none) :: tail) =
      childLoop F X cfg I allFields rest (done ++ (k, normX I t v) :: tail) := by
  by_cases hr : t.occ.repeated = true
  · rcases fieldOk_rep hr hf with ⟨rfl, hmin⟩ | ⟨items, rfl, _, hitems⟩
    · simp [memberNodes, hmin, normX]
    · have hn : normX I t (.list items) = accApp .none (normItemsX I t items) := by
        cases items <;> simp [normX, hr, accApp, normItemsX]
      simp only [memberNodes, hr, if_true, hn]
      exact hrep items rfl hr hitems done .none tail rest hkdone
  · have hr' : t.occ.repeated = false := by simpa using hr
    by_cases hv : v = .none
    · subst hv
      have hn : normX I t .none = .none := by simp [normX]
      simp only [memberNodes, hn]
      split
      · rename_i hmin
        have hnil : t.occ.nillable = true := by
          simp only [fieldOk, hr', Bool.not_false, Bool.and_true, Bool.or_eq_true, decide_eq_true_eq] at hf
          rcases hf with h | h
          · omega
          · exact h
        have hok := nodeOk_nil cns k
        rw [List.cons_append, List.nil_append, childLoop_step F X cfg I allFields (nilElem cns k) _ _ t _ hpl
          (by rw [hok.1]; exact hlk) hok.2 (nil_rt C cns k t hnil)]
        simp only [hr', hok.1, Bool.false_eq_true, if_false, stSet_at done k .none .none _ hkdone]
      · rfl
    · rw [fieldOk_some hv, okX_nonrep hr'] at hf
      obtain ⟨e, he, hdec⟩ := hone hf
      have hok := toParent_nodeOk F cfg I cns k t v e (by rw [he]; exact List.mem_singleton.mpr rfl)
      rw [memberNodes_nonrep F cfg I cns k t v hr' hv, he, List.cons_append, List.nil_append,
        childLoop_step F X cfg I allFields e _ _ t _ hpl (by rw [hok.1]; exact hlk) hok.2 hdec]
      simp only [hr', hok.1, Bool.false_eq_true, if_false, stSet_at done k .none _ _ hkdone, normX_nonrep I t v hr']

mutual
  /-- one occurrence: `to_parent` writes exactly one element and `from_element` reads it back -/
  theorem one_rt {F : Facts08} {X : FactsXml} {cfg : Cfg} {I : Iface} (C : RtCtx F X cfg I)
      (ns name : Text) (t : Ty) (ht : tyWf t = true) :
      (v : Val) → okOneX I cfg.polymorphic cfg.soft t v = true → fitsV F v = true →
      ∃ e, toParent F cfg I ns name t v = [e] ∧ fromElement F X cfg I t e = .ok (normOneX I t v) := by
    intro v hok hfit
    cases v with
    | none =>
      exact ⟨nilElem ns name, rfl, by rw [nil_rt C ns name t hok]; simp [normOneX]⟩
    | obj cls vs =>
      cases t with
      | prim p o => simp [okOneX] at hok
      | arr m el o => simp [okOneX] at hok
      | obj cname cns cb fields o =>
        simp only [okOneX] at hok
        simp only [tyWf, Bool.and_eq_true] at ht
        obtain ⟨⟨⟨hnd, hpl⟩, hwf⟩, _⟩ := ht
        by_cases hcls : cls = cname
        · subst hcls
          simp only [if_true] at hok
          refine ⟨Node.elem ns name [] none (membersToParent F cfg I cns fields vs),
            by simp only [toParent, polyTarget_self], ?_⟩
          have hloop := fields_rt C fields cns fields vs (fun _ _ h => lookup_of_mem_nodup (nodup_of_namesNodup fields hnd) h) hpl hnd hwf hok hfit
            [] [] (by intro k _ h; cases h)
          simp only [List.append_nil, List.nil_append] at hloop
          have hfreq := freq_members C.L cfg I cns fields vs hnd hwf hok hfit [] (by intro e he; cases he)
          simp only [List.nil_append] at hfreq
          rw [fromElement]
          simp only [isNil_nil, C.hP, List.lookup, if_true, hloop, childLoop]
          simp [freqOk, hfreq, normOneX]
        · simp only [hcls, if_false, Bool.and_eq_true] at hok
          obtain ⟨⟨hpoly, hsub⟩, hfind⟩ := hok
          cases hf : Registry.find? I.classes cls with
          | none => simp [hf] at hfind
          | some c =>
            simp only [hf] at hfind
            obtain ⟨hcm, hcn⟩ := Registry.find?_some hf
            obtain ⟨hnd', hpl', hwf'⟩ := ifaceWf_fields C.hI c hcm
            refine ⟨Node.elem ns name [(xsiTypeKey, clark c.ns c.name)] none (membersToParent F cfg I c.ns c.fields vs),
              by simp only [toParent, polyTarget_sub hpoly hcls hsub hf], ?_⟩
            have hloop := fields_rt C c.fields c.ns c.fields vs (fun _ _ h => lookup_of_mem_nodup (nodup_of_namesNodup c.fields hnd') h) hpl' hnd' hwf'
              hfind hfit [] [] (by intro k _ h; cases h)
            simp only [List.append_nil, List.nil_append] at hloop
            have hfreq := freq_members C.L cfg I c.ns c.fields vs hnd' hwf' hfind hfit [] (by intro e he; cases he)
            simp only [List.nil_append] at hfreq
            have hres := resolveXsi_class (X := X) C.hI hcm cname cns cb fields o (by rw [hcn]; exact hsub)
            rw [fromElement]
            simp only [isNil_xsiType, C.hP, List.lookup_cons_self, if_true, hres, ClassDef.toTy, hloop, childLoop]
            simp [freqOk, hfreq, normOneX, hcls, hf, hcn]
    | list vs =>
      cases t with
      | prim p o => simp [okOneX] at hok
      | obj a b c d e => simp [okOneX] at hok
      | arr member elem o =>
        simp only [tyWf, Bool.and_eq_true] at ht
        refine ⟨Node.elem ns name [] none
          (itemsToParent F cfg I (memberNs I.tns ns member elem) (memberLocal member) elem vs), by simp only [toParent], ?_⟩
        have := arr_items_rt C (memberNs I.tns ns member elem) (memberLocal member) elem ht.1 vs hok hfit
        rw [fromElement]
        simp only [isNil_nil, C.hP, List.lookup, if_true, this]
        simp [normOneX]
    | _ => exact leaf_one_rt C ns name t ht _ rfl (by simp) hok hfit
  /-- the member loop: the child loop of `complex_from_element` consumes what `_get_members_etree` wrote
      for the members `fs` and leaves their (normalised) values in the instance. The loop looks members up in
      the whole class, `allFields`; `fs` is the suffix still to be read, `done` the slots of the members before it,
      already holding their final values -/
  theorem fields_rt {F : Facts08} {X : FactsXml} {cfg : Cfg} {I : Iface} (C : RtCtx F X cfg I)
      (allFields : List (Text × Ty)) (cns : Text) :
      (fs : List (Text × Ty)) → (vs : List (Text × Val)) →
      (∀ k t, (k, t) ∈ fs → lookupField allFields k = some t) →
      allFields.all (fun f => plainName f.1) = true → namesNodup fs = true → wfFields fs = true →
      okFieldsX I cfg.polymorphic cfg.soft fs vs = true → fitsFieldsV F vs = true →
      ∀ (done : List (Text × Val)) (rest : List Node), (∀ k, k ∈ fieldNames fs → k ∉ keys done) →
        childLoop F X cfg I allFields (membersToParent F cfg I cns fs vs ++ rest) (done ++ initState fs) =
          childLoop F X cfg I allFields rest (done ++ normFieldsX I fs vs)
    | [], [], _, _, _, _, _, _ => by
      intro done rest _
      simp [membersToParent, initState, normFieldsX]
    | [], _ :: _, _, _, _, _, hok, _ => by simp [okFieldsX] at hok
    | _ :: _, [], _, _, _, _, hok, _ => by simp [okFieldsX] at hok
    | (k, t) :: fs, (k', v) :: vs, hsub, hpl, hnd, hwf, hok, hfit => by
      intro done rest hdone
      rw [okFieldsX_cons] at hok
      simp only [Bool.and_eq_true, decide_eq_true_eq] at hok
      obtain ⟨⟨hk, hf⟩, hrest⟩ := hok
      subst hk
      obtain ⟨hknot, hnd'⟩ := namesNodup_cons hnd
      simp only [wfFields, Bool.and_eq_true] at hwf
      simp only [fitsFieldsV, Bool.and_eq_true] at hfit
      have hkdone : k ∉ keys done := hdone k (by simp [fieldNames])
      have hlk : lookupField allFields k = some t := hsub k t List.mem_cons_self
      have tailStep : ∀ w : Val,
          childLoop F X cfg I allFields (membersToParent F cfg I cns fs vs ++ rest)
            (done ++ (k, w) :: initState fs) =
          childLoop F X cfg I allFields rest (done ++ (k, w) :: normFieldsX I fs vs) := by
        intro w
        have := fields_rt C allFields cns fs vs (fun k' t' h => hsub k' t' (List.mem_cons_of_mem _ h)) hpl hnd'
          hwf.2 hrest hfit.2 (done ++ [(k, w)]) rest (keys_snoc_fresh hknot hdone w)
        simpa [List.append_assoc] using this
      rw [membersToParent_cons, initState_cons, List.append_assoc]
      simp only [normFieldsX]
      rw [member_step C allFields cns k t v hlk hpl hf (fun h => one_rt C cns k t hwf.1 v h hfit.1)
        (by
          cases v with
          | list items =>
            intro _ hv hr h; cases hv
            exact rep_items_rt C allFields cns k t hwf.1 hlk hr hpl items h hfit.1
          | _ => intro _ hv; cases hv)
        done _ _ hkdone]
      exact tailStep _

  theorem arr_items_rt {F : Facts08} {X : FactsXml} {cfg : Cfg} {I : Iface} (C : RtCtx F X cfg I)
      (ns name : Text) (elem : Ty) (ht : tyWf elem = true) :
      (vs : List Val) → okItemsX I cfg.polymorphic cfg.soft elem vs = true → fitsItemsV F vs = true →
      arrayLoop F X cfg I elem (itemsToParent F cfg I ns name elem vs) = .ok (normItemsX I elem vs)
    | [], _, _ => by simp [itemsToParent, arrayLoop, normItemsX]
    | v :: vs, hok, hfit => by
      simp only [okItemsX, Bool.and_eq_true] at hok
      simp only [fitsItemsV, Bool.and_eq_true] at hfit
      obtain ⟨e, he, hdec⟩ := one_rt C ns name elem ht v hok.1 hfit.1
      have ih := arr_items_rt C ns name elem ht vs hok.2 hfit.2
      simp [itemsToParent, he, arrayLoop, hdec, ih, normItemsX]

  theorem rep_items_rt {F : Facts08} {X : FactsXml} {cfg : Cfg} {I : Iface} (C : RtCtx F X cfg I)
      (allFields : List (Text × Ty)) (cns k : Text) (t : Ty) (ht : tyWf t = true)
      (hlk : lookupField allFields k = some t) (hr : t.occ.repeated = true)
      (hpl : allFields.all (fun f => plainName f.1) = true) :
      (items : List Val) → okItemsX I cfg.polymorphic cfg.soft t items = true → fitsItemsV F items = true →
      ∀ (done : List (Text × Val)) (acc : Val) (tail : List (Text × Val)) (rest : List Node), k ∉ keys done →
        childLoop F X cfg I allFields (itemsToParent F cfg I cns k t items ++ rest) (done ++ (k, acc) :: tail) =
          childLoop F X cfg I allFields rest (done ++ (k, accApp acc (normItemsX I t items)) :: tail)
    | [], _, _ => by
      intro done acc tail rest _
      simp [itemsToParent, normItemsX, accApp]
    | v :: vs, hok, hfit => by
      intro done acc tail rest hk
      simp only [okItemsX, Bool.and_eq_true] at hok
      simp only [fitsItemsV, Bool.and_eq_true] at hfit
      obtain ⟨e, he, hdec⟩ := one_rt C cns k t ht v hok.1 hfit.1
      have hnode := toParent_nodeOk F cfg I cns k t v e (by rw [he]; exact List.mem_singleton.mpr rfl)
      simp only [itemsToParent, he, List.cons_append, List.nil_append]
      rw [childLoop_step F X cfg I allFields e _ _ t _ hpl (by rw [hnode.1]; exact hlk) hnode.2 hdec]
      simp only [hr, if_true, hnode.1]
      rw [stAppend_at done k acc _ tail hk]
      rw [rep_items_rt C allFields cns k t ht hlk hr hpl vs hok.2 hfit.2 done _ tail rest hk]
      simp only [normItemsX, accApp_step]
end

/-- the round trip in the terms of the registry-free specification (`conformsOne` of Types.lean, `normOne` of
    Xml.lean): without polymorphism `okOneX` is `conformsOne` — plus, under soft validation, the empty-bytes
    clause — and on conformant values `normOneX` is `normOne` -/
theorem one_rt_conforms {F : Facts08} {X : FactsXml} {cfg : Cfg} {I : Iface} (C : RtCtx F X cfg I)
    (ns name : Text) (t : Ty) (ht : tyWf t = true) (v : Val)
    (hc : okOneX I false cfg.soft t v = true) (hf : fitsV F v = true) :
    ∃ e, toParent F cfg I ns name t v = [e] ∧ fromElement F X cfg I t e = .ok (normOne t v) := by
  have hc' : conformsOne t v = true := by
    rw [← okOneX_eq I]; exact okOneX_mono I (s := cfg.soft) (s' := false) id (fun h => nomatch h) t v hc
  rw [← normOneX_eq I t v hc']
  exact one_rt C ns name t ht v (okOneX_mono I (p := false) (p' := cfg.polymorphic) (fun h => nomatch h) id t v hc) hf

end Xml
end SpyneModel
