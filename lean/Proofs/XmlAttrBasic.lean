/-
  Shape of what `_get_members_etree` writes for a class with element, attribute and data members:
  the three projections of `membersA` (child elements `elemNodesA`, attributes `attrPairsA`, text `dataTextA`),
  the two passes of the decoder over data and attribute members as induction principles (`dataPass_ind`,
  `attrPass_ind`), the schema-independent facts "an attribute / data member never appears as a child element,
  an element member never as an attribute", and at the end what `okA`, `okFieldsA`, `tyWfA` and `kindsWf` say on
  each form of input: C01 and C05 both read the specification through these.
-/
import SpyneModel.XmlAttrSpec
import Proofs.XmlBasic
namespace SpyneModel
namespace Xml

def fieldNamesA (fs : List (Text × MKind × TyA)) : List Text := fs.map (·.1)

def namesOfKind (kind : MKind) (fs : List (Text × MKind × TyA)) : List Text :=
  (fs.filter (fun f => f.2.1 = kind)).map (·.1)

/-- the elements written for one element member -/
def memberNodesA (F : Facts08) (tns cns k : Text) (t : TyA) (v : Val) : List Node :=
  match v with
  | .none => if t.occ.minOccurs > 0 then [nilElem cns k] else []
  | .list items =>
    if t.occ.repeated then itemsA F tns cns k t items
    else (match t with
          | .arr member elem _ =>
            [.elem cns k [] none (itemsA F tns (memberNsA tns cns member elem) (memberLocal member) elem items)]
          | _ => [])
  | w => if t.occ.repeated then [] else toParentA F tns cns k t w

theorem memberNodesA_nonrep (F : Facts08) (tns cns k : Text) (t : TyA) (v : Val)
    (hr : t.occ.repeated = false) (hv : v ≠ .none) :
    memberNodesA F tns cns k t v = toParentA F tns cns k t v := by
  cases v with
  | none => exact absurd rfl hv
  | list items => simp only [memberNodesA, hr]; cases t <;> simp [toParentA]
  | _ => simp [memberNodesA, hr]

theorem membersA_elem (F : Facts08) (tns cns k : Text) (t : TyA) (v : Val) (fs : List (Text × MKind × TyA))
    (vs : List (Text × Val)) (acc : Acc) :
    membersA F tns cns ((k, .element, t) :: fs) ((k, v) :: vs) acc =
      membersA F tns cns fs vs { acc with children := acc.children ++ memberNodesA F tns cns k t v } := by
  rw [membersA.eq_def]
  simp only [if_true]
  cases v <;> rfl

theorem membersA_attr (F : Facts08) (tns cns k : Text) (t : TyA) (v : Val) (fs : List (Text × MKind × TyA))
    (vs : List (Text × Val)) (acc : Acc) :
    membersA F tns cns ((k, .attribute, t) :: fs) ((k, v) :: vs) acc =
      membersA F tns cns fs vs { acc with attrs := acc.attrs ++ attrOne F k t v } := by
  simp [membersA]

theorem membersA_data (F : Facts08) (tns cns k : Text) (t : TyA) (v : Val) (fs : List (Text × MKind × TyA))
    (vs : List (Text × Val)) (acc : Acc) :
    membersA F tns cns ((k, .data, t) :: fs) ((k, v) :: vs) acc = membersA F tns cns fs vs (dataStep F t v acc) := by
  simp [membersA]

theorem membersA_skip (F : Facts08) (tns cns k k' : Text) (kind : MKind) (t : TyA) (v : Val)
    (fs : List (Text × MKind × TyA)) (vs : List (Text × Val)) (acc : Acc) (hk : k ≠ k') :
    membersA F tns cns ((k, kind, t) :: fs) ((k', v) :: vs) acc = membersA F tns cns fs vs acc := by
  rw [membersA.eq_def]; simp only [if_neg hk]


/-- the `children` of `membersA`, member by member (`membersA_children`) -/
def elemNodesA (F : Facts08) (tns cns : Text) : List (Text × MKind × TyA) → List (Text × Val) → List Node
  | (k, kind, t) :: fs, (k', v) :: vs =>
    (if k = k' then (match kind with | .element => memberNodesA F tns cns k t v | _ => []) else []) ++
      elemNodesA F tns cns fs vs
  | _, _ => []

theorem elemNodesA_cons_elem (F : Facts08) (tns cns k : Text) (t : TyA) (v : Val) (fs : List (Text × MKind × TyA))
    (vs : List (Text × Val)) :
    elemNodesA F tns cns ((k, .element, t) :: fs) ((k, v) :: vs) = memberNodesA F tns cns k t v ++ elemNodesA F tns cns fs vs := by
  rw [elemNodesA.eq_def]
  simp only [if_true]

theorem elemNodesA_cons_mod (F : Facts08) (tns cns k : Text) (kind : MKind) (hk : kind ≠ .element) (t : TyA) (v : Val)
    (fs : List (Text × MKind × TyA)) (vs : List (Text × Val)) :
    elemNodesA F tns cns ((k, kind, t) :: fs) ((k, v) :: vs) = elemNodesA F tns cns fs vs := by
  rw [elemNodesA.eq_def]
  cases kind <;> first | exact absurd rfl hk | simp only [if_true, List.nil_append]

/-- the attribute the null handler of XmlData puts on the parent -/
def dataAttrs (t : TyA) (v : Val) : List (Text × Text) :=
  match v with
  | .none => if t.occ.minOccurs > 0 then [(xsiNilKey, "true".toList)] else []
  | _ => []

/-- the `attrs` of `membersA`, member by member (`membersA_attrs`) -/
def attrPairsA (F : Facts08) : List (Text × MKind × TyA) → List (Text × Val) → List (Text × Text)
  | (k, kind, t) :: fs, (k', v) :: vs =>
    (if k = k' then (match kind with
                     | .attribute => attrOne F k t v
                     | .data => dataAttrs t v
                     | .element => []) else []) ++ attrPairsA F fs vs
  | _, _ => []

/-- the attributes one member puts on the element: the match inside `attrPairsA` -/
def modAttrs (F : Facts08) (k : Text) (kind : MKind) (t : TyA) (v : Val) : List (Text × Text) :=
  match kind with
  | .attribute => attrOne F k t v
  | .data => dataAttrs t v
  | .element => []

theorem attrPairsA_cons (F : Facts08) (k : Text) (kind : MKind) (t : TyA) (v : Val) (fs : List (Text × MKind × TyA))
    (vs : List (Text × Val)) :
    attrPairsA F ((k, kind, t) :: fs) ((k, v) :: vs) = modAttrs F k kind t v ++ attrPairsA F fs vs := by
  rw [attrPairsA.eq_def]
  simp only [if_true]
  cases kind <;> rfl

theorem dataStep_children (F : Facts08) (t : TyA) (v : Val) (acc : Acc) : (dataStep F t v acc).children = acc.children := by
  unfold dataStep
  repeat' split
  all_goals rfl

theorem dataStep_attrs (F : Facts08) (t : TyA) (v : Val) (acc : Acc) :
    (dataStep F t v acc).attrs = acc.attrs ++ dataAttrs t v := by
  unfold dataStep dataAttrs
  repeat' split
  all_goals simp_all

theorem membersA_children (F : Facts08) (tns cns : Text) :
    (fs : List (Text × MKind × TyA)) → (vs : List (Text × Val)) → (acc : Acc) →
    (membersA F tns cns fs vs acc).children = acc.children ++ elemNodesA F tns cns fs vs
  | [], _, acc => by simp [membersA, elemNodesA]
  | _ :: _, [], acc => by simp [membersA, elemNodesA]
  | (k, kind, t) :: fs, (k', v) :: vs, acc => by
    by_cases hk : k = k'
    · subst hk
      cases kind
      · rw [membersA_elem, membersA_children F tns cns fs vs]
        simp only [elemNodesA, if_true, List.append_assoc]
      · rw [membersA_attr, membersA_children F tns cns fs vs]
        simp only [elemNodesA, if_true, List.nil_append]
      · rw [membersA_data, membersA_children F tns cns fs vs, dataStep_children]
        simp only [elemNodesA, if_true, List.nil_append]
    · rw [membersA_skip F tns cns k k' kind t v fs vs acc hk, membersA_children F tns cns fs vs]
      simp only [elemNodesA, if_neg hk, List.nil_append]

theorem membersA_attrs (F : Facts08) (tns cns : Text) :
    (fs : List (Text × MKind × TyA)) → (vs : List (Text × Val)) → (acc : Acc) →
    (membersA F tns cns fs vs acc).attrs = acc.attrs ++ attrPairsA F fs vs
  | [], _, acc => by simp [membersA, attrPairsA]
  | _ :: _, [], acc => by simp [membersA, attrPairsA]
  | (k, kind, t) :: fs, (k', v) :: vs, acc => by
    by_cases hk : k = k'
    · subst hk
      cases kind
      · rw [membersA_elem, membersA_attrs F tns cns fs vs]
        simp only [attrPairsA, if_true, List.nil_append]
      · rw [membersA_attr, membersA_attrs F tns cns fs vs]
        simp only [attrPairsA, if_true, List.append_assoc]
      · rw [membersA_data, membersA_attrs F tns cns fs vs, dataStep_attrs]
        simp only [attrPairsA, if_true, List.append_assoc]
    · rw [membersA_skip F tns cns k k' kind t v fs vs acc hk, membersA_attrs F tns cns fs vs]
      simp only [attrPairsA, if_neg hk, List.nil_append]


/-- `noKind .data` and `noKind .element` are the two shapes of class that `kindsWf` allows (`kindsWf_data`) -/
def noKind (kind : MKind) (fs : List (Text × MKind × TyA)) : Bool := fs.all (fun f => decide (f.2.1 ≠ kind))

theorem noKind_cons {kind k0 : MKind} {k : Text} {t : TyA} {fs : List (Text × MKind × TyA)} :
    noKind kind ((k, k0, t) :: fs) = (decide (k0 ≠ kind) && noKind kind fs) := by
  simp [noKind]

/-- the text XmlData.marshall leaves on an element that has no children -/
def dataOne (F : Facts08) (t : TyA) (v : Val) (cur : Option Text) : Option Text :=
  (dataStep F t v { text := cur }).text

/-- the `text` of `membersA` in those two shapes of class (`membersA_text`): `cur` after every data member -/
def dataTextA (F : Facts08) : List (Text × MKind × TyA) → List (Text × Val) → Option Text → Option Text
  | (k, kind, t) :: fs, (k', v) :: vs, cur =>
    dataTextA F fs vs (if k = k' then (match kind with | .data => dataOne F t v cur | _ => cur) else cur)
  | [], _, cur => cur
  | _ :: _, [], cur => cur

theorem dataStep_text (F : Facts08) (t : TyA) (v : Val) (acc : Acc) (hc : acc.children = []) :
    (dataStep F t v acc).text = dataOne F t v acc.text := by
  unfold dataOne dataStep
  repeat' split
  all_goals simp_all

/-- the text of the element: what the data members leave, in a class without data members (nothing) or
    without element members (no child is there when `XmlData.marshall` runs) -/
theorem membersA_text (F : Facts08) (tns cns : Text) :
    (fs : List (Text × MKind × TyA)) → (vs : List (Text × Val)) → (acc : Acc) →
    noKind .data fs = true ∨ (noKind .element fs = true ∧ acc.children = []) →
    (membersA F tns cns fs vs acc).text = dataTextA F fs vs acc.text
  | [], _, acc, _ => by simp [membersA, dataTextA]
  | _ :: _, [], acc, _ => by simp [membersA, dataTextA]
  | (k, kind, t) :: fs, (k', v) :: vs, acc, h => by
    simp only [noKind_cons, Bool.and_eq_true, decide_eq_true_eq] at h
    by_cases hk : k = k'
    · subst hk
      cases kind
      · rw [membersA_elem, membersA_text F tns cns fs vs _ (h.elim (fun h => Or.inl h.2) (fun h => absurd rfl h.1.1))]
        simp only [dataTextA, if_true]
      · rw [membersA_attr, membersA_text F tns cns fs vs { acc with attrs := acc.attrs ++ attrOne F k t v }
          (h.imp (·.2) (fun h => ⟨h.1.2, h.2⟩))]
        simp only [dataTextA, if_true]
      · have hc : acc.children = [] := h.elim (fun h => absurd rfl h.1) (·.2)
        rw [membersA_data, membersA_text F tns cns fs vs (dataStep F t v acc)
          (h.imp (·.2) (fun h => ⟨h.1.2, by rw [dataStep_children]; exact h.2⟩)), dataStep_text F t v acc hc]
        simp only [dataTextA, if_true]
    · rw [membersA_skip F tns cns k k' kind t v fs vs acc hk, membersA_text F tns cns fs vs acc (h.imp (·.2) (fun h => ⟨h.1.2, h.2⟩))]
      simp only [dataTextA, if_neg hk]

theorem dataTextA_nodata (F : Facts08) :
    (fs : List (Text × MKind × TyA)) → (vs : List (Text × Val)) → (cur : Option Text) → noKind .data fs = true →
    dataTextA F fs vs cur = cur
  | [], _, cur, _ => by simp [dataTextA]
  | _ :: _, [], cur, _ => by simp [dataTextA]
  | (k, kind, t) :: fs, (k', v) :: vs, cur, h => by
    rw [noKind_cons] at h
    simp only [Bool.and_eq_true, decide_eq_true_eq] at h
    match kind, h with
    | .element, h => simp only [dataTextA]; rw [dataTextA_nodata F fs vs _ h.2]; simp
    | .attribute, h => simp only [dataTextA]; rw [dataTextA_nodata F fs vs _ h.2]; simp
    | .data, h => exact absurd rfl h.1


/-- `_xml_tag_body_as` looks at XmlData members only -/
theorem dataPass_skip (F : Facts08) (A : FactsAttr) (cfg : Cfg) (text : Option Text) (k : Text) (kind : MKind) (t : TyA)
    (fs : List (Text × MKind × TyA)) (st : List (Text × Val)) (hk : kind ≠ .data) :
    dataPass F A cfg text ((k, kind, t) :: fs) st = dataPass F A cfg text fs st := by
  match kind, hk with
  | .element, _ => cases t <;> simp only [dataPass]
  | .attribute, _ => cases t <;> simp only [dataPass]
  | .data, hk => exact absurd rfl hk

theorem dataPass_nodata (F : Facts08) (A : FactsAttr) (cfg : Cfg) (text : Option Text) :
    (fs : List (Text × MKind × TyA)) → (st : List (Text × Val)) → noKind .data fs = true →
    dataPass F A cfg text fs st = .ok st
  | [], st, _ => by simp [dataPass]
  | (k, kind, t) :: fs, st, h => by
    rw [noKind_cons, Bool.and_eq_true, decide_eq_true_eq] at h
    rw [dataPass_skip F A cfg text k kind t fs st h.1, dataPass_nodata F A cfg text fs st h.2]

/-- `_xml_tag_body_as` keeps whatever every `setattr` of a data member's value keeps -/
theorem dataPass_ind (F : Facts08) (A : FactsAttr) (cfg : Cfg) (text : Option Text) {P : List (Text × Val) → Prop} :
    (fs : List (Text × MKind × TyA)) → (st st' : List (Text × Val)) →
    (∀ k p o s v st, (k, MKind.data, TyA.prim p o) ∈ fs → modifierValue F A cfg p s = .ok v → P st → P (stSet st k v)) →
    P st → dataPass F A cfg text fs st = .ok st' → P st'
  | [], st, st', _, hst, h => by simp only [dataPass] at h; cases h; exact hst
  | (k, kind, t) :: fs, st, st', hset, hst, h => by
    have ih := fun st hst h => dataPass_ind F A cfg text fs st st'
      (fun k p o s v st hm => hset k p o s v st (List.mem_cons_of_mem _ hm)) hst h
    cases kind <;> cases t <;> simp only [dataPass] at h
    all_goals first
      | exact ih st hst h
      | skip
    rename_i p o
    split at h
    · exact ih st hst h
    · split at h
      · rename_i v hv
        exact ih _ (hset k p o _ v st List.mem_cons_self hv hst) h
      · cases h
      · cases h

/-- the attribute loop: `P seen st` after the attributes `seen`; an attribute named like an attribute member sets
    its slot, any other leaves the instance alone -/
theorem attrPass_ind (F : Facts08) (A : FactsAttr) (cfg : Cfg) (fields : List (Text × MKind × TyA))
    {P : List (Text × Text) → List (Text × Val) → Prop}
    (hit : ∀ seen key s p o v st, lookupA fields key = some (.attribute, .prim p o) →
      modifierValue F A cfg p s = .ok v → P seen st → P (seen ++ [(key, s)]) (stSet st key v))
    (miss : ∀ seen key s st, (∀ p o, lookupA fields key ≠ some (.attribute, .prim p o)) → P seen st →
      P (seen ++ [(key, s)]) st) :
    (as seen : List (Text × Text)) → (st st' : List (Text × Val)) → P seen st →
    attrPass F A cfg fields as st = .ok st' → P (seen ++ as) st'
  | [], seen, st, st', hst, h => by simp only [attrPass] at h; cases h; simpa using hst
  | (key, s) :: as, seen, st, st', hst, h => by
    rw [show seen ++ (key, s) :: as = (seen ++ [(key, s)]) ++ as by simp]
    unfold attrPass at h
    split at h
    · rename_i p o hlk
      split at h
      · rename_i v hv
        exact attrPass_ind F A cfg fields hit miss as _ _ st' (hit seen key s p o v st hlk hv hst) h
      · cases h
      · cases h
    · rename_i hnot
      exact attrPass_ind F A cfg fields hit miss as _ st st' (miss seen key s st hnot hst) h


theorem attrOne_keys (F : Facts08) (k : Text) (t : TyA) (v : Val) : ∀ a ∈ attrOne F k t v, a.1 = k := by
  intro a ha
  unfold attrOne at ha
  repeat' split at ha
  all_goals simp_all

theorem dataAttrs_keys (t : TyA) (v : Val) : ∀ a ∈ dataAttrs t v, a.1 = xsiNilKey := by
  intro a ha
  unfold dataAttrs at ha
  repeat' split at ha
  all_goals simp_all

/-- every attribute written for an object is named after an XmlAttribute member (or is the `xsi:nil`
    of a null XmlData member) -/
theorem attrPairsA_keys (F : Facts08) :
    (fs : List (Text × MKind × TyA)) → (vs : List (Text × Val)) →
    ∀ a ∈ attrPairsA F fs vs, a.1 ∈ namesOfKind .attribute fs ∨ a.1 = xsiNilKey
  | [], _ => by intro a ha; simp [attrPairsA] at ha
  | _ :: _, [] => by intro a ha; simp [attrPairsA] at ha
  | (k, kind, t) :: fs, (k', v) :: vs => by
    intro a ha
    simp only [attrPairsA, List.mem_append] at ha
    rcases ha with ha | ha
    · by_cases hk : k = k'
      · subst hk
        simp only [if_true] at ha
        match kind with
        | .element => simp at ha
        | .attribute =>
          left
          have := attrOne_keys F k t v a ha
          simp [namesOfKind, List.filter, this]
        | .data => right; exact dataAttrs_keys t v a ha
      · simp [hk] at ha
    · rcases attrPairsA_keys F fs vs a ha with h | h
      · left
        simp only [namesOfKind, List.mem_map, List.mem_filter] at h ⊢
        obtain ⟨f, ⟨hf, hkf⟩, hn⟩ := h
        exact ⟨f, ⟨List.mem_cons_of_mem _ hf, hkf⟩, hn⟩
      · right; exact h

theorem toParentA_leaf {F : Facts08} {tns ns name : Text} {t : TyA} {v : Val}
    (hl : v.isLeaf = true) (hn : v ≠ .none) :
    toParentA F tns ns name t v =
      (match t with
       | .prim p _ =>
         (match leafToText F p v with
          | some s => [.elem ns name [] (mkText s) []]
          | none => [])
       | _ => []) := by
  cases v <;> first | rfl | exact Bool.noConfusion hl | exact absurd rfl hn

theorem toParentA_name (F : Facts08) (tns ns name : Text) (t : TyA) (v : Val) :
    ∀ e ∈ toParentA F tns ns name t v, e.name = name := by
  intro e he
  cases v with
  | none => simp only [toParentA, List.mem_singleton] at he; subst he; rfl
  | obj cls vs =>
    simp only [toParentA] at he
    split at he
    · simp only [List.mem_singleton] at he; subst he; rfl
    · cases he
  | list vs =>
    simp only [toParentA] at he
    split at he
    · simp only [List.mem_singleton] at he; subst he; rfl
    · cases he
  | _ =>
    simp only [toParentA] at he
    split at he
    · split at he
      · simp only [List.mem_singleton] at he; subst he; rfl
      · cases he
    · cases he

theorem itemsA_name (F : Facts08) (tns ns name : Text) (t : TyA) (vs : List Val) :
    ∀ e ∈ itemsA F tns ns name t vs, e.name = name := by
  induction vs with
  | nil => intro e he; simp [itemsA] at he
  | cons v vs ih =>
    intro e he
    simp only [itemsA, List.mem_append] at he
    rcases he with he | he
    · exact toParentA_name F tns ns name t v e he
    · exact ih e he

theorem memberNodesA_name (F : Facts08) (tns cns k : Text) (t : TyA) (v : Val) :
    ∀ e ∈ memberNodesA F tns cns k t v, e.name = k := by
  intro e he
  cases v with
  | none =>
    simp only [memberNodesA] at he
    split at he
    · simp only [List.mem_singleton] at he; subst he; rfl
    · cases he
  | list items =>
    simp only [memberNodesA] at he
    split at he
    · exact itemsA_name F tns cns k t items e he
    · split at he
      · simp only [List.mem_singleton] at he; subst he; rfl
      · cases he
  | _ =>
    simp only [memberNodesA] at he
    split at he
    · cases he
    · exact toParentA_name F tns cns k t _ e he

theorem elemNodesA_names (F : Facts08) (tns cns : Text) :
    (fs : List (Text × MKind × TyA)) → (vs : List (Text × Val)) →
    ∀ e ∈ elemNodesA F tns cns fs vs, e.name ∈ namesOfKind .element fs
  | [], _ => by intro e he; simp [elemNodesA] at he
  | _ :: _, [] => by intro e he; simp [elemNodesA] at he
  | (k, kind, t) :: fs, (k', v) :: vs => by
    intro e he
    simp only [elemNodesA, List.mem_append] at he
    rcases he with he | he
    · by_cases hk : k = k'
      · subst hk
        simp only [if_true] at he
        match kind with
        | .element =>
          have := memberNodesA_name F tns cns k t v e he
          simp [namesOfKind, List.filter, this]
        | .attribute => simp at he
        | .data => simp at he
      · simp [hk] at he
    · have h := elemNodesA_names F tns cns fs vs e he
      simp only [namesOfKind, List.mem_map, List.mem_filter] at h ⊢
      obtain ⟨f, ⟨hf, hkf⟩, hn⟩ := h
      exact ⟨f, ⟨List.mem_cons_of_mem _ hf, hkf⟩, hn⟩

theorem initStateA_cons (k : Text) (x : MKind × TyA) (fs : List (Text × MKind × TyA)) :
    initStateA ((k, x) :: fs) = (k, Val.none) :: initStateA fs := rfl

theorem namesNodupA_cons {k : Text} {x : MKind × TyA} {fs : List (Text × MKind × TyA)}
    (h : namesNodupA ((k, x) :: fs) = true) : k ∉ fieldNamesA fs ∧ namesNodupA fs = true := by
  simp only [namesNodupA, Bool.and_eq_true, Bool.not_eq_true', List.any_eq_false] at h
  refine ⟨?_, h.2⟩
  intro hk
  simp only [fieldNamesA, List.mem_map] at hk
  obtain ⟨f, hf, hfk⟩ := hk
  exact h.1 f hf (by simpa using hfk)

theorem nodup_of_namesNodupA : (fs : List (Text × MKind × TyA)) → namesNodupA fs = true → (fs.map (·.1)).Nodup
  | [], _ => List.nodup_nil
  | (_, _) :: fs, h =>
    List.nodup_cons.mpr ⟨(namesNodupA_cons h).1, nodup_of_namesNodupA fs (namesNodupA_cons h).2⟩

theorem lookupA_of_memA (fs : List (Text × MKind × TyA)) (hnd : namesNodupA fs = true) :
    ∀ f ∈ fs, lookupA fs f.1 = some f.2 :=
  fun _ hf => lookup_of_mem_nodup (nodup_of_namesNodupA fs hnd) hf

theorem namesOfKind_sub (kind : MKind) (fs : List (Text × MKind × TyA)) : ∀ k ∈ namesOfKind kind fs, k ∈ fieldNamesA fs := by
  intro k hk
  simp only [namesOfKind, fieldNamesA, List.mem_map, List.mem_filter] at hk ⊢
  obtain ⟨f, ⟨hf, _⟩, hn⟩ := hk
  exact ⟨f, hf, hn⟩

theorem mem_unique_A (fs : List (Text × MKind × TyA)) (hnd : namesNodupA fs = true) (k : Text) (a b : MKind × TyA)
    (ha : (k, a) ∈ fs) (hb : (k, b) ∈ fs) : a = b :=
  (Prod.mk.inj (eq_of_nodup_map (·.1) (nodup_of_namesNodupA fs hnd) ha hb rfl)).2

theorem tyWfA_occ {t : TyA} (h : tyWfA t = true) : occWf t.occ = true := by
  cases t <;> (simp only [tyWfA, Bool.and_eq_true] at h; exact h.2)

theorem wf_of_lookupA (fs : List (Text × MKind × TyA)) (hw : wfFieldsA fs = true) : ∀ k kind mt,
    lookupA fs k = some (kind, mt) → tyWfA mt = true :=
  fun k kind mt h => lookup_of_cons (Q := fun fs => wfFieldsA fs = true) (P := fun a => tyWfA a.2 = true)
    (fun _ _ _ h => by simpa only [wfFieldsA, Bool.and_eq_true] using h) fs hw k (kind, mt) h

theorem isPrimA_eq {t : TyA} (h : isPrimA t = true) : ∃ p o, t = .prim p o := by
  cases t <;> first | exact ⟨_, _, rfl⟩ | cases h

theorem mem_namesOfKind {kind : MKind} {fs : List (Text × MKind × TyA)} {k : Text} :
    k ∈ namesOfKind kind fs ↔ ∃ t, (k, kind, t) ∈ fs := by
  simp only [namesOfKind, List.mem_map, List.mem_filter, decide_eq_true_eq]
  constructor
  · rintro ⟨⟨k', kind', t⟩, ⟨hf, hk⟩, hn⟩
    subst hk; subst hn
    exact ⟨t, hf⟩
  · rintro ⟨t, hf⟩
    exact ⟨(k, kind, t), ⟨hf, rfl⟩, rfl⟩

theorem namesOfKind_disjoint (fs : List (Text × MKind × TyA)) (hnd : namesNodupA fs = true) (k : Text)
    (k1 k2 : MKind) (hne : k1 ≠ k2) (h : k ∈ namesOfKind k1 fs) : k ∉ namesOfKind k2 fs := by
  intro h2
  obtain ⟨t1, h1⟩ := mem_namesOfKind.mp h
  obtain ⟨t2, h2⟩ := mem_namesOfKind.mp h2
  have := mem_unique_A fs hnd k (k1, t1) (k2, t2) h1 h2
  exact hne (Prod.mk.inj this).1

theorem okA_def (strict : Bool) (t : TyA) (v : Val) :
    okA strict t v =
      if t.occ.repeated then
        (match v with
         | .none => decide (t.occ.minOccurs = 0)
         | .list vs => t.occ.countOk vs.length && okItemsA strict t vs
         | _ => false)
      else okOneA strict t v := by
  rw [okA.eq_def, okOneA.eq_def]
  generalize t.occ.repeated = r
  cases r <;> cases v <;> rfl

theorem okA_nonrep {strict : Bool} {t : TyA} {v : Val} (hr : t.occ.repeated = false) :
    okA strict t v = okOneA strict t v := by
  rw [okA_def, hr]
  rfl

theorem okOneA_leaf {strict : Bool} {t : TyA} {v : Val} (hl : v.isLeaf = true) (hn : v ≠ .none) :
    okOneA strict t v = (match t with | .prim p o => leafOk strict p o v | _ => false) := by
  cases v <;> first | rfl | exact Bool.noConfusion hl | exact absurd rfl hn

/-- the `okFieldsA` condition on one member -/
def fieldOkA (strict : Bool) (kind : MKind) (t : TyA) (v : Val) : Bool :=
  match kind, v with
  | .element, .none => decide (t.occ.minOccurs = 0) || (t.occ.nillable && !t.occ.repeated)
  | .element, w => okA strict t w
  | _, .none => decide (t.occ.minOccurs = 0)
  | _, w => modOk t w

theorem okFieldsA_cons {strict : Bool} {k k' : Text} {kind : MKind} {t : TyA} {v : Val}
    {fs : List (Text × MKind × TyA)} {vs : List (Text × Val)} :
    okFieldsA strict ((k, kind, t) :: fs) ((k', v) :: vs) =
      (decide (k = k') && fieldOkA strict kind t v && okFieldsA strict fs vs) := by
  cases kind <;> cases v <;> rfl

theorem fieldOkA_elem_some {strict : Bool} {t : TyA} {v : Val} (hv : v ≠ .none) :
    fieldOkA strict .element t v = okA strict t v := by
  cases v <;> first | rfl | exact absurd rfl hv

theorem fieldOkA_rep {strict : Bool} {t : TyA} {v : Val} (hr : t.occ.repeated = true)
    (hf : fieldOkA strict .element t v = true) :
    (v = .none ∧ t.occ.minOccurs = 0) ∨
    ∃ items, v = .list items ∧ t.occ.countOk items.length = true ∧ okItemsA strict t items = true := by
  by_cases hv : v = .none
  · subst hv
    simp only [fieldOkA, hr, Bool.not_true, Bool.and_false, Bool.or_false, decide_eq_true_eq] at hf
    exact Or.inl ⟨rfl, hf⟩
  · rw [fieldOkA_elem_some hv, okA_def, if_pos hr] at hf
    cases v <;> first
      | exact absurd rfl hv
      | exact Bool.noConfusion hf
      | exact Or.inr ⟨_, rfl, by simpa using hf⟩

theorem fieldOkA_mod_some {strict : Bool} {kind : MKind} (hk : kind ≠ .element) {t : TyA} {v : Val} (hv : v ≠ .none) :
    fieldOkA strict kind t v = modOk t v := by
  cases kind <;> cases v <;> first | rfl | exact absurd rfl hk | exact absurd rfl hv

theorem fieldOkA_mod {strict : Bool} {kind : MKind} (hk : kind ≠ .element) {p : PrimTy} {o : Occ} {v : Val}
    (hv : v ≠ .none) (h : fieldOkA strict kind (.prim p o) v = true) : p.valueOk v = true := by
  rw [fieldOkA_mod_some hk hv] at h
  exact h

theorem fieldOkA_mod_none {strict : Bool} {kind : MKind} (hk : kind ≠ .element) {t : TyA}
    (h : fieldOkA strict kind t .none = true) : t.occ.minOccurs = 0 := by
  match kind, hk with
  | .element, hk => exact absurd rfl hk
  | .attribute, _ => simpa [fieldOkA] using h
  | .data, _ => simpa [fieldOkA] using h

/-- the number `kindsWf` bounds by one -/
def dataCount (fs : List (Text × MKind × TyA)) : Nat := fs.countP (fun f => f.2.1 = .data)

theorem noData_of_count {fs : List (Text × MKind × TyA)} (h : dataCount fs = 0) : noKind .data fs = true := by
  unfold dataCount at h
  rw [List.countP_eq_zero] at h
  simp only [noKind, List.all_eq_true, decide_eq_true_eq]
  intro f hf hk
  exact h f hf (by simp [hk])

theorem kindsWf_mod {fields : List (Text × MKind × TyA)} (h : kindsWf fields = true) :
    ∀ f ∈ fields, f.2.1 ≠ .element → isPrimA f.2.2 = true ∧ f.2.2.occ.repeated = false ∧ f.2.2.occ.minOccurs ≤ 1 := by
  simp only [kindsWf, Bool.and_eq_true, List.all_eq_true] at h
  intro f hf hk
  have := h.1 f hf
  obtain ⟨k, kind, t⟩ := f
  match kind, hk, this with
  | .element, hk, _ => exact absurd rfl hk
  | .attribute, _, this =>
    simp only [Bool.and_eq_true, Bool.not_eq_true', decide_eq_true_eq] at this
    exact ⟨this.1.1, this.1.2, this.2⟩
  | .data, _, this =>
    simp only [Bool.and_eq_true, Bool.not_eq_true', decide_eq_true_eq] at this
    exact ⟨this.1.1, this.1.2, by simp only; omega⟩

theorem kindsWf_data_optional {fields : List (Text × MKind × TyA)} (h : kindsWf fields = true) :
    ∀ f ∈ fields, f.2.1 = .data → f.2.2.occ.minOccurs = 0 := by
  intro f hf hk
  simp only [kindsWf, Bool.and_eq_true, List.all_eq_true] at h
  have := h.1 f hf
  rw [hk] at this
  simp only [Bool.and_eq_true, decide_eq_true_eq] at this
  exact this.2

theorem kindsWf_data {fields : List (Text × MKind × TyA)} (h : kindsWf fields = true) :
    dataCount fields ≤ 1 ∧ (noKind .data fields = true ∨ noKind .element fields = true) := by
  simp only [kindsWf, Bool.and_eq_true, Bool.or_eq_true, decide_eq_true_eq] at h
  refine ⟨h.2.1, ?_⟩
  rcases h.2.2 with h0 | h1
  · left; exact noData_of_count h0
  · right
    simp only [noKind, List.all_eq_true, decide_eq_true_eq] at h1 ⊢
    intro f hf; simpa using h1 f hf


/-- one conjunct of the soft frequency check -/
def freqSlot (A : FactsAttr) (attrs : List (Text × Text)) (children : List Node) (f : Text × MKind × TyA) : Bool :=
  match f.2.1, A.attrSoftChecked with
  | .data, true => true
  | kind, _ => f.2.2.occ.countOk (memberCount A attrs children f.1 kind)

theorem freqOkA_eq (A : FactsAttr) (fields : List (Text × MKind × TyA)) (attrs : List (Text × Text)) (children : List Node) :
    freqOkA A fields attrs children = fields.all (freqSlot A attrs children) := rfl

end Xml
end SpyneModel
