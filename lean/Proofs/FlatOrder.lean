/-
  What holds of the decoder for every document. The orders on keys are strict total orders, so `sorted(...)` of two
  permutations of a document with distinct keys is the same list and the result does not depend on the order of the
  pairs (`decode_perm`). Soft validation only rejects: a run that succeeds with it succeeds without it, with the same
  result (`decode_soft_ok`, step by step from `nativeOf_soft_ok`).
-/
import Proofs.FlatBasic
namespace SpyneModel.Flat
open SpyneModel

structure StrictTotal {α : Type} (lt : α → α → Bool) : Prop where
  irrefl : ∀ a, lt a a = false
  trans : ∀ a b c, lt a b = true → lt b c = true → lt a c = true
  tri : ∀ a b, a ≠ b → lt a b = true ∨ lt b a = true

theorem StrictTotal.asymm {α : Type} {lt : α → α → Bool} (h : StrictTotal lt) {a b : α}
    (hab : lt a b = true) : lt b a = false := by
  cases hba : lt b a with
  | false => rfl
  | true => have := h.trans a b a hab hba; rw [h.irrefl] at this; cases this

theorem StrictTotal.negtrans {α : Type} [DecidableEq α] {lt : α → α → Bool} (h : StrictTotal lt) {a b c : α}
    (hab : lt a b = false) (hbc : lt b c = false) : lt a c = false := by
  cases hac : lt a c with
  | false => rfl
  | true =>
    exfalso
    by_cases e : a = b
    · subst e; rw [hbc] at hac; cases hac
    · rcases h.tri a b e with h1 | h1
      · rw [hab] at h1; cases h1
      · have := h.trans b a c h1 hac
        rw [hbc] at this; cases this

theorem lexLt_irrefl {α : Type} [DecidableEq α] {lt : α → α → Bool} (h : StrictTotal lt) :
    ∀ l : List α, lexLt lt l l = false := by
  intro l
  induction l with
  | nil => rfl
  | cons a r ih => simp [lexLt, h.irrefl, ih]

theorem lexLt_trans {α : Type} [DecidableEq α] {lt : α → α → Bool} (h : StrictTotal lt) :
    ∀ a b c : List α, lexLt lt a b = true → lexLt lt b c = true → lexLt lt a c = true := by
  intro a
  induction a with
  | nil =>
    intro b c hab hbc
    cases b with
    | nil => simp [lexLt] at hab
    | cons y ys =>
      cases c with
      | nil => simp [lexLt] at hbc
      | cons z zs => rfl
  | cons x xs ih =>
    intro b c hab hbc
    cases b with
    | nil => simp [lexLt] at hab
    | cons y ys =>
      cases c with
      | nil => simp [lexLt] at hbc
      | cons z zs =>
        simp only [lexLt, Bool.or_eq_true, Bool.and_eq_true, decide_eq_true_eq] at hab hbc ⊢
        rcases hab with hab | ⟨rfl, hab⟩
        · rcases hbc with hbc | ⟨rfl, hbc⟩
          · exact Or.inl (h.trans _ _ _ hab hbc)
          · exact Or.inl hab
        · rcases hbc with hbc | ⟨rfl, hbc⟩
          · exact Or.inl hbc
          · exact Or.inr ⟨rfl, ih ys zs hab hbc⟩

theorem lexLt_tri {α : Type} [DecidableEq α] {lt : α → α → Bool} (h : StrictTotal lt) :
    ∀ a b : List α, a ≠ b → lexLt lt a b = true ∨ lexLt lt b a = true := by
  intro a
  induction a with
  | nil =>
    intro b hne
    cases b with
    | nil => exact absurd rfl hne
    | cons y ys => exact Or.inl rfl
  | cons x xs ih =>
    intro b hne
    cases b with
    | nil => exact Or.inr rfl
    | cons y ys =>
      simp only [lexLt, Bool.or_eq_true, Bool.and_eq_true, decide_eq_true_eq]
      by_cases e : x = y
      · subst e
        have : xs ≠ ys := fun e' => hne (by rw [e'])
        rcases ih ys this with h1 | h1
        · exact Or.inl (Or.inr ⟨rfl, h1⟩)
        · exact Or.inr (Or.inr ⟨rfl, h1⟩)
      · rcases h.tri x y e with h1 | h1
        · exact Or.inl (Or.inl h1)
        · exact Or.inr (Or.inl h1)

theorem lexLt_strictTotal {α : Type} [DecidableEq α] {lt : α → α → Bool} (h : StrictTotal lt) :
    StrictTotal (lexLt lt) := ⟨lexLt_irrefl h, lexLt_trans h, lexLt_tri h⟩

theorem charLt_strictTotal : StrictTotal charLt := by
  refine ⟨?_, ?_, ?_⟩
  · intro a; simp [charLt]
  · intro a b c h1 h2; simp only [charLt, decide_eq_true_eq] at *; omega
  · intro a b hne
    simp only [charLt, decide_eq_true_eq]
    have : a.toNat ≠ b.toNat := by
      intro e
      apply hne
      exact Char.ext (by
        have := e
        simp only [Char.toNat] at this
        exact UInt32.toNat_inj.mp this)
    omega

theorem textLt_strictTotal : StrictTotal textLt := lexLt_strictTotal charLt_strictTotal

theorem tokLt_strictTotal : StrictTotal Tok.lt := by
  refine ⟨?_, ?_, ?_⟩
  · intro a; cases a <;> simp [Tok.lt, textLt_strictTotal.irrefl]
  · intro a b c h1 h2
    cases a <;> cases b <;> cases c <;> simp only [Tok.lt, decide_eq_true_eq] at * <;>
      first | exact textLt_strictTotal.trans _ _ _ h1 h2 | omega | rfl | contradiction
  · intro a b hne
    cases a <;> cases b <;> simp only [Tok.lt, decide_eq_true_eq]
    · rename_i s t
      exact textLt_strictTotal.tri s t (fun e => hne (by rw [e]))
    · exact Or.inl trivial
    · exact Or.inr trivial
    · rename_i m n
      have : m ≠ n := fun e => hne (by rw [e])
      omega

/-- what `sorted` compares a key by: cut into names and index numbers (`toks`) under the natural order, else the
    text itself -/
def orderKey (F : Facts03) (k : Text) : List Tok :=
  match F.keyOrder with
  | .natural => toks k
  | _ => [.txt k]

theorem keyLt_eq (F : Facts03) (a b : Text) : keyLt F a b = lexLt Tok.lt (orderKey F a) (orderKey F b) := by
  unfold keyLt orderKey
  cases F.keyOrder <;> simp [lexLt, Tok.lt]

theorem sortBy_sorted {α : Type} (lt : α → α → Bool)
    (asymm : ∀ a b, lt a b = true → lt b a = false)
    (negtrans : ∀ a b c, lt a b = false → lt b c = false → lt a c = false)
    (l : List α) : (sortBy lt l).Pairwise (fun a b => lt b a = false) :=
  InsertionSort.sort_pairwise (sort := sortBy lt) rfl (fun _ _ => rfl)
    (fun x => InsertionSort.insert_pairwise (ins := sortBy.insertFront lt x) (S := fun a b => lt b a = false) rfl (insertFront_cons lt x)
      (fun y h => by simpa using h) (fun y h => asymm _ _ (by simpa using h))
      fun y z h1 h2 => negtrans _ _ _ h2 h1) l

theorem sortDoc_sorted (F : Facts03) (doc : Doc) :
    (sortDoc F doc).Pairwise (fun a b => keyLt F b.1 a.1 = false) := by
  have hst := lexLt_strictTotal tokLt_strictTotal
  apply sortBy_sorted
  · intro a b h; rw [keyLt_eq] at h ⊢; exact hst.asymm h
  · intro a b c h1 h2; rw [keyLt_eq] at h1 h2 ⊢; exact hst.negtrans h1 h2

theorem sortDoc_perm (F : Facts03) (doc doc' : Doc) (hp : doc.Perm doc')
    (hn : (doc.map (fun kv => orderKey F kv.1)).Nodup) : sortDoc F doc = sortDoc F doc' := by
  apply List.Perm.eq_of_pairwise (le := fun a b => keyLt F b.1 a.1 = false)
  · intro a b ha hb h1 h2
    -- neither is smaller: same order key, hence the same element of the document
    have ha' : a ∈ doc := (sortBy_perm _ doc).subset ha
    have hb' : b ∈ doc := hp.symm.subset ((sortBy_perm _ doc').subset hb)
    rw [keyLt_eq] at h1 h2
    have hk : orderKey F a.1 = orderKey F b.1 := by
      apply Classical.byContradiction
      intro hne
      rcases (lexLt_strictTotal tokLt_strictTotal).tri _ _ hne with h | h
      · rw [h] at h2; cases h2
      · rw [h] at h1; cases h1
    exact eq_of_nodup_map (fun kv => orderKey F kv.1) hn ha' hb' hk
  · exact sortDoc_sorted F doc
  · exact sortDoc_sorted F doc'
  · exact (sortBy_perm _ doc).trans (hp.trans (sortBy_perm _ doc').symm)

/-- The result of `simple_dict_to_object` does not depend on the order of the keys of the flat
    document — for every document, every signature, every configuration (strict or not, soft or
    not): the keys are sorted first, and the sort puts a document with distinct keys in one order. -/
theorem decode_perm (F : Facts03) (cfg : Cfg) (fields : List Fld) (doc doc' : Doc) (hp : doc.Perm doc')
    (hn : (doc.map (fun kv => orderKey F kv.1)).Nodup) :
    decode F cfg fields doc = decode F cfg fields doc' := by
  unfold decode
  rw [sortDoc_perm F doc doc' hp hn]

theorem nativeOf_soft_ok (F : Facts03) (nillable : Bool) (p : PK) (v : Option Text) (n : Leaf)
    (h : nativeOf F true nillable p v = .ok n) : nativeOf F false nillable p v = .ok n := by
  unfold nativeOf at h ⊢
  simp only [Bool.true_and, Bool.false_and, Bool.false_eq_true, if_false] at h ⊢
  split at h
  · cases h
  · obtain ⟨x, hx, h2⟩ := obind_eq_ok.mp h
    split at h2
    · cases h2
    · rw [hx]; exact h2

theorem toNative_soft_ok (F : Facts03) (nillable : Bool) (p : PK) (vs : List (Option Text)) (ns : List Leaf)
    (h : toNative F true nillable p vs = .ok ns) : toNative F false nillable p vs = .ok ns := by
  induction vs generalizing ns with
  | nil => exact h
  | cons v r ih =>
    simp only [toNative] at h ⊢
    obtain ⟨x, hx, h2⟩ := obind_eq_ok.mp h
    obtain ⟨xs, hxs, h3⟩ := obind_eq_ok.mp h2
    rw [nativeOf_soft_ok F nillable p v x hx, obind_ok, ih xs hxs, obind_ok]
    exact h3

theorem stepKey_soft_ok (F : Facts03) (strict : Bool) (delim : Text) (fields : List Fld)
    (table : List (Text × Member)) (st st' : Attrs × List Ev) (kv : Text × List (Option Text))
    (h : stepKey F ⟨strict, true, delim⟩ fields table st kv = .ok st') :
    stepKey F ⟨strict, false, delim⟩ fields table st kv = .ok st' := by
  unfold stepKey at h ⊢
  cases hg : stiGet table (stripIdx kv.1) with
  | none => rw [hg] at h; exact h
  | some mem =>
    rw [hg] at h
    simp only at h ⊢
    cases hp : mem.prim with
    | none => rw [hp] at h; exact h
    | some p =>
      rw [hp] at h
      simp only at h ⊢
      obtain ⟨vs, hvs, h2⟩ := obind_eq_ok.mp h
      rw [toNative_soft_ok F mem.nillable p kv.2 vs hvs, obind_ok]
      exact h2

theorem foldO_stepKey_soft_ok (F : Facts03) (strict : Bool) (delim : Text) (fields : List Fld)
    (table : List (Text × Member)) (doc : Doc) (st st' : Attrs × List Ev)
    (h : foldO (stepKey F ⟨strict, true, delim⟩ fields table) st doc = .ok st') :
    foldO (stepKey F ⟨strict, false, delim⟩ fields table) st doc = .ok st' := by
  induction doc generalizing st with
  | nil => exact h
  | cons kv r ih =>
    simp only [foldO_cons] at h ⊢
    obtain ⟨s1, hs1, h2⟩ := obind_eq_ok.mp h
    rw [stepKey_soft_ok F strict delim fields table st s1 kv hs1, obind_ok]
    exact ih s1 h2

/-- soft validation only ever rejects: what it accepts is what the unvalidated decoder returns
    (any facts, any document, any signature) -/
theorem decode_soft_ok (F : Facts03) (strict : Bool) (delim : Text) (fields : List Fld) (doc : Doc) (v : Node)
    (h : decode F ⟨strict, true, delim⟩ fields doc = .ok v) :
    decode F ⟨strict, false, delim⟩ fields doc = .ok v := by
  unfold decode at h ⊢
  split at h
  · cases h
  · rename_i hc
    simp only [hc]
    obtain ⟨r, hr, h2⟩ := obind_eq_ok.mp h
    rw [foldO_stepKey_soft_ok F strict delim fields _ _ _ r hr, obind_ok]
    simp only [Bool.true_and, Bool.false_and, Bool.false_eq_true, if_false] at h2 ⊢
    split at h2
    · cases h2
    · exact h2

end SpyneModel.Flat
