import SpyneModel.Binary
import Proofs.Base64Digits
namespace SpyneModel
open Base64

theorem hexVal_hexDigit : ∀ n, n < 16 → hexVal? (hexDigit n) = some n := by decide

theorem b64Val_b64Char : ∀ url, ∀ n, n < 64 → b64Val? url (b64Char url n) = some n := by decide

theorem bytesOk_cons {b : Nat} {bs : List Nat} : bytesOk (b :: bs) ↔ b < 256 ∧ bytesOk bs := by simp [bytesOk]

theorem hexdec_hexenc (bs : List Nat) (h : bytesOk bs) : hexdec (hexenc bs) = some bs := by
  induction bs with
  | nil => simp [hexenc, hexdec]
  | cons b bs ih =>
    obtain ⟨hb, hbs⟩ := bytesOk_cons.1 h
    simp [hexenc, hexdec, hexVal_hexDigit (b / 16) (by omega), hexVal_hexDigit (b % 16) (by omega), ih hbs]
    exact Nat.div_add_mod' b 16

theorem xsdHexBinary_hexenc (bs : List Nat) (h : bytesOk bs) : xsdHexBinary (hexenc bs) = true := by
  induction bs with
  | nil => simp [hexenc, xsdHexBinary]
  | cons b bs ih =>
    obtain ⟨hb, hbs⟩ := bytesOk_cons.1 h
    simp [hexenc, xsdHexBinary, hexVal_hexDigit (b / 16) (by omega), hexVal_hexDigit (b % 16) (by omega), ih hbs]

theorem hexVal_lt : ∀ c x, hexVal? c = some x → x < 16 := by
  intro c x h
  unfold hexVal? at h
  simp at h
  split at h
  · injection h with e; omega
  · split at h
    · injection h with e; omega
    · split at h
      · injection h with e; omega
      · cases h

theorem hexdec_bytes (s : Text) (bs : List Nat) (h : hexdec s = some bs) : bs.all (fun b => decide (b < 256)) = true := by
  fun_induction hexdec s generalizing bs with
  | case1 => injection h with e; subst e; rfl
  | case2 => cases h
  | case3 a b r x y bs' hx hy hr ih =>
    injection h with e; subst e
    have := hexVal_lt a x (by assumption)
    have := hexVal_lt b y (by assumption)
    have := ih bs' (by assumption)
    simp_all
    omega
  | case4 => cases h

theorem b64Val_pad (url : Bool) : b64Val? url '=' = none := by cases url <;> rfl

theorem ne_pad_of_val {url : Bool} {c : Char} {v : Nat} (e : b64Val? url c = some v) : c ≠ '=' := by
  intro h; rw [h, b64Val_pad] at e; cases e

theorem b64Char_ne_pad (url : Bool) (n : Nat) (h : n < 64) : b64Char url n ≠ '=' :=
  ne_pad_of_val (b64Val_b64Char url n h)

/-- the step of `b64dec` over a full group (its patterns overlap with the padded ones: the side goals say that a
    character with a value is not the pad) -/
theorem b64dec_group {url : Bool} {c1 c2 c3 c4 : Char} {v1 v2 v3 v4 : Nat} (r : Text)
    (e1 : b64Val? url c1 = some v1) (e2 : b64Val? url c2 = some v2) (e3 : b64Val? url c3 = some v3)
    (e4 : b64Val? url c4 = some v4) :
    b64dec url (c1 :: c2 :: c3 :: c4 :: r) =
      (b64dec url r).map ((v1 * 4 + v2 / 16) :: (v2 % 16 * 16 + v3 / 4) :: (v3 % 4 * 64 + v4) :: ·) := by
  have n3 := ne_pad_of_val e3
  have n4 := ne_pad_of_val e4
  rw [b64dec]
  · rw [e1, e2, e3, e4]; cases b64dec url r <;> rfl
  all_goals (intros; simp_all)

theorem xsdBase64Binary_group {c1 c2 c3 c4 : Char} {v1 v2 v3 v4 : Nat} (r : Text)
    (e1 : b64Val? false c1 = some v1) (e2 : b64Val? false c2 = some v2) (e3 : b64Val? false c3 = some v3)
    (e4 : b64Val? false c4 = some v4) :
    xsdBase64Binary (c1 :: c2 :: c3 :: c4 :: r) = xsdBase64Binary r := by
  have n3 := ne_pad_of_val e3
  have n4 := ne_pad_of_val e4
  rw [xsdBase64Binary]
  · simp [e1, e2, e3, e4]
  all_goals (intros; simp_all)

theorem b64enc_spec (url : Bool) (bs : List Nat) (h : bytesOk bs) :
    b64dec url (b64enc url bs) = some bs ∧ (url = false → xsdBase64Binary (b64enc url bs) = true) := by
  fun_induction b64enc url bs with
  | case1 => simp [b64dec, xsdBase64Binary]
  | case2 a =>
    -- a padded group holds the sextets of a full one whose missing octets are 0
    obtain ⟨ha, _⟩ := bytesOk_cons.1 h
    obtain ⟨l1, l2, -, -⟩ := sextets_lt ha (b := 0) (c := 0) (by decide) (by decide)
    obtain ⟨o1, -, -⟩ := octets_sextets (a := a) (b := 0) (c := 0) (by decide) (by decide)
    rw [Nat.zero_div, Nat.add_zero] at l2 o1
    have v1 := b64Val_b64Char url _ l1
    have v2 := b64Val_b64Char url _ l2
    refine ⟨by simp only [b64dec, v1, v2, o1], fun hu => ?_⟩
    subst hu
    simp [xsdBase64Binary, v1, v2]
  | case3 a b =>
    obtain ⟨ha, h⟩ := bytesOk_cons.1 h
    obtain ⟨hb, _⟩ := bytesOk_cons.1 h
    obtain ⟨l1, l2, l3, -⟩ := sextets_lt ha hb (c := 0) (by decide)
    obtain ⟨o1, o2, -⟩ := octets_sextets (a := a) hb (c := 0) (by decide)
    rw [Nat.zero_div, Nat.add_zero] at l3 o2
    have v1 := b64Val_b64Char url _ l1
    have v2 := b64Val_b64Char url _ l2
    have v3 := b64Val_b64Char url _ l3
    have n3 := ne_pad_of_val v3
    refine ⟨?_, fun hu => ?_⟩
    · rw [b64dec]
      · simp only [v1, v2, v3, o1, o2]
      · exact n3
    · subst hu
      simp [xsdBase64Binary, v1, v2, v3]
  | case4 a b c r ih =>
    obtain ⟨ha, h⟩ := bytesOk_cons.1 h
    obtain ⟨hb, h⟩ := bytesOk_cons.1 h
    obtain ⟨hc, h⟩ := bytesOk_cons.1 h
    obtain ⟨l1, l2, l3, l4⟩ := sextets_lt ha hb hc
    obtain ⟨o1, o2, o3⟩ := octets_sextets (a := a) hb hc
    have v1 := b64Val_b64Char url _ l1
    have v2 := b64Val_b64Char url _ l2
    have v3 := b64Val_b64Char url _ l3
    have v4 := b64Val_b64Char url _ l4
    refine ⟨?_, fun hu => ?_⟩
    · rw [b64dec_group _ v1 v2 v3 v4, (ih h).1, o1, o2, o3]; rfl
    · subst hu
      rw [xsdBase64Binary_group _ v1 v2 v3 v4]
      exact (ih h).2 rfl

theorem b64dec_b64enc (url : Bool) (bs : List Nat) (h : bytesOk bs) : b64dec url (b64enc url bs) = some bs :=
  (b64enc_spec url bs h).1

theorem xsdBase64Binary_b64enc (bs : List Nat) (h : bytesOk bs) : xsdBase64Binary (b64enc false bs) = true :=
  (b64enc_spec false bs h).2 rfl

theorem b64Char_special (url : Bool) :
    b64Char url 62 = (if url then '-' else '+') ∧ b64Char url 63 = (if url then '_' else '/') := by
  cases url <;> exact ⟨rfl, rfl⟩

theorem b64Char_b64Val (url : Bool) (c : Char) (v : Nat) (h : b64Val? url c = some v) :
    v < 64 ∧ b64Char url v = c := by
  unfold b64Val? at h
  simp only [Bool.and_eq_true, decide_eq_true_eq] at h
  by_cases h1 : 65 ≤ c.toNat ∧ c.toNat ≤ 90
  · rw [if_pos h1] at h
    injection h with h; subst h
    have e : 65 + (c.toNat - 65) = c.toNat := by omega
    exact ⟨by omega, by unfold b64Char; rw [if_pos (by omega), e, Char.ofNat_toNat]⟩
  rw [if_neg h1] at h
  by_cases h2 : 97 ≤ c.toNat ∧ c.toNat ≤ 122
  · rw [if_pos h2] at h
    injection h with h; subst h
    have e : 71 + (c.toNat - 71) = c.toNat := by omega
    exact ⟨by omega, by unfold b64Char; rw [if_neg (by omega), if_pos (by omega), e, Char.ofNat_toNat]⟩
  rw [if_neg h2] at h
  by_cases h3 : 48 ≤ c.toNat ∧ c.toNat ≤ 57
  · rw [if_pos h3] at h
    injection h with h; subst h
    exact ⟨by omega, by
      unfold b64Char; rw [if_neg (by omega), if_neg (by omega), if_pos (by omega), Nat.add_sub_cancel, Char.ofNat_toNat]⟩
  rw [if_neg h3] at h
  by_cases h4 : c = (if url then '-' else '+')
  · rw [if_pos h4] at h
    injection h with h; subst h
    exact ⟨by decide, by rw [(b64Char_special url).1, h4]⟩
  rw [if_neg h4] at h
  by_cases h5 : c = (if url then '_' else '/')
  · rw [if_pos h5] at h
    injection h with h; subst h
    exact ⟨by decide, by rw [(b64Char_special url).2, h5]⟩
  · rw [if_neg h5] at h; cases h

theorem b64Val_lt (url : Bool) (c : Char) (x : Nat) (h : b64Val? url c = some x) : x < 64 :=
  (b64Char_b64Val url c x h).1

/-- (kept here, upstream of both `Proofs.LeafGood` and `Proofs.Prim2`, so that the auxiliary match lemmas of `b64dec`
    that its proof makes Lean generate exist once; generated independently in two modules they clash on import) -/
theorem b64dec_bytes (url : Bool) (s : Text) (bs : List Nat) (h : b64dec url s = some bs) :
    bs.all (fun b => decide (b < 256)) = true := by
  fun_induction b64dec url s generalizing bs with
  | case1 => injection h with e; subst e; rfl
  | case2 c1 c2 v1 v2 h1 h2 =>
    injection h with e; subst e
    have ⟨o1, _, _⟩ := octets_lt (v3 := 0) (v4 := 0) (b64Val_lt url c1 v1 (by assumption))
      (b64Val_lt url c2 v2 (by assumption)) (by decide) (by decide)
    simp [o1]
  | case3 => cases h
  | case4 c1 c2 c3 _ v1 v2 v3 h1 h2 h3 =>
    injection h with e; subst e
    have ⟨o1, o2, _⟩ := octets_lt (v4 := 0) (b64Val_lt url c1 v1 (by assumption)) (b64Val_lt url c2 v2 (by assumption))
      (b64Val_lt url c3 v3 (by assumption)) (by decide)
    simp [o1, o2]
  | case5 => cases h
  | case6 c1 c2 c3 c4 r _ _ v1 v2 v3 v4 bs' h1 h2 h3 h4 hr ih =>
    injection h with e; subst e
    have ⟨o1, o2, o3⟩ := octets_lt (b64Val_lt url c1 v1 (by assumption)) (b64Val_lt url c2 v2 (by assumption))
      (b64Val_lt url c3 v3 (by assumption)) (b64Val_lt url c4 v4 (by assumption))
    simpa [o1, o2, o3] using ih bs' (by assumption)
  | case7 => cases h
  | case8 => cases h

end SpyneModel
