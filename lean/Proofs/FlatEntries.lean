/-
  The keys of a spelled value (`kentries`) as the walk meets them: by first segment
  (`kentries_filter_head`: the keys of one member), by index below an array member (`elems_group`: the keys of one
  element, out of any interleaving), and what the spelled value denotes read member by member (`getAttr_expInto`).
  Defined here, for all that follows: the walk of one key on the pair of object graph and increments (`walkP` on
  `PSt`), and the member a path of names leads to (`memberAt`) with its row in the member table (`memOf`).
-/
import Proofs.FlatTree
import SpyneModel.FlatSpec
namespace SpyneModel.Flat
open SpyneModel

def KEntry.path (e : KEntry) : List Text := e.segs.map Prod.fst
def KEntry.idxs (e : KEntry) : List Nat := e.segs.filterMap Prod.snd
def KEntry.head (e : KEntry) : Text := match e.segs with | [] => [] | s :: _ => s.1

def KV.payload : KV → Payload
  | .prims _ many vs => .prims many vs
  | .emptyArr => .emptyArr
  | .emptyObj sub => .emptyObj sub

/-- the state of the walk: the attributes of the instance, and the frequency increments made so far -/
abbrev PSt := Attrs × List Ev

/-- one key applied to the members of an instance, increments appended -/
def walkP (F : Facts03) (strict : Bool) (fields : List Fld) (st : PSt) (e : KEntry) : Outcome PSt :=
  obind (walk F strict fields st.1 e.path e.idxs e.kv.payload) fun r => .ok (r.1, st.2 ++ r.2)

/-- the member of the class with members `fields` that the path of names leads to, through single and array object
    members alike (indexes play no part): what `stiFields` enters in the member table under the joined path -/
def memberAt : List Fld → List Text → Option (Occ × Ty)
  | _, [] => none
  | fields, [n] => (lookupFld fields n).map (fun f => (f.2.1, f.2.2))
  | fields, n :: m :: rest =>
    match lookupFld fields n with
    | some (_, _, .obj _ sub) => memberAt sub (m :: rest)
    | _ => none

/-- the `_SimpleTypeInfoElement` of a member -/
def memOf (path : List Text) (occ : Occ) : Ty → Member
  | .prim p => ⟨path, some p, occ.many, [], occ.nillable⟩
  | .obj _ fs => ⟨path, none, occ.many, fs, occ.nillable⟩

/-- what an induction over a spelled object may assume of a member: the claim for the object it spells, or for every
    element of the array it spells -/
def SVal.Below (P : Members → Prop) : SVal → Prop
  | .obj ms => P ms
  | .arr elems => ∀ i ms, (i, ms) ∈ elems → P ms
  | _ => True

/-- induction over a spelled object: `induction ms using Members.induct` -/
theorem Members.induct {P : Members → Prop} (step : ∀ ms, (∀ n sv, (n, sv) ∈ ms → sv.Below P) → P ms) (ms : Members) :
    P ms :=
  step ms <| SVal.rec_1 (motive_1 := SVal.Below P) (motive_2 := fun ms => ∀ n sv, (n, sv) ∈ ms → sv.Below P)
    (motive_3 := fun elems => ∀ i ms, (i, ms) ∈ elems → P ms) (motive_4 := fun m => m.2.Below P) (motive_5 := fun el => P el.2)
    (fun _ => trivial) (fun _ => trivial) (fun ms h => step ms h) trivial (fun _ h => h)
    (fun _ _ h => nomatch h)
    (fun _ _ h4 h2 n sv hm => by
      cases hm with
      | head => exact h4
      | tail _ hm => exact h2 n sv hm)
    (fun _ _ h => nomatch h)
    (fun _ _ h5 h3 i ms hm => by
      cases hm with
      | head => exact h5
      | tail _ hm => exact h3 i ms hm)
    (fun _ _ h => h) (fun _ ms h => step ms h) ms

theorem push_head (n : Text) (i : Option Nat) (e : KEntry) : (KEntry.push n i e).head = n := rfl

theorem kentries_eq_flatMap (fields : List Fld) (ms : Members) :
    kentries fields ms = ms.flatMap fun m => kentriesVal fields m.1 m.2 := by
  induction ms with
  | nil => rfl
  | cons a r ih => obtain ⟨n, sv⟩ := a; simp only [kentries, List.flatMap_cons, ih]

theorem kentriesElems_eq_flatMap (sub : List Fld) (k : Text) (elems : List (Nat × Members)) :
    kentriesElems sub k elems = elems.flatMap fun el => (kentries sub el.2).map (KEntry.push k (some el.1)) := by
  induction elems with
  | nil => rfl
  | cons a r ih => obtain ⟨i, ms⟩ := a; simp only [kentriesElems, List.flatMap_cons, ih]

theorem kentries_mem (fields : List Fld) (ms : Members) :
    ∀ e, e ∈ kentries fields ms → ∃ n sv, (n, sv) ∈ ms ∧ e ∈ kentriesVal fields n sv := by
  intro e he
  rw [kentries_eq_flatMap] at he
  obtain ⟨⟨n, sv⟩, h1, h2⟩ := List.mem_flatMap.mp he
  exact ⟨n, sv, h1, h2⟩

theorem kentriesElems_form (sub : List Fld) (k : Text) (elems : List (Nat × Members)) :
    ∀ e, e ∈ kentriesElems sub k elems →
      ∃ i ms y, (i, ms) ∈ elems ∧ y ∈ kentries sub ms ∧ e = y.push k (some i) := by
  intro e he
  rw [kentriesElems_eq_flatMap] at he
  obtain ⟨⟨i, ms⟩, hel, he⟩ := List.mem_flatMap.mp he
  obtain ⟨y, hy, rfl⟩ := List.mem_map.mp he
  exact ⟨i, ms, y, hel, hy, rfl⟩

theorem kentriesVal_segs (fields : List Fld) (n : Text) (sv : SVal) :
    ∀ e, e ∈ kentriesVal fields n sv → ∃ i r, e.segs = (n, i) :: r := by
  intro e he
  cases sv with
  | obj ms =>
    simp only [kentriesVal, List.mem_map] at he
    obtain ⟨e', _, rfl⟩ := he
    exact ⟨none, e'.segs, rfl⟩
  | arr elems =>
    simp only [kentriesVal] at he
    split at he
    · simp only [List.mem_singleton] at he; subst he; exact ⟨none, [], rfl⟩
    · obtain ⟨i, _, y, _, _, rfl⟩ := kentriesElems_form _ _ _ e he
      exact ⟨some i, y.segs, rfl⟩
  | _ => simp only [kentriesVal, List.mem_singleton] at he; subst he; exact ⟨none, [], rfl⟩

theorem kentriesVal_head (fields : List Fld) (n : Text) (sv : SVal) :
    ∀ e, e ∈ kentriesVal fields n sv → e.head = n := by
  intro e he
  obtain ⟨i, r, h⟩ := kentriesVal_segs fields n sv e he
  simp only [KEntry.head, h]

theorem kentries_segs_ne (fields : List Fld) (ms : Members) : ∀ e, e ∈ kentries fields ms → e.segs ≠ [] := by
  intro e he
  obtain ⟨n, sv, _, he'⟩ := kentries_mem fields ms e he
  obtain ⟨i, r, h⟩ := kentriesVal_segs fields n sv e he'
  simp [h]

theorem kentries_head_mem (fields : List Fld) (ms : Members) :
    ∀ e, e ∈ kentries fields ms → e.head ∈ ms.map Prod.fst := by
  intro e he
  obtain ⟨n, sv, hmem, he'⟩ := kentries_mem fields ms e he
  rw [kentriesVal_head fields n sv e he']
  exact List.mem_map_of_mem (f := Prod.fst) hmem

theorem kentries_filter_head (fields : List Fld) (ms : Members) (hn : (ms.map Prod.fst).Nodup) (k : Text) :
    (kentries fields ms).filter (fun e => e.head = k) =
      match ms.find? (fun m => m.1 = k) with
      | some m => kentriesVal fields m.1 m.2
      | none => [] := by
  rw [kentries_eq_flatMap,
    filter_flatMap_key Prod.fst KEntry.head _ ms (fun m _ => kentriesVal_head fields m.1 m.2) hn k]
  cases ms.find? (fun m => m.1 = k) <;> rfl

theorem push_idxs (n : Text) (oi : Option Nat) (y : KEntry) : (y.push n oi).idxs = oi.toList ++ y.idxs := by
  cases oi <;> rfl

theorem eraseItems_eq_map (items : List Node) : eraseItems items = items.map eraseNode := by
  induction items with
  | nil => rfl
  | cons a r ih => simp [eraseItems, ih]

theorem eraseAttrs_eq_map (a : Attrs) : eraseAttrs a = a.map (fun kv => (kv.1, eraseNode kv.2)) := by
  induction a with
  | nil => rfl
  | cons kv r ih => obtain ⟨k, v⟩ := kv; simp [eraseAttrs, ih]

theorem eraseAttrs_keys (a : Attrs) : (eraseAttrs a).map Prod.fst = a.map Prod.fst := by
  simp [eraseAttrs_eq_map, List.map_map, Function.comp_def]

theorem getAttr_eraseAttrs (a : Attrs) (k : Text) : getAttr (eraseAttrs a) k = eraseNode (getAttr a k) := by
  induction a with
  | nil => simp [eraseAttrs, getAttr, eraseNode]
  | cons kv r ih =>
    obtain ⟨k', v⟩ := kv
    simp only [eraseAttrs, getAttr]
    split <;> simp_all

theorem eraseAttrs_fresh (fields : List Fld) : eraseAttrs (freshAttrs fields) = freshAttrs fields := by
  induction fields with
  | nil => rfl
  | cons f r ih =>
    simp only [freshAttrs, List.map_cons, eraseAttrs, eraseNode] at *
    rw [ih]

theorem expElems_eq_map (sub : List Fld) (elems : List (Nat × Members)) :
    expElems sub elems = elems.map (fun el => Node.obj (expInto sub el.2 (freshAttrs sub))) := by
  induction elems with
  | nil => rfl
  | cons a r ih => obtain ⟨i, ms⟩ := a; simp [expElems, ih]

/-- the index a key carries at its first segment (0 when it carries none) -/
def headIdx (e : KEntry) : Nat := match e.segs with | (_, some i) :: _ => i | _ => 0

/-- the key below its first segment: `(y.push n i).tail = y` -/
def KEntry.tail (e : KEntry) : KEntry := ⟨e.segs.tail, e.kv⟩

theorem push_tail (n : Text) (i : Option Nat) (y : KEntry) : (y.push n i).tail = y := rfl

theorem kentriesElems_filter (sub : List Fld) (k : Text) (elems : List (Nat × Members))
    (hn : (elems.map Prod.fst).Nodup) (j : Nat) :
    (kentriesElems sub k elems).filter (fun e => headIdx e = j) =
      match elems.find? (fun el => el.1 = j) with
      | some el => (kentries sub el.2).map (KEntry.push k (some el.1))
      | none => [] := by
  have hkey : ∀ el : Nat × Members, el ∈ elems →
      ∀ e, e ∈ (kentries sub el.2).map (KEntry.push k (some el.1)) → headIdx e = el.1 := by
    intro el _ e he
    obtain ⟨y, _, rfl⟩ := List.mem_map.mp he
    rfl
  rw [kentriesElems_eq_flatMap, filter_flatMap_key Prod.fst headIdx _ elems hkey hn j]
  cases elems.find? (fun el => el.1 = j) <;> rfl

theorem mem_of_find (elems : List (Nat × Members)) (j : Nat) (el : Nat × Members)
    (h : elems.find? (fun el => el.1 = j) = some el) : el ∈ elems ∧ el.1 = j := by
  have := List.find?_some h
  exact ⟨List.mem_of_find?_eq_some h, by simpa using this⟩

theorem unique_of_nodup (elems : List (Nat × Members)) (hn : (elems.map Prod.fst).Nodup)
    {j : Nat} {ms ms' : Members} (h1 : (j, ms) ∈ elems) (h2 : (j, ms') ∈ elems) : ms = ms' :=
  (Prod.mk.inj (eq_of_nodup_map Prod.fst hn h1 h2 rfl)).2

theorem subOf_eq {fields : List Fld} {n : Text} {occ : Occ} {cid : Nat} {sub : List Fld}
    (h : lookupFld fields n = some (n, occ, .obj cid sub)) : subOf fields n = sub := by
  simp [subOf, h]

theorem WfFields_mem {fields : List Fld} (h : WfFields fields) {f : Fld} (hf : f ∈ fields) : WfTy f.2.2 :=
  forall_mem_of_cons (P := WfFields) (Q := fun f => WfTy f.2.2) (fun _ _ h => h) fields h f hf

theorem Wf_sub {fields : List Fld} (h : WfFields fields) {n : Text} {occ : Occ} {cid : Nat} {sub : List Fld}
    (hl : lookupFld fields n = some (n, occ, .obj cid sub)) : NamesOk sub ∧ WfFields sub := by
  have := WfFields_mem h (lookupFld_some hl).1
  simpa [WfTy] using this

theorem WtMembers_unpack {F : Facts03} {fields : List Fld} {ms : Members} (h : WtMembers F fields ms) :
    (ms.map Prod.fst).Nodup ∧ ∀ n sv, (n, sv) ∈ ms → WtVal F fields n sv := by
  refine ⟨?_, fun n sv hmem => forall_mem_of_cons (P := WtMembers F fields) (Q := fun m => WtVal F fields m.1 m.2)
    (fun _ _ h => h.2) ms h (n, sv) hmem⟩
  induction ms with
  | nil => exact List.nodup_nil
  | cons a r ih => exact List.nodup_cons.mpr ⟨h.1, ih h.2.2⟩

theorem WtElems_unpack {F : Facts03} {sub : List Fld} {elems : List (Nat × Members)} (h : WtElems F sub elems) :
    ∀ i ms, (i, ms) ∈ elems → ms ≠ [] ∧ WtMembers F sub ms :=
  fun i ms hmem => forall_mem_of_cons (P := WtElems F sub) (Q := fun el => el.2 ≠ [] ∧ WtMembers F sub el.2)
    (fun _ _ h => ⟨⟨h.1, h.2.1⟩, h.2.2⟩) elems h (i, ms) hmem

theorem WtVal_name {F : Facts03} {fields : List Fld} {n : Text} {sv : SVal} (h : WtVal F fields n sv) :
    n ∈ fields.map Prod.fst := by
  have key : ∀ f : Fld, lookupFld fields n = some f → n ∈ fields.map Prod.fst := by
    intro f hf
    obtain ⟨h1, h2⟩ := lookupFld_some hf
    exact h2 ▸ List.mem_map_of_mem (f := Prod.fst) h1
  cases sv with
  | leaf _ | leaves _ => obtain ⟨occ, p, hl, _⟩ := h; exact key _ hl
  | _ => obtain ⟨occ, cid, sub, hl, _⟩ := h; exact key _ hl

theorem kentries_ne_nil (F : Facts03) (fields : List Fld) (ms : Members) :
    WtMembers F fields ms → ms ≠ [] → kentries fields ms ≠ [] := by
  induction ms using Members.induct generalizing fields with
  | step ms ih =>
    intro hwt hne
    cases ms with
    | nil => exact absurd rfl hne
    | cons a r =>
      obtain ⟨n, sv⟩ := a
      simp only [WtMembers] at hwt
      have ih := ih n sv List.mem_cons_self
      suffices kentriesVal fields n sv ≠ [] by simp [kentries, this]
      cases sv with
      | obj ms' =>
        obtain ⟨occ, cid, sub, hl, _, hne', hwt'⟩ := hwt.2.1
        simp only [kentriesVal, ne_eq, List.map_eq_nil_iff, subOf_eq hl]
        exact ih sub hwt' hne'
      | arr el =>
        obtain ⟨occ, cid, sub, hl, _, _, hwe⟩ := hwt.2.1
        cases el with
        | nil => simp [kentriesVal]
        | cons b rb =>
          obtain ⟨i, ms0⟩ := b
          have := WtElems_unpack hwe i ms0 List.mem_cons_self
          simp only [kentriesVal, List.isEmpty_cons, Bool.false_eq_true, if_false, subOf_eq hl, kentriesElems, ne_eq,
            List.append_eq_nil_iff, List.map_eq_nil_iff, not_and]
          intro h0
          exact absurd h0 (ih i ms0 List.mem_cons_self sub this.2 this.1)
      | _ => simp [kentriesVal]

/-- the keys that address element `j`, picked out of any interleaving of the keys of the array: none when `j` is not
    an index of the spelled array, else the keys of that element in some order, each under `k[j]` -/
theorem elems_group (sub : List Fld) (k : Text) (elems : List (Nat × Members)) (hnd : (elems.map Prod.fst).Nodup)
    {es : List KEntry} (hp : es.Perm (kentriesElems sub k elems)) (j : Nat) :
    (j ∉ elems.map Prod.fst ∧ es.filter (fun e => headIdx e = j) = []) ∨
    ∃ (ms : Members) (ys : List KEntry), (j, ms) ∈ elems ∧ ys.Perm (kentries sub ms) ∧
      es.filter (fun e => headIdx e = j) = ys.map (KEntry.push k (some j)) := by
  have hfil := hp.filter (fun e => headIdx e = j)
  rw [kentriesElems_filter sub k elems hnd j] at hfil
  cases hfind : elems.find? (fun el => el.1 = j) with
  | none =>
    rw [hfind] at hfil
    refine Or.inl ⟨fun hmem => ?_, hfil.eq_nil⟩
    obtain ⟨el, hel, rfl⟩ := List.mem_map.mp hmem
    simpa using List.find?_eq_none.mp hfind el hel
  | some el =>
    rw [hfind] at hfil
    obtain ⟨hel, rfl⟩ := mem_of_find elems j el hfind
    obtain ⟨ys, hys, hyseq⟩ := perm_map_pullback (KEntry.push k (some el.1)) _ _ hfil
    exact Or.inr ⟨el.2, ys, hel, hys, hyseq⟩

theorem getAttr_expInto (fields : List Fld) (ms : Members) (hn : (ms.map Prod.fst).Nodup) (a : Attrs) (k : Text) :
    getAttr (expInto fields ms a) k =
      match ms.find? (fun m => m.1 = k) with
      | some m => expNode fields m.1 m.2
      | none => getAttr a k := by
  induction ms generalizing a with
  | nil => rfl
  | cons m r ih =>
    obtain ⟨n, sv⟩ := m
    simp only [List.map_cons, List.nodup_cons] at hn
    simp only [expInto, List.find?_cons]
    rw [ih hn.2]
    by_cases hk : n = k
    · subst hk
      have : r.find? (fun m => m.1 = n) = none := by
        apply List.find?_eq_none.mpr
        intro m hm
        simp only [decide_eq_true_eq]
        intro e
        exact hn.1 (e ▸ List.mem_map_of_mem (f := Prod.fst) hm)
      simp [this]
    · simp only [hk, decide_false]
      cases r.find? (fun m => m.1 = k) with
      | some m => rfl
      | none => simp only; exact getAttr_setAttr_ne _ _ _ _ (Ne.symm hk)

theorem expInto_keys (fields : List Fld) (ms : Members) (a : Attrs)
    (h : ∀ m, m ∈ ms → m.1 ∈ a.map Prod.fst) : (expInto fields ms a).map Prod.fst = a.map Prod.fst := by
  induction ms generalizing a with
  | nil => rfl
  | cons m r ih =>
    obtain ⟨n, sv⟩ := m
    simp only [expInto]
    have hk := setAttr_keys a n (expNode fields n sv) (h (n, sv) List.mem_cons_self)
    rw [ih (setAttr a n (expNode fields n sv)) (by
      intro m hm; rw [hk]; exact h m (List.mem_cons_of_mem _ hm)), hk]

end SpyneModel.Flat
