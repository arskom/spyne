/-
  C18: auxiliary contexts, and repeated calls on a kept `_FunctionCall` object.
-/
import Proofs.Null
import SpyneModel.NullSeq
namespace SpyneModel.Null

theorem fillOver_fresh (n : Nat) (pos : List Val) :
    fillOver (List.replicate n Val.none) pos = fillPos n pos := by
  simp [fillOver, fillPos, List.drop_replicate]

theorem packArgsFrom_fresh (F : Facts18) (keys : List String) (pos : List Val) (kw : List (String × Val)) :
    packArgsFrom F keys (List.replicate keys.length Val.none) pos kw = packArgs F keys pos kw := by
  simp only [packArgsFrom, packArgs, fillOver_fresh]

/-- slots rebuilt per call: what the function receives does not depend on what the object kept -/
theorem nullRecvFrom_fresh (F : Facts18) (h : F.slotsPerCall = true) (s : Sig) (kept : Option (List Val))
    (pos : List Val) (kw : List (String × Val)) :
    nullRecvFrom F s kept pos kw = nullRecv F s pos kw := by
  unfold nullRecvFrom nullRecv
  cases s.inKeys with
  | none => rfl
  | some keys => simp only [startSlots, h, if_true, packArgsFrom_fresh]; rfl

theorem ctxResult_eq_nullCall (F : Facts18) (s : Sig) (impl : List Val → Result) (pos : List Val)
    (kw : List (String × Val)) : ctxResult F s impl (nullRecv F s pos kw) = nullCall F s impl pos kw := rfl

/-- the result is the primary context's: auxiliary companions do not change it -/
theorem nullCallFrom_primary (F : Facts18) (h : F.auxResult = .primaryOnly) (s : Sig)
    (impl : List Val → Result) (auxs : List Aux) (kept : Option (List Val)) (pos : List Val)
    (kw : List (String × Val)) :
    nullCallFrom F s impl auxs kept pos kw = nullCallFrom F s impl [] kept pos kw := by
  simp [nullCallFrom, h]

theorem nullCallFrom_good (F : Facts18) (h : F.GoodCalls) (s : Sig) (impl : List Val → Result)
    (auxs : List Aux) (kept : Option (List Val)) (pos : List Val) (kw : List (String × Val)) :
    nullCallFrom F s impl auxs kept pos kw = nullCall F s impl pos kw := by
  simp only [nullCallFrom, h.1, nullRecvFrom_fresh F h.2, ctxResult_eq_nullCall]

/-- the i-th call on a kept `_FunctionCall` object depends on its own arguments only -/
theorem callSeq_history_free (F : Facts18) (h : F.GoodCalls) (s : Sig) (impl : List Val → Result)
    (auxs : List Aux) : ∀ (kept : Option (List Val)) (cs : List Call),
      callSeq F s impl auxs kept cs = cs.map fun c => nullCall F s impl c.1 c.2
  | _, [] => rfl
  | kept, c :: cs => by
    simp only [callSeq, List.map, nullCallFrom_good F h, callSeq_history_free F h s impl auxs _ cs]

theorem recvSeq_history_free (F : Facts18) (h : F.slotsPerCall = true) (s : Sig) :
    ∀ (kept : Option (List Val)) (cs : List Call),
      recvSeq F s kept cs = cs.map fun c => nullRecv F s c.1 c.2
  | _, [] => rfl
  | kept, c :: cs => by
    simp only [recvSeq, List.map, nullRecvFrom_fresh F h, recvSeq_history_free F h s _ cs]

theorem Res.isOk_map {α β : Type} (r : Res α) (g : α → β) : (r.map g).isOk = r.isOk := by
  cases r <;> rfl

theorem wireView_isOk (s : Sig) (r : Res Val) : (wireView s r).isOk = r.isOk := by
  cases r with
  | ok v => cases v <;> rfl
  | fault c => rfl
  | exc e => rfl

theorem wireViewP_isOk (P : ProtoCfg) (s : Sig) (r : Res Val) : (wireViewP P s r).isOk = r.isOk := by
  unfold wireViewP; rw [Res.isOk_map, wireView_isOk]

/-- NullServer ≈ wire with auxiliary companions and on a kept object -/
theorem nullFrom_eq_wireAux (F : Facts18) (hF : F.Good) (hC : F.GoodCalls) (P : ProtoCfg) (hP : P.Good)
    (τ : Val → Val) (s : Sig) (impl : List Val → Result) (auxs : List Aux) (kept : Option (List Val))
    (pos : List Val) (kw : List (String × Val))
    (hprog : ProgramOkOn τ s impl (nullRecv F s pos kw)) (hkw : KwOk F kw) (hcall : CallOk τ s pos kw) :
    wireViewP P s (nullCallFrom F s impl auxs kept pos kw) = wireCallAux F P τ s impl auxs pos kw := by
  rw [nullCallFrom_good F hC]
  exact null_eq_wire F hF P hP τ s impl pos kw hprog hkw hcall

/-- the auxiliary functions run in the same cases and with the same arguments on both paths -/
theorem auxRecv_agree (F : Facts18) (hF : F.Good) (hC : F.GoodCalls) (P : ProtoCfg) (hP : P.Good)
    (τ : Val → Val) (s : Sig) (impl : List Val → Result) (auxs : List Aux) (kept : Option (List Val))
    (pos : List Val) (kw : List (String × Val))
    (hprog : ProgramOkOn τ s impl (nullRecv F s pos kw)) (hkw : KwOk F kw) (hcall : CallOk τ s pos kw)
    (haux : ∀ a ∈ auxs, CallOk τ a.1 pos kw) :
    nullAuxRecv F s impl auxs kept pos kw = wireAuxRecv F P τ s impl auxs pos kw := by
  have hmain := null_eq_wire F hF P hP τ s impl pos kw hprog hkw hcall
  have hok : (wireCall F P τ s impl pos kw).isOk = (nullCall F s impl pos kw).isOk := by
    rw [← hmain, wireViewP_isOk]
  unfold nullAuxRecv wireAuxRecv
  rw [nullRecvFrom_fresh F hC.2, ctxResult_eq_nullCall, hok]
  split
  · apply List.map_congr_left
    intro a ha
    exact recv_agree F P hP τ a.1 pos kw hkw (haux a ha)
  · rfl

end SpyneModel.Null
