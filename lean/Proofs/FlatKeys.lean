/-
  Keys as text. `RE_HTTP_ARRAY_INDEX` applied to a rendered key
  `a.b[3].c` removes / finds exactly the indexes that were written, provided names and delimiter
  contain no `[`.
-/
import Proofs.Text
import Proofs.Prim
import SpyneModel.FlatSpec
namespace SpyneModel.Flat
open SpyneModel

theorem matchIdx_nobr (c : Char) (r : Text) (h : c ≠ '[') : matchIdx (c :: r) = none := by
  unfold matchIdx
  split
  · rename_i heq
    simp only [List.cons.injEq] at heq
    exact absurd heq.1 h
  · rfl

theorem matchIdx_index (i : Nat) (rest : Text) :
    matchIdx ('[' :: (natText i ++ ']' :: rest)) = some (natText i, rest) := by
  simp only [matchIdx, spanDigits_natText i ']' rest (by decide), natText_isEmpty]
  rfl

theorem stripIdxGo_plain (pre rest : Text) (h : ∀ c, c ∈ pre → c ≠ '[') :
    stripIdxGo 0 (pre ++ rest) = pre ++ stripIdxGo 0 rest := by
  induction pre with
  | nil => rfl
  | cons c p ih =>
    simp only [List.cons_append, stripIdxGo, matchIdx_nobr c _ (h c List.mem_cons_self)]
    rw [ih (fun c' hc' => h c' (List.mem_cons_of_mem _ hc'))]

theorem stripIdxGo_skip (l rest : Text) : stripIdxGo l.length (l ++ rest) = stripIdxGo 0 rest := by
  induction l with
  | nil => rfl
  | cons c l ih => simp only [List.length_cons, List.cons_append, stripIdxGo]; exact ih

theorem stripIdxGo_index (i : Nat) (rest : Text) :
    stripIdxGo 0 ('[' :: (natText i ++ ']' :: rest)) = stripIdxGo 0 rest := by
  simp only [stripIdxGo, matchIdx_index]
  have := stripIdxGo_skip (natText i ++ [']']) rest
  simpa [List.append_assoc] using this

theorem findIdxGo_plain (pre rest : Text) (h : ∀ c, c ∈ pre → c ≠ '[') :
    findIdxGo 0 (pre ++ rest) = findIdxGo 0 rest := by
  induction pre with
  | nil => rfl
  | cons c p ih =>
    simp only [List.cons_append, findIdxGo, matchIdx_nobr c _ (h c List.mem_cons_self)]
    exact ih (fun c' hc' => h c' (List.mem_cons_of_mem _ hc'))

theorem findIdxGo_skip (l rest : Text) : findIdxGo l.length (l ++ rest) = findIdxGo 0 rest := by
  induction l with
  | nil => rfl
  | cons c l ih => simp only [List.length_cons, List.cons_append, findIdxGo]; exact ih

theorem findIdxGo_index (i : Nat) (rest : Text) :
    findIdxGo 0 ('[' :: (natText i ++ ']' :: rest)) = i :: findIdxGo 0 rest := by
  simp only [findIdxGo, matchIdx_index, valNat_natText]
  have := findIdxGo_skip (natText i ++ [']']) rest
  simp only [List.append_assoc, List.length_append, List.length_cons, List.length_nil,
    List.cons_append, List.nil_append] at this
  rw [this]

theorem stripIdxGo_seg (s : Text × Option Nat) (rest : Text) (h : ∀ c, c ∈ s.1 → c ≠ '[') :
    stripIdxGo 0 (renderSeg s ++ rest) = s.1 ++ stripIdxGo 0 rest := by
  obtain ⟨n, oi⟩ := s
  cases oi with
  | none => exact stripIdxGo_plain n rest h
  | some i =>
    simp only [renderSeg, List.append_assoc, List.cons_append, List.nil_append]
    rw [stripIdxGo_plain n _ h, stripIdxGo_index]

theorem findIdxGo_seg (s : Text × Option Nat) (rest : Text) (h : ∀ c, c ∈ s.1 → c ≠ '[') :
    findIdxGo 0 (renderSeg s ++ rest) = (match s.2 with | some i => [i] | none => []) ++ findIdxGo 0 rest := by
  obtain ⟨n, oi⟩ := s
  cases oi with
  | none => exact findIdxGo_plain n rest h
  | some i =>
    simp only [renderSeg, List.append_assoc, List.cons_append, List.nil_append]
    rw [findIdxGo_plain n _ h, findIdxGo_index]

theorem stripIdxGo_nil : stripIdxGo 0 [] = [] := rfl
theorem findIdxGo_nil : findIdxGo 0 [] = [] := rfl

/-- `RE_HTTP_ARRAY_INDEX.sub("", key)` of a rendered key is the key of the member table -/
theorem stripIdx_renderKey (delim : Text) (segs : List (Text × Option Nat))
    (hd : ∀ c, c ∈ delim → c ≠ '[') (hs : ∀ s, s ∈ segs → ∀ c, c ∈ s.1 → c ≠ '[') :
    stripIdx (renderKey delim segs) = joinKey delim (segs.map Prod.fst) := by
  unfold stripIdx renderKey
  induction segs with
  | nil => rfl
  | cons s r ih =>
    cases r with
    | nil =>
      simp only [List.map_cons, List.map_nil, joinKey]
      have := stripIdxGo_seg s [] (hs s List.mem_cons_self)
      simpa [stripIdxGo_nil] using this
    | cons s2 r2 =>
      simp only [List.map_cons, joinKey, List.append_assoc] at ih ⊢
      rw [stripIdxGo_seg s _ (hs s List.mem_cons_self), stripIdxGo_plain delim _ hd]
      rw [ih (fun s' hs' => hs s' (List.mem_cons_of_mem _ hs'))]

/-- `RE_HTTP_ARRAY_INDEX.findall(key)` of a rendered key: the indexes that were written, in order -/
theorem findIdx_renderKey (delim : Text) (segs : List (Text × Option Nat))
    (hd : ∀ c, c ∈ delim → c ≠ '[') (hs : ∀ s, s ∈ segs → ∀ c, c ∈ s.1 → c ≠ '[') :
    findIdx (renderKey delim segs) = segs.filterMap Prod.snd := by
  unfold findIdx renderKey
  induction segs with
  | nil => rfl
  | cons s r ih =>
    cases r with
    | nil =>
      simp only [List.map_cons, List.map_nil, joinKey]
      have := findIdxGo_seg s [] (hs s List.mem_cons_self)
      simp only [List.append_nil, findIdxGo_nil] at this
      rw [this]
      obtain ⟨n, oi⟩ := s
      cases oi <;> rfl
    | cons s2 r2 =>
      simp only [List.map_cons, joinKey, List.append_assoc] at ih ⊢
      rw [findIdxGo_seg s _ (hs s List.mem_cons_self), findIdxGo_plain delim _ hd]
      rw [ih (fun s' hs' => hs s' (List.mem_cons_of_mem _ hs'))]
      obtain ⟨n, oi⟩ := s
      cases oi <;> rfl

end SpyneModel.Flat
