/-
  C14: the ordered de-duplicating handler set and the event manager built on it.
-/
import SpyneModel.Events
namespace SpyneModel.Events

theorem firstOccFrom_congr (s1 s2 : List H) (l : List H) (h : ∀ a, a ∈ s1 ↔ a ∈ s2) :
    firstOccFrom s1 l = firstOccFrom s2 l := by
  induction l generalizing s1 s2 with
  | nil => rfl
  | cons x xs ih =>
    simp only [firstOccFrom, h x]
    rw [ih s1 s2 h, ih (x :: s1) (x :: s2) fun a => by simp [h a]]

theorem osetAddAll_eq (s l : List H) : osetAddAll s l = s ++ firstOccFrom s l := by
  induction l generalizing s with
  | nil => simp [osetAddAll, firstOccFrom]
  | cons x xs ih =>
    simp only [osetAddAll, List.foldl_cons, firstOccFrom] at *
    by_cases hx : x ∈ s
    · simp only [osetAdd, hx, if_true]
      exact ih s
    · simp only [osetAdd, hx, if_false]
      rw [ih (s ++ [x])]
      rw [firstOccFrom_congr (s ++ [x]) (x :: s) xs (by intro a; simp [or_comm])]
      simp

theorem mem_firstOccFrom (s l : List H) (a : H) : a ∈ firstOccFrom s l ↔ a ∈ l ∧ a ∉ s := by
  induction l generalizing s with
  | nil => simp [firstOccFrom]
  | cons x xs ih =>
    rcases Decidable.em (a = x) with rfl | hax
    · by_cases hx : a ∈ s <;> simp [firstOccFrom, hx, ih]
    · by_cases hx : x ∈ s <;> simp [firstOccFrom, hx, hax, ih]

theorem firstOccFrom_nodup (s l : List H) : (firstOccFrom s l).Nodup := by
  induction l generalizing s with
  | nil => simp [firstOccFrom]
  | cons x xs ih =>
    simp only [firstOccFrom]
    by_cases hx : x ∈ s
    · simp only [hx, if_true]; exact ih s
    · simp only [hx, if_false, List.nodup_cons]
      refine ⟨?_, ih _⟩
      rw [mem_firstOccFrom]
      simp

theorem firstOccFrom_sublist (s l : List H) : (firstOccFrom s l).Sublist l := by
  induction l generalizing s with
  | nil => simp [firstOccFrom]
  | cons x xs ih =>
    simp only [firstOccFrom]
    by_cases hx : x ∈ s
    · simp only [hx, if_true]; exact (ih s).cons _
    · simp only [hx, if_false]; exact (ih _).cons_cons _


theorem firstOccFrom_append (s l1 l2 : List H) :
    firstOccFrom s (l1 ++ l2) = firstOccFrom s l1 ++ firstOccFrom (s ++ firstOccFrom s l1) l2 := by
  have h := osetAddAll_eq s (l1 ++ l2)
  simp only [osetAddAll, List.foldl_append] at h
  have h1 := osetAddAll_eq s l1
  simp only [osetAddAll] at h1
  rw [h1] at h
  have h2 := osetAddAll_eq (s ++ firstOccFrom s l1) l2
  simp only [osetAddAll] at h2
  rw [h2, List.append_assoc] at h
  exact (List.append_cancel_left h).symm

theorem mem_firstOcc (l : List H) (a : H) : a ∈ firstOcc l ↔ a ∈ l := by
  simp [firstOcc, mem_firstOccFrom]

theorem firstOcc_nodup (l : List H) : (firstOcc l).Nodup := firstOccFrom_nodup [] l

/-- registering more never reorders what is there -/
theorem firstOcc_prefix_append (l1 l2 : List H) : firstOcc l1 <+: firstOcc (l1 ++ l2) :=
  ⟨_, (firstOccFrom_append [] l1 l2).symm⟩

variable {ν : Type} [DecidableEq ν]

theorem addAll_get (m : Mgr ν) (regs : List (ν × H)) (e : ν) :
    (m.addAll regs) e = osetAddAll (m e) (regsFor regs e) := by
  induction regs generalizing m with
  | nil => simp [Mgr.addAll, regsFor, osetAddAll]
  | cons r rs ih =>
    simp only [Mgr.addAll, List.foldl_cons] at *
    rw [ih]
    simp only [Mgr.addListener, regsFor, List.filter_cons]
    by_cases h : r.1 = e
    · simp [h, osetAddAll]
    · have h' : ¬ e = r.1 := fun c => h c.symm
      simp [h, h']

theorem build_get (regs : List (ν × H)) (e : ν) :
    (Mgr.build regs) e = firstOcc (regsFor regs e) := by
  simp only [Mgr.build, addAll_get, Mgr.empty, osetAddAll_eq, firstOcc, List.nil_append]

omit [DecidableEq ν] in
theorem inherit_fold (bases : List (Mgr ν)) (acc : List H) (e : ν) :
    bases.foldl (fun acc b => osetAddAll acc (b e)) acc = osetAddAll acc (bases.flatMap (fun b => b e)) := by
  induction bases generalizing acc with
  | nil => simp [osetAddAll]
  | cons b bs ih =>
    simp only [List.foldl_cons, List.flatMap_cons, ih]
    simp [osetAddAll, List.foldl_append]

omit [DecidableEq ν] in
theorem inherit_get (bases : List (Mgr ν)) (e : ν) :
    (Mgr.inherit bases) e = firstOcc (bases.flatMap (fun b => b e)) := by
  show bases.foldl (fun acc b => osetAddAll acc (b e)) [] = _
  rw [inherit_fold, osetAddAll_eq]; rfl


theorem firstOccFrom_cons_filter (h : H) (s l : List H) :
    (firstOccFrom (h :: s) l).filter (fun x => x != h) = (firstOccFrom s l).filter (fun x => x != h) := by
  induction l generalizing s with
  | nil => rfl
  | cons x xs ih =>
    by_cases hxh : x = h
    · subst hxh; by_cases hxs : x ∈ s <;> simp [firstOccFrom, hxs, ih]
    · have := firstOccFrom_congr (x :: h :: s) (h :: x :: s) xs (by intro a; simp [or_left_comm])
      by_cases hxs : x ∈ s <;> simp [firstOccFrom, hxs, hxh, ih, this]

theorem firstOccFrom_filter (h : H) (s l : List H) :
    firstOccFrom s (l.filter (fun x => x != h)) = (firstOccFrom s l).filter (fun x => x != h) := by
  induction l generalizing s with
  | nil => rfl
  | cons x xs ih =>
    by_cases hxh : x = h
    · subst hxh; by_cases hs : x ∈ s <;> simp [firstOccFrom, hs, ih, firstOccFrom_cons_filter]
    · by_cases hs : x ∈ s <;> simp [firstOccFrom, hs, hxh, ih]

theorem firstOcc_append_singleton (l : List H) (h : H) : firstOcc (l ++ [h]) = osetAdd (firstOcc l) h := by
  simp only [firstOcc, firstOccFrom_append, List.nil_append, firstOccFrom, osetAdd]
  by_cases hm : h ∈ firstOccFrom [] l <;> simp [hm]

theorem firstOcc_idem (l : List H) (hn : l.Nodup) : firstOcc l = l := by
  have : ∀ s : List H, (∀ a ∈ l, a ∉ s) → firstOccFrom s l = l := by
    induction l with
    | nil => intro s _; rfl
    | cons x xs ih =>
      intro s hs
      have hx : x ∉ s := hs x (by simp)
      simp only [firstOccFrom, hx, if_false]
      congr 1
      have hn' := List.nodup_cons.1 hn
      apply ih hn'.2
      intro a ha
      simp only [List.mem_cons, not_or]
      exact ⟨fun c => hn'.1 (c ▸ ha), hs a (by simp [ha])⟩
  exact this [] (by simp)

theorem applyAll_get (m : Mgr ν) (ops : List (Op ν)) (e : ν) (acc : List H) (h0 : m e = firstOcc acc) :
    (m.applyAll ops) e = firstOcc (netRegs e acc ops) := by
  induction ops generalizing m acc with
  | nil => simpa [Mgr.applyAll, netRegs] using h0
  | cons op ops ih =>
    simp only [Mgr.applyAll, List.foldl_cons] at ih ⊢
    cases op with
    | add e' h =>
      simp only [netRegs]
      apply ih
      simp only [Mgr.applyOp, Mgr.addListener]
      by_cases he : e' = e
      · subst he; simp [h0, firstOcc_append_singleton]
      · have : ¬ e = e' := fun c => he c.symm
        simp [he, this, h0]
    | del e' h =>
      simp only [netRegs]
      apply ih
      simp only [Mgr.applyOp, Mgr.delListener, osetDiscard]
      by_cases he : e' = e
      · subst he; simp only [if_true, h0, firstOcc]; exact (firstOccFrom_filter h [] acc).symm
      · have : ¬ e = e' := fun c => he c.symm
        simp [he, this, h0]
    | clear e' =>
      simp only [netRegs]
      apply ih
      simp only [Mgr.applyOp, Mgr.clear]
      by_cases he : e' = e
      · subst he; simp [firstOcc, firstOccFrom]
      · have : ¬ e = e' := fun c => he c.symm
        simp [he, this, h0]
    | fire e' =>
      simp only [netRegs]
      exact ih _ _ (by simpa [Mgr.applyOp] using h0)

theorem applyAll_snoc (m : Mgr ν) (ops : List (Op ν)) (op : Op ν) :
    m.applyAll (ops ++ [op]) = (m.applyAll ops).applyOp op := by
  simp [Mgr.applyAll, List.foldl_append]

/-- every firing of an interleaved history sees the net registrations made before it -/
theorem runHistory_spec (done ops : List (Op ν)) :
    (Mgr.empty.applyAll done).runHistory ops = specFires done ops := by
  induction ops generalizing done with
  | nil => rfl
  | cons op ops ih =>
    cases op with
    | fire e =>
      simp only [Mgr.runHistory, specFires]
      congr 1
      · exact applyAll_get Mgr.empty done e [] rfl
      · have := ih (done ++ [.fire e]); rwa [applyAll_snoc] at this
    | add e h => simp only [Mgr.runHistory, specFires]; have := ih (done ++ [.add e h]); rwa [applyAll_snoc] at this
    | del e h => simp only [Mgr.runHistory, specFires]; have := ih (done ++ [.del e h]); rwa [applyAll_snoc] at this
    | clear e => simp only [Mgr.runHistory, specFires]; have := ih (done ++ [.clear e]); rwa [applyAll_snoc] at this

theorem applyAll_nodup (m : Mgr ν) (ops : List (Op ν)) (e : ν) (hn : (m e).Nodup) :
    ((m.applyAll ops) e).Nodup := by
  rw [applyAll_get m ops e (m e) (firstOcc_idem _ hn).symm]
  exact firstOccFrom_nodup _ _

end SpyneModel.Events
