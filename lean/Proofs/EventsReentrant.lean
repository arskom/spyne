/-
  C14: under re-entrant registration and removal, a listener that was registered before
  the firing and is not removed during it is called exactly once.
-/
import SpyneModel.EventsReentrant
namespace SpyneModel.Events

/-- the invariant of the walk for a listener `h` that nobody removes: `h` is still ahead and has not been called, or has
    been passed and called exactly once (`pos`); it is never among the unlinked nodes reached through stale pointers,
    and a walk stuck on the end sentinel has nothing ahead, so `h` cannot be stranded there -/
structure WalkInv (h : H) (w : Walk) : Prop where
  nodup : w.ahead.Nodup
  notDead : h ∉ w.dead
  stuckEmpty : w.stuck = true → w.ahead = []
  pos : (h ∈ w.ahead ∧ h ∉ w.visited ∧ w.calls.count h = 0) ∨
        (h ∈ w.visited ∧ h ∉ w.ahead ∧ w.calls.count h = 1)

theorem mem_rm (k x : H) (l : List H) : x ∈ rm k l ↔ x ∈ l ∧ x ≠ k := by
  simp [rm]

theorem rm_nodup (k : H) (l : List H) (h : l.Nodup) : (rm k l).Nodup := h.sublist List.filter_sublist

theorem mem_tail_of_ne_head (x k : H) (l : List H) (hx : x ∈ l) (hk : l.head? = some k) (hne : x ≠ k) :
    x ∈ l.tail := by
  cases l with
  | nil => simp at hx
  | cons a t =>
    simp only [List.head?_cons, Option.some.injEq] at hk
    subst hk
    rcases List.mem_cons.1 hx with rfl | hx
    · exact absurd rfl hne
    · simpa using hx

theorem inv_del (h k : H) (w : Walk) (hk : k ≠ h) (I : WalkInv h w) : WalkInv h (w.del k) := by
  unfold Walk.del
  by_cases h1 : k ∈ w.ahead
  · simp only [h1, if_true]
    by_cases h2 : (w.curDead && (w.ahead.head? == some k)) = true
    · simp only [h2, if_true]
      have hhead : w.ahead.head? = some k := by
        simp only [Bool.and_eq_true, beq_iff_eq] at h2; exact h2.2
      refine ⟨I.nodup.sublist (List.tail_sublist _), ?_, ?_, ?_⟩
      · simp only [List.mem_append, List.mem_singleton, not_or]
        exact ⟨I.notDead, fun c => hk c.symm⟩
      · intro hs
        simp only [Bool.or_eq_true, List.isEmpty_iff] at hs
        rcases hs with hs | hs
        · have := I.stuckEmpty hs; simp [this]
        · exact hs
      · rcases I.pos with ⟨a, b, c⟩ | ⟨a, b, c⟩
        · exact Or.inl ⟨mem_tail_of_ne_head h k _ a hhead (fun c => hk c.symm), b, c⟩
        · exact Or.inr ⟨a, fun c' => b (List.mem_of_mem_tail c'), c⟩
    · simp only [h2, Bool.false_eq_true, if_false]
      refine ⟨rm_nodup _ _ I.nodup, I.notDead, ?_, ?_⟩
      · intro hs; have := I.stuckEmpty hs; simp [this, rm]
      · rcases I.pos with ⟨a, b, c⟩ | ⟨a, b, c⟩
        · exact Or.inl ⟨(mem_rm _ _ _).2 ⟨a, fun c => hk c.symm⟩, b, c⟩
        · exact Or.inr ⟨a, fun c' => b ((mem_rm _ _ _).1 c').1, c⟩
  · simp only [h1, if_false]
    by_cases h3 : k ∈ w.visited
    · simp only [h3, if_true]
      refine ⟨I.nodup, I.notDead, ?_, ?_⟩
      · intro hs
        simp only [Bool.or_eq_true, Bool.and_eq_true, List.isEmpty_iff] at hs
        rcases hs with hs | ⟨_, hs⟩
        · exact I.stuckEmpty hs
        · exact hs
      · rcases I.pos with ⟨a, b, c⟩ | ⟨a, b, c⟩
        · exact Or.inl ⟨a, fun c' => b ((mem_rm _ _ _).1 c').1, c⟩
        · exact Or.inr ⟨(mem_rm _ _ _).2 ⟨a, fun c => hk c.symm⟩, b, c⟩
    · simp only [h3, if_false]
      exact ⟨I.nodup, I.notDead, I.stuckEmpty, I.pos⟩

theorem inv_add (h k : H) (w : Walk) (I : WalkInv h w) : WalkInv h (w.add k) := by
  unfold Walk.add
  by_cases h1 : k ∈ w.visited ∨ k ∈ w.ahead ∨ k ∈ w.unreach
  · simp only [h1, if_true]; exact I
  · simp only [h1, if_false]
    by_cases hs : w.stuck = true
    · simp only [hs, if_true]
      exact ⟨I.nodup, I.notDead, fun _ => I.stuckEmpty hs, I.pos⟩
    · simp only [hs, Bool.false_eq_true, if_false]
      have hka : k ∉ w.ahead := fun c => h1 (Or.inr (Or.inl c))
      have hkv : k ∉ w.visited := fun c => h1 (Or.inl c)
      refine ⟨?_, I.notDead, fun c => by simp at c, ?_⟩
      · rw [List.nodup_append]
        refine ⟨I.nodup, by simp, ?_⟩
        intro a ha b hb
        simp only [List.mem_singleton] at hb
        subst hb
        exact fun c => hka (c ▸ ha)
      · rcases I.pos with ⟨a, b, c⟩ | ⟨a, b, c⟩
        · exact Or.inl ⟨List.mem_append_left _ a, b, c⟩
        · refine Or.inr ⟨a, ?_, c⟩
          simp only [List.mem_append, List.mem_singleton, not_or]
          exact ⟨b, fun c' => hkv (c' ▸ a)⟩

theorem inv_ops (h : H) (ops : List ROp) (w : Walk) (hno : ROp.del h ∉ ops) (I : WalkInv h w) :
    WalkInv h (ops.foldl Walk.apply w) := by
  induction ops generalizing w with
  | nil => exact I
  | cons op ops ih =>
    simp only [List.foldl_cons]
    apply ih
    · exact fun c => hno (List.mem_cons_of_mem _ c)
    · cases op with
      | add k => exact inv_add h k w I
      | del k =>
        have : k ≠ h := fun c => hno (by subst c; simp)
        exact inv_del h k w this I

/-- calling a listener only appends to `calls`; the program cannot touch it -/
theorem inv_call (prog : H → List ROp) (h x : H) (w : Walk) (hnd : ∀ k, ROp.del h ∉ prog k)
    (I : WalkInv h { w with calls := w.calls ++ [x] }) : WalkInv h (w.call prog x) := by
  unfold Walk.call
  simp only
  split
  · exact I
  · exact inv_ops h (prog x) _ (hnd x) ⟨I.nodup, I.notDead, I.stuckEmpty, I.pos⟩

theorem inv_step (prog : H → List ROp) (h x : H) (w w' : Walk) (hnd : ∀ k, ROp.del h ∉ prog k)
    (I : WalkInv h w) (hn : w.next = some (x, w')) : WalkInv h (w'.call prog x) := by
  apply inv_call prog h x w' hnd
  unfold Walk.next at hn
  split at hn
  · rename_i d ds hd
    simp only [Option.some.injEq, Prod.mk.injEq] at hn
    obtain ⟨rfl, rfl⟩ := hn
    have hdh : d ≠ h := fun c => I.notDead (by rw [hd, c]; simp)
    refine ⟨I.nodup, fun c => I.notDead (by rw [hd]; exact List.mem_cons_of_mem _ c), I.stuckEmpty, ?_⟩
    have hc : (w.calls ++ [d]).count h = w.calls.count h := by
      simp [List.count_append, hdh]
    simpa only [hc] using I.pos
  · split at hn
    · cases hn
    · split at hn
      · rename_i n rest ha
        simp only [Option.some.injEq, Prod.mk.injEq] at hn
        obtain ⟨rfl, rfl⟩ := hn
        have hnd' : (n :: rest).Nodup := ha ▸ I.nodup
        have hn1 := (List.nodup_cons.1 hnd').1
        refine ⟨(List.nodup_cons.1 hnd').2, I.notDead, ?_, ?_⟩
        · intro hs
          have := I.stuckEmpty hs
          rw [ha] at this; cases this
        · by_cases hnh : n = h
          · subst hnh
            rcases I.pos with ⟨a, b, c⟩ | ⟨a, b, c⟩
            · refine Or.inr ⟨by simp, hn1, ?_⟩
              simp [List.count_append, c]
            · exact absurd (by rw [ha]; simp) b
          · have hc : (w.calls ++ [n]).count h = w.calls.count h := by
              simp [List.count_append, hnh]
            rcases I.pos with ⟨a, b, c⟩ | ⟨a, b, c⟩
            · refine Or.inl ⟨?_, ?_, by simpa only [hc] using c⟩
              · rw [ha] at a
                rcases List.mem_cons.1 a with rfl | a
                · exact absurd rfl hnh
                · exact a
              · simp only [List.mem_append, List.mem_singleton, not_or]
                exact ⟨b, fun c' => hnh c'.symm⟩
            · refine Or.inr ⟨List.mem_append_left _ a, ?_, by simpa only [hc] using c⟩
              exact fun c' => b (by rw [ha]; exact List.mem_cons_of_mem _ c')
      · cases hn

theorem inv_run (prog : H → List ROp) (h : H) (hnd : ∀ k, ROp.del h ∉ prog k) (fuel : Nat) (w : Walk)
    (I : WalkInv h w) : WalkInv h (Walk.run prog fuel w) := by
  induction fuel generalizing w with
  | zero => exact I
  | succ n ih =>
    unfold Walk.run
    split
    · exact I
    · rename_i x w' hn
      exact ih _ (inv_step prog h x w w' hnd I hn)

theorem inv_start (h : H) (s : List H) (hs : s.Nodup) (hh : h ∈ s) : WalkInv h (Walk.start s) :=
  ⟨hs, by simp [Walk.start], by simp [Walk.start], Or.inl ⟨hh, by simp [Walk.start], by simp [Walk.start]⟩⟩

theorem next_none_ahead (w : Walk) (h : H) (I : WalkInv h w) (hn : w.next = none) : w.ahead = [] := by
  unfold Walk.next at hn
  split at hn
  · cases hn
  · split at hn
    · rename_i hs; exact I.stuckEmpty hs
    · split at hn
      · cases hn
      · rename_i ha; exact ha

/-- A listener registered before the firing that no listener removes during it is called exactly once,
    whatever the listeners register and unregister while the event fires. -/
theorem reentrant_called_once (prog : H → List ROp) (fuel : Nat) (s : List H) (h : H) (hs : s.Nodup)
    (hh : h ∈ s) (hnd : ∀ k, ROp.del h ∉ prog k) (hterm : (fireReentrant prog fuel s).next = none) :
    (fireReentrant prog fuel s).calls.count h = 1 := by
  have I := inv_run prog h hnd fuel _ (inv_start h s hs hh)
  have ha := next_none_ahead _ h I hterm
  rcases I.pos with ⟨a, _, _⟩ | ⟨_, _, c⟩
  · unfold fireReentrant at ha; rw [ha] at a; cases a
  · exact c

end SpyneModel.Events
