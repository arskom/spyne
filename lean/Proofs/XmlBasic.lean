/-
  Basic lemmas about the XML encoder's output, the instance state of `complex_from_element` and the registry
  (`ifaceWf` read by name; a registered class is what its key finds, `lookup_of_class`, and back, `lookup_class`).
-/
import SpyneModel.XmlSpec
import Proofs.Assoc
import Proofs.Types
namespace SpyneModel

namespace Xml

/-- a conjunction over a list, defined by recursion, after one more element -/
theorem all_snoc {α : Type} {f : α → Bool} {g : List α → Bool} (hnil : g [] = true)
    (hcons : ∀ a l, g (a :: l) = (f a && g l)) (l : List α) (v : α) (hl : g l = true) (hv : f v = true) :
    g (l ++ [v]) = true := by
  rw [all_of_rec hnil hcons] at hl ⊢
  simp [hl, hv]

/-- a condition on the members that passes from `(k, a) :: fs` to `a` and to `fs` holds of whatever a name looks up -/
theorem lookup_of_cons {α : Type} {Q : List (Text × α) → Prop} {P : α → Prop}
    (hcons : ∀ k a fs, Q ((k, a) :: fs) → P a ∧ Q fs) :
    (fs : List (Text × α)) → Q fs → ∀ k a, fs.lookup k = some a → P a
  | [], _, k, a, h => by cases h
  | (k0, a0) :: fs, hq, k, a, h => by
    simp only [List.lookup] at h
    split at h
    · cases h; exact (hcons _ _ _ hq).1
    · exact lookup_of_cons hcons fs (hcons _ _ _ hq).2 k a h


def keys (st : List (Text × Val)) : List Text := st.map (·.1)

theorem stGet_at (done : List (Text × Val)) (k : Text) (x : Val) (tail : List (Text × Val))
    (hk : k ∉ keys done) : stGet (done ++ (k, x) :: tail) k = x := by
  induction done with
  | nil => simp [stGet]
  | cons a d ih =>
    obtain ⟨k0, x0⟩ := a
    simp only [keys, List.map, List.mem_cons, not_or] at hk
    have hne : (k == k0) = false := by simp [hk.1]
    have := ih hk.2
    simpa [stGet, List.lookup, hne] using this

theorem stSet_at (done : List (Text × Val)) (k : Text) (x v : Val) (tail : List (Text × Val))
    (hk : k ∉ keys done) : stSet (done ++ (k, x) :: tail) k v = done ++ (k, v) :: tail := by
  induction done with
  | nil => simp [stSet]
  | cons a d ih =>
    obtain ⟨k0, x0⟩ := a
    simp only [keys, List.map, List.mem_cons, not_or] at hk
    have hne : ¬ k0 = k := fun h => hk.1 h.symm
    simp only [List.cons_append, stSet, hne, if_false]
    rw [ih hk.2]

/-! ### slot-wise invariants of the instance state

Every invariant the proofs carry through `complex_from_element` has the same shape: the instance lists the
members in declaration order and every slot satisfies a condition on the member and its value. The three
ways the decoder touches the instance (creation, `setattr`, nothing) are handled here once. -/

def Slots {α : Type} (R : Text → α → Val → Prop) : List (Text × α) → List (Text × Val) → Prop
  | [], [] => True
  | (k, a) :: fs, (k', w) :: st => k = k' ∧ R k a w ∧ Slots R fs st
  | _, _ => False

theorem Slots.init {α : Type} {R : Text → α → Val → Prop} :
    (fs : List (Text × α)) → (∀ f ∈ fs, R f.1 f.2 .none) → Slots R fs (fs.map (fun f => (f.1, Val.none)))
  | [], _ => trivial
  | (k, a) :: fs, h =>
    ⟨rfl, h (k, a) List.mem_cons_self, Slots.init fs (fun f hf => h f (List.mem_cons_of_mem _ hf))⟩

theorem Slots.mono {α : Type} {R R' : Text → α → Val → Prop} :
    (fs : List (Text × α)) → (st : List (Text × Val)) →
    (∀ f ∈ fs, ∀ w, R f.1 f.2 w → R' f.1 f.2 w) → Slots R fs st → Slots R' fs st
  | [], [], _, _ => trivial
  | [], _ :: _, _, h => False.elim h
  | _ :: _, [], _, h => False.elim h
  | (k, a) :: fs, (_, w) :: st, hm, ⟨hk, hs, hr⟩ =>
    ⟨hk, hm (k, a) List.mem_cons_self w hs, Slots.mono fs st (fun f hf => hm f (List.mem_cons_of_mem _ hf)) hr⟩

/-- `setattr(inst, key, v)` where member names are distinct: the slot of `key` goes from its old value to
    `v`, every other slot keeps its value (the condition on it may change) -/
theorem Slots.set {α : Type} {R R' : Text → α → Val → Prop} {key : Text} {a : α} (v : Val) :
    (fs : List (Text × α)) → (st : List (Text × Val)) → (fs.map (·.1)).Nodup → fs.lookup key = some a →
    (∀ f ∈ fs, f.1 ≠ key → ∀ w, R f.1 f.2 w → R' f.1 f.2 w) →
    (R key a (stGet st key) → R' key a v) →
    Slots R fs st → Slots R' fs (stSet st key v)
  | [], _, _, hl, _, _, _ => nomatch hl
  | _ :: _, [], _, _, _, _, h => False.elim h
  | (k, a') :: fs, (k', w) :: st, hnd, hl, hother, hkey, ⟨hk, hs, hr⟩ => by
    subst hk
    obtain ⟨hknot, hnd'⟩ := List.nodup_cons.mp hnd
    by_cases hkk : k = key
    · subst hkk
      obtain rfl : a' = a := by simpa [List.lookup] using hl
      simp only [stSet, if_true]
      refine ⟨rfl, hkey (by simpa [stGet, List.lookup] using hs), ?_⟩
      refine Slots.mono fs st (fun f hf => hother f (List.mem_cons_of_mem _ hf) ?_) hr
      intro e
      exact hknot (by rw [← e]; exact List.mem_map_of_mem (f := (·.1)) hf)
    · have hb : (key == k) = false := by simp [Ne.symm hkk]
      simp only [stSet, hkk, if_false]
      refine ⟨rfl, hother (k, a') List.mem_cons_self hkk w hs, ?_⟩
      refine Slots.set v fs st hnd' (by simpa [List.lookup, hb] using hl)
        (fun f hf => hother f (List.mem_cons_of_mem _ hf)) ?_ hr
      intro hs'
      exact hkey (by simpa [stGet, List.lookup, hb] using hs')

/-- `setattr(inst, key, v)` under a condition that does not change: names need not be distinct, the first slot
    of that name is the one `getattr` reads -/
theorem Slots.set_same {α : Type} {R : Text → α → Val → Prop} {key : Text} {a : α} (v : Val) :
    (fs : List (Text × α)) → (st : List (Text × Val)) → fs.lookup key = some a →
    (R key a (stGet st key) → R key a v) →
    Slots R fs st → Slots R fs (stSet st key v)
  | [], _, hl, _, _ => nomatch hl
  | _ :: _, [], _, _, h => False.elim h
  | (k, a') :: fs, (k', w) :: st, hl, hkey, ⟨hk, hs, hr⟩ => by
    subst hk
    by_cases hkk : k = key
    · subst hkk
      obtain rfl : a' = a := by simpa [List.lookup] using hl
      simp only [stSet, if_true]
      exact ⟨rfl, hkey (by simpa [stGet, List.lookup] using hs), hr⟩
    · have hb : (key == k) = false := by simp [Ne.symm hkk]
      simp only [stSet, hkk, if_false]
      refine ⟨rfl, hs, Slots.set_same v fs st (by simpa [List.lookup, hb] using hl) ?_ hr⟩
      intro hs'
      exact hkey (by simpa [stGet, List.lookup, hb] using hs')

/-- `value = getattr(inst, key, None) or []; value.append(v)` -/
def accStep (acc : Val) (w : Val) : Val :=
  match acc with
  | .list l => .list (l ++ [w])
  | _ => .list [w]

/-- what the child loop does with the value of a child: one `setattr`, of the value itself or, for a repeated
    member, of the list so far with the value appended -/
theorem store_eq (rep : Bool) (st : List (Text × Val)) (key : Text) (v : Val) :
    (if rep then stAppend st key v else stSet st key v) =
      stSet st key (if rep then accStep (stGet st key) v else v) := by
  cases rep
  · rfl
  · simp only [if_true, stAppend, accStep]
    split <;> simp_all

theorem keys_snoc_fresh {k : Text} {names : List Text} {done : List (Text × Val)} (hknot : k ∉ names)
    (hdone : ∀ k' ∈ k :: names, k' ∉ keys done) (w : Val) : ∀ k' ∈ names, k' ∉ keys (done ++ [(k, w)]) := by
  intro k' hk'
  simp only [keys, List.map_append, List.map, List.mem_append, List.mem_singleton, not_or]
  exact ⟨hdone k' (List.mem_cons_of_mem _ hk'), fun h => hknot (h ▸ hk')⟩

theorem initState_cons (k : Text) (t : Ty) (fs : List (Text × Ty)) :
    initState ((k, t) :: fs) = (k, Val.none) :: initState fs := rfl


def fieldNames (fs : List (Text × Ty)) : List Text := fs.map (·.1)

theorem namesNodup_cons {k : Text} {t : Ty} {fs : List (Text × Ty)} (h : namesNodup ((k, t) :: fs) = true) :
    k ∉ fieldNames fs ∧ namesNodup fs = true := by
  simp only [namesNodup, Bool.and_eq_true, Bool.not_eq_true', List.any_eq_false] at h
  refine ⟨?_, h.2⟩
  intro hk
  simp only [fieldNames, List.mem_map] at hk
  obtain ⟨f, hf, hfk⟩ := hk
  exact h.1 f hf (by simpa using hfk)

theorem nodup_of_namesNodup : (fs : List (Text × Ty)) → namesNodup fs = true → (fs.map (·.1)).Nodup
  | [], _ => List.nodup_nil
  | (_, _) :: fs, h =>
    List.nodup_cons.mpr ⟨(namesNodup_cons h).1, nodup_of_namesNodup fs (namesNodup_cons h).2⟩

theorem lookupField_of_plain (fields : List (Text × Ty)) (a : Text)
    (hp : fields.all (fun f => plainName f.1) = true) (ha : plainName a = false) :
    lookupField fields a = none :=
  lookup_eq_none.mpr fun f hf e => by rw [← e, List.all_eq_true.mp hp f hf] at ha; cases ha

theorem childAttrCrash_of_plain (X : FactsXml) (fields : List (Text × Ty)) (attrs : List (Text × Text))
    (hp : fields.all (fun f => plainName f.1) = true) (ha : ∀ a ∈ attrs, plainName a.1 = false) :
    childAttrCrash X fields attrs = false := by
  unfold childAttrCrash
  have : attrs.any (fun a => (lookupField fields a.1).isSome) = false := by
    rw [List.any_eq_false]
    intro a hmem
    rw [lookupField_of_plain fields a.1 hp (ha a hmem)]
    simp
  simp [this]

/-- children named `k` among `pre ++ mid ++ post` when exactly those in `mid` carry that name -/
theorem countP_name_mid (pre mid post : List Node) (k : Text) (h1 : ∀ e ∈ pre, e.name ≠ k)
    (h2 : ∀ e ∈ mid, e.name = k) (h3 : ∀ e ∈ post, e.name ≠ k) :
    (pre ++ (mid ++ post)).countP (fun c => c.name = k) = mid.length := by
  have z1 : pre.countP (fun c => c.name = k) = 0 := by
    rw [List.countP_eq_zero]; intro e he; simpa using h1 e he
  have z3 : post.countP (fun c => c.name = k) = 0 := by
    rw [List.countP_eq_zero]; intro e he; simpa using h3 e he
  have z2 : mid.countP (fun c => c.name = k) = mid.length := by
    rw [List.countP_eq_length]; intro e he; simpa using h2 e he
  simp only [List.countP_append, z1, z2, z3, Nat.zero_add, Nat.add_zero]

theorem plain_xsiNil : plainName xsiNilKey = false := by decide
theorem plain_xsiType : plainName xsiTypeKey = false := by decide

theorem clark_inj {ns a b : Text} (h : clark ns a = clark ns b) : a = b := by
  unfold clark at h
  injection h with _ h
  injection List.append_cancel_left h

theorem xsiType_ne_nil : (xsiNilKey == xsiTypeKey) = false := by
  rw [beq_eq_false_iff_ne]
  exact fun h => absurd (clark_inj h) (by decide)


/-- a class type: what SOAP header classes and wrapped out-messages are -/
def isObjTy : Ty → Bool
  | .obj _ _ _ _ _ => true
  | _ => false

theorem textsNodup_iff (l : List Text) : textsNodup l = true ↔ l.Nodup :=
  nodup_iff_of_rec rfl (fun _ _ => rfl) l

theorem find?_key_of_mem {α : Type} (f : α → Text) (cs : List α) (c : α)
    (hn : textsNodup (cs.map f) = true) (hc : c ∈ cs) : cs.find? (fun d => f d = f c) = some c :=
  find?_of_mem_nodup f ((textsNodup_iff _).mp hn) hc fun _ _ => decide_eq_true_iff

theorem ifaceWf_names {I : Iface} (h : ifaceWf I = true) : textsNodup (I.classes.map (·.name)) = true := by
  simp only [ifaceWf, Bool.and_eq_true] at h; exact h.1.1.1

theorem ifaceWf_keys {I : Iface} (h : ifaceWf I = true) :
    textsNodup (I.classes.map (fun c => clark c.ns c.name)) = true := by
  simp only [ifaceWf, Bool.and_eq_true] at h; exact h.1.1.2

theorem ifaceWf_others {I : Iface} (h : ifaceWf I = true) :
    ∀ e ∈ I.others, (match e.2 with | .obj _ _ _ _ _ => false | _ => true) = true := by
  simp only [ifaceWf, Bool.and_eq_true, List.all_eq_true] at h; exact h.1.2

theorem ifaceWf_fields {I : Iface} (h : ifaceWf I = true) :
    ∀ c ∈ I.classes, namesNodup c.fields = true ∧ c.fields.all (fun f => plainName f.1) = true ∧
      wfFields c.fields = true := by
  simp only [ifaceWf, Bool.and_eq_true, List.all_eq_true] at h
  intro c hc
  have := h.2 c hc
  exact ⟨this.1.1, by simpa [List.all_eq_true] using this.1.2, this.2⟩

/-- a registered class is what its key finds -/
theorem lookup_of_class {I : Iface} (hI : ifaceWf I = true) {c : ClassDef} (hc : c ∈ I.classes) :
    I.lookup (clark c.ns c.name) = some (ClassDef.toTy c) := by
  unfold Iface.lookup
  rw [find?_key_of_mem (fun c => clark c.ns c.name) I.classes c (ifaceWf_keys hI) hc]

/-- conversely, what a key finds is a registered class, found under its own name as well, or one of the other
    registered types -/
theorem lookup_class {I : Iface} (hI : ifaceWf I = true) {key : Text} {nt : Ty}
    (h : I.lookup key = some nt) :
    (∃ c, nt = ClassDef.toTy c ∧ I.classes.find? c.name = some c) ∨ I.others.lookup key = some nt := by
  unfold Iface.lookup at h
  split at h
  · rename_i c hc
    left
    refine ⟨c, (Option.some.inj h).symm, ?_⟩
    have hmem := List.mem_of_find?_eq_some hc
    exact find?_key_of_mem (·.name) _ _ (ifaceWf_names hI) hmem
  · right; exact h

/-- `xsi:type` naming a registered class that descends from the declared one resolves to that class -/
theorem resolveXsi_class {X : FactsXml} {I : Iface} (hI : ifaceWf I = true) {c : ClassDef} (hc : c ∈ I.classes)
    (dn dns : Text) (db : Option Text) (dfs : List (Text × Ty)) (docc : Occ) (hs : I.isSub c.name dn = true) :
    resolveXsi X I (.obj dn dns db dfs docc) (clark c.ns c.name) = some (ClassDef.toTy c) := by
  unfold resolveXsi
  rw [lookup_of_class hI hc]
  simp only [ClassDef.toTy, hs, if_true]
  split <;> rfl


theorem polyTarget_off {cfg : Cfg} (hp : cfg.polymorphic = false) (I : Iface) (cname cls : Text) :
    polyTarget cfg I cname cls = none := by
  simp [polyTarget, hp]

/-- an instance of the declared class itself is written without `xsi:type` -/
theorem polyTarget_self (cfg : Cfg) (I : Iface) (cname : Text) : polyTarget cfg I cname cname = none := by
  simp [polyTarget]

/-- an instance of a registered proper subclass is written with that class -/
theorem polyTarget_sub {cfg : Cfg} {I : Iface} {cname cls : Text} {c : ClassDef} (hpoly : cfg.polymorphic = true)
    (hne : cls ≠ cname) (hsub : I.isSub cls cname = true) (hf : I.classes.find? cls = some c) :
    polyTarget cfg I cname cls = some c := by
  simp [polyTarget, hpoly, hne, hsub, hf]

def NodeOk (name : Text) (e : Node) : Prop := e.name = name ∧ ∀ a ∈ e.attrs, plainName a.1 = false

theorem nodeOk_nil (ns name : Text) : NodeOk name (nilElem ns name) := by
  refine ⟨rfl, ?_⟩
  intro a ha
  simp only [nilElem, Node.attrs, List.mem_singleton] at ha
  subst ha; exact plain_xsiNil

/-- what `to_parent` writes is `{ns}name`, with at most `xsi:nil` or `xsi:type` as attribute -/
theorem toParent_shape (F : Facts08) (cfg : Cfg) (I : Iface) (ns name : Text) (t : Ty) (v : Val) :
    ∀ e ∈ toParent F cfg I ns name t v, e.ns = ns ∧ NodeOk name e := by
  intro e he
  cases v with
  | none =>
    simp only [toParent, List.mem_singleton] at he; subst he; exact ⟨rfl, nodeOk_nil ns name⟩
  | obj cls vs =>
    simp only [toParent] at he
    split at he
    · split at he
      · simp only [List.mem_singleton] at he; subst he
        refine ⟨rfl, rfl, ?_⟩
        intro a ha
        simp only [Node.attrs, List.mem_singleton] at ha
        subst ha; exact plain_xsiType
      · simp only [List.mem_singleton] at he; subst he
        exact ⟨rfl, rfl, by intro a ha; cases ha⟩
    · cases he
  | list vs =>
    simp only [toParent] at he
    split at he
    · simp only [List.mem_singleton] at he; subst he
      exact ⟨rfl, rfl, by intro a ha; cases ha⟩
    · cases he
  | _ =>
    simp only [toParent] at he
    split at he
    · split at he
      · simp only [List.mem_singleton] at he; subst he
        exact ⟨rfl, rfl, by intro a ha; cases ha⟩
      · cases he
    · cases he

/-- … and for a leaf value the one element that carries its text -/
theorem toParent_leaf {F : Facts08} {cfg : Cfg} {I : Iface} {ns name : Text} {t : Ty} {v : Val}
    (hl : v.isLeaf = true) (hn : v ≠ .none) :
    toParent F cfg I ns name t v =
      (match t with
       | .prim p _ =>
         (match leafToText F p v with
          | some s => [.elem ns name [] (mkText s) []]
          | none => [])
       | _ => []) := by
  cases v <;> first | rfl | exact Bool.noConfusion hl | exact absurd rfl hn

theorem toParent_nodeOk (F : Facts08) (cfg : Cfg) (I : Iface) (ns name : Text) (t : Ty) (v : Val) :
    ∀ e ∈ toParent F cfg I ns name t v, NodeOk name e :=
  fun e he => (toParent_shape F cfg I ns name t v e he).2

theorem itemsToParent_shape (F : Facts08) (cfg : Cfg) (I : Iface) (ns name : Text) (t : Ty) (vs : List Val) :
    ∀ e ∈ itemsToParent F cfg I ns name t vs, e.ns = ns ∧ NodeOk name e := by
  induction vs with
  | nil => intro e he; simp [itemsToParent] at he
  | cons v vs ih =>
    intro e he
    simp only [itemsToParent, List.mem_append] at he
    rcases he with he | he
    · exact toParent_shape F cfg I ns name t v e he
    · exact ih e he

/-- the nodes `_get_members_etree` emits for one member -/
def memberNodes (F : Facts08) (cfg : Cfg) (I : Iface) (cns k : Text) (t : Ty) (v : Val) : List Node :=
  match v with
  | .none => if t.occ.minOccurs > 0 then [nilElem cns k] else []
  | .list items =>
    if t.occ.repeated then itemsToParent F cfg I cns k t items
    else (match t with
          | .arr member elem _ =>
            [.elem cns k [] none (itemsToParent F cfg I (memberNs I.tns cns member elem) (memberLocal member) elem items)]
          | _ => [])
  | w => if t.occ.repeated then [] else toParent F cfg I cns k t w

theorem membersToParent_cons (F : Facts08) (cfg : Cfg) (I : Iface) (cns k : Text) (t : Ty) (v : Val)
    (fs : List (Text × Ty)) (vs : List (Text × Val)) :
    membersToParent F cfg I cns ((k, t) :: fs) ((k, v) :: vs) =
      memberNodes F cfg I cns k t v ++ membersToParent F cfg I cns fs vs := by
  rw [membersToParent.eq_def]
  simp only [if_true]
  cases v <;> rfl

theorem membersToParent_skip (F : Facts08) (cfg : Cfg) (I : Iface) (cns : Text) {k k' : Text} (t : Ty) (v : Val)
    (fs : List (Text × Ty)) (vs : List (Text × Val)) (hk : k ≠ k') :
    membersToParent F cfg I cns ((k, t) :: fs) ((k', v) :: vs) = membersToParent F cfg I cns fs vs := by
  rw [membersToParent.eq_def]
  simp only [if_neg hk, List.nil_append]

theorem memberNodes_nonrep (F : Facts08) (cfg : Cfg) (I : Iface) (cns k : Text) (t : Ty) (v : Val)
    (hr : t.occ.repeated = false) (hv : v ≠ .none) :
    memberNodes F cfg I cns k t v = toParent F cfg I cns k t v := by
  cases v with
  | none => exact absurd rfl hv
  | list items => simp only [memberNodes, hr]; cases t <;> simp [toParent]
  | _ => simp [memberNodes, hr]

/-- every element written for member `k` of a class in namespace `cns` is `{cns}k` -/
theorem memberNodes_shape (F : Facts08) (cfg : Cfg) (I : Iface) (cns k : Text) (t : Ty) (v : Val) :
    ∀ e ∈ memberNodes F cfg I cns k t v, e.ns = cns ∧ NodeOk k e := by
  intro e he
  cases v with
  | none =>
    simp only [memberNodes] at he
    split at he
    · simp only [List.mem_singleton] at he; subst he; exact ⟨rfl, nodeOk_nil cns k⟩
    · cases he
  | list items =>
    cases hr : t.occ.repeated with
    | true =>
      simp only [memberNodes, hr, if_true] at he
      exact itemsToParent_shape F cfg I cns k t items e he
    | false =>
      rw [memberNodes_nonrep F cfg I cns k t _ hr (by simp)] at he
      exact toParent_shape F cfg I cns k t _ e he
  | _ =>
    cases hr : t.occ.repeated with
    | true => simp [memberNodes, hr] at he
    | false =>
      rw [memberNodes_nonrep F cfg I cns k t _ hr (by simp)] at he
      exact toParent_shape F cfg I cns k t _ e he

theorem memberNodes_nodeOk (F : Facts08) (cfg : Cfg) (I : Iface) (cns k : Text) (t : Ty) (v : Val) :
    ∀ e ∈ memberNodes F cfg I cns k t v, NodeOk k e :=
  fun e he => (memberNodes_shape F cfg I cns k t v e he).2

theorem stGet_stSet_ne : (st : List (Text × Val)) → (k k' : Text) → (v : Val) → k ≠ k' →
    stGet (stSet st k' v) k = stGet st k
  | [], _, _, _, _ => rfl
  | (k0, x) :: r, k, k', v, h => by
    simp only [stSet]
    split
    · rename_i h0
      have : (k == k0) = false := by simp [h0, h]
      simp [stGet, List.lookup, this]
    · have ih := stGet_stSet_ne r k k' v h
      simp only [stGet, List.lookup] at ih ⊢
      cases (k == k0) <;> simp_all

theorem stGet_stAppend_ne (st : List (Text × Val)) (k k' : Text) (v : Val) (h : k ≠ k') :
    stGet (stAppend st k' v) k = stGet st k := by
  unfold stAppend
  split <;> exact stGet_stSet_ne st k k' _ h

theorem lookup_snoc_ne {β : Type} (k key : Text) (s : β) (h : k ≠ key) (seen : List (Text × β)) :
    List.lookup k (seen ++ [(key, s)]) = List.lookup k seen := by
  rw [List.lookup_append, List.lookup_cons, beq_eq_false_iff_ne.mpr h]; cases List.lookup k seen <;> rfl

theorem lookup_snoc_self {β : Type} (key : Text) (s : β) (seen : List (Text × β)) :
    (List.lookup key (seen ++ [(key, s)])).isSome = true :=
  lookup_isSome.mpr (by simp)

end Xml
end SpyneModel
