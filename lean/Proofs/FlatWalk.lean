/-
  The walk over the keys of a documented request, on the pair (object graph, increments), for both readings of
  array indexes: it yields the spelled object graph and — when the spelled value respects the occurrence
  constraints — increments that pass `freqOk` (`walkAll`). With the idxmap (`strict_arrays = False`) any order of the
  keys will do; with strict arrays the keys must come index-sorted and the arrays be numbered 0, 1, 2, …. The facts `G`
  the walk runs under are independent of the facts `F` the spelled value is typed against: the graph does not depend
  on them (`foldO_walkP_graph`), so the statements about the graph alone hold for every `F` (`walkAll_graph`). The
  decoder on a documented request follows, for every configuration (`decode_documented_cfg`): `decode_documented`
  without validation, `decode_documented_soft` with it.
-/
import Proofs.FlatPairStrict
import Proofs.FlatDoc
import Proofs.FlatNatural
namespace SpyneModel.Flat
open SpyneModel

/-- The keys of one spelled member `n`, from `None`, given the walk theorem for the objects below it: the member ends
    up with the value that was spelled, counted as often as it occurs, and the increments below it pass the deep check. -/
theorem member_walk (F G : Facts03) (hG : G.freqScope = .perMember) (strict : Bool) (fields : List Fld) (n : Text)
    (sv : SVal) (hwf : WfFields fields) (hwv : WtVal F fields n sv) (hcv : strict = true → ContigVal sv)
    (ih : sv.Below fun ms' => ∀ sub : List Fld, (sub.map Prod.fst).Nodup → WfFields sub →
      WtMembers F sub ms' → (strict = true → ContigMembers ms') →
      ∀ ys : List KEntry, ys.Perm (kentries sub ms') → (strict = true → KSorted ys) →
        ∃ st', foldO (walkP G strict sub) (freshAttrs sub, []) ys = .ok st' ∧ eraseAttrs st'.1 = expAttrs sub ms' ∧
          (FreqConf sub ms' → freqOk sub st'.2 = true))
    (es : List KEntry) (hp : es.Perm (kentriesVal fields n sv)) (hs : strict = true → KSorted es) :
    ∃ v, foldO (updP G strict fields n) (.none, []) es = .ok v ∧ eraseNode v.1 = expNode fields n sv ∧
      evCount v.2 [] n = cntOf sv ∧ (FreqConfVal (subOf fields n) sv → ∀ j, freqDeep (evsUnder (n, j) v.2) = true) := by
  cases sv with
  | leaf _ | leaves _ =>
    simp only [kentriesVal] at hp
    rw [List.perm_singleton.mp hp]
    exact ⟨_, rfl, rfl, by simp [cntOf, evCount_cons, evCount_nil, Payload.len, KV.payload],
      fun _ j => by rw [evsUnder_keyless (by simp [KV.payload])]; rfl⟩
  | emptyObj =>
    simp only [kentriesVal] at hp
    rw [List.perm_singleton.mp hp]
    refine ⟨_, rfl, by simp [expNode, fresh, eraseNode, eraseAttrs_fresh], ?_, fun hfv j => ?_⟩
    · cases G.freqTouch <;> simp [cntOf, evCount_cons, evCount_nil, Payload.len, KV.payload]
    · -- only the entry of the new instance sits below: nothing was counted for its members
      have h0 : freqOk (subOf fields n) [] = true := by
        rw [freqOk_eq, Bool.and_eq_true]
        exact ⟨freqOkAt_iff.mpr fun f hf => ⟨Nat.le_of_eq (hfv f hf), fun _ _ => Nat.zero_le _⟩, rfl⟩
      have := freqDeep_with_entry G.freqTouch h0
      rw [List.append_nil] at this
      simp only [KV.payload, memberLabel, hG, List.nil_append, evsUnder_own]
      rw [entry_under, evsUnder_under]
      split
      · exact this
      · rfl
  | obj ms' =>
    obtain ⟨occ, cid, sub, hl, hm, hne', hwt'⟩ := hwv
    simp only [kentriesVal, subOf_eq hl] at hp
    obtain ⟨ys, hys, rfl⟩ := perm_map_pullback (KEntry.push n none) _ _ hp
    have hsegs : ∀ y, y ∈ ys → y.segs ≠ [] := fun y hy => kentries_segs_ne sub ms' y (hys.subset hy)
    have hysne : ys ≠ [] := by
      intro e; subst e
      exact kentries_ne_nil F sub ms' hwt' hne' hys.symm.eq_nil
    rw [foldO_updP_obj_none G hG strict hl hm ys hsegs hysne]
    obtain ⟨hsnd, hswf⟩ := Wf_sub hwf hl
    obtain ⟨st', hc', hce, hfo⟩ := ih sub hsnd.1 hswf hwt'
      (fun h => by simpa only [ContigVal] using hcv h) ys hys (fun h => (hs h).of_push)
    refine ⟨_, by rw [hc']; rfl, by simp only [eraseNode, expNode, subOf_eq hl, hce, expAttrs], ?_, fun hfv => ?_⟩
    · simp only [evCount_cons, evCount_under_nil, cntOf]; simp
    · rw [subOf_eq hl] at hfv
      have hfo := hfo hfv
      rw [freqOk_eq, Bool.and_eq_true] at hfo
      intro j
      rw [evsUnder_own, evsUnder_under]
      split
      · exact hfo.2
      · rfl
  | arr elems =>
    obtain ⟨occ, cid, sub, hl, hm, hinc, hwe⟩ := hwv
    simp only [kentriesVal, subOf_eq hl] at hp
    by_cases hemp : elems = []
    · subst hemp
      simp only [List.isEmpty_nil, if_true] at hp
      rw [List.perm_singleton.mp hp]
      exact ⟨_, rfl, by simp [eraseNode, expNode, expElems, eraseItems],
        by simp [cntOf, evCount_cons, evCount_nil, Payload.len, KV.payload],
        fun _ j => by rw [evsUnder_keyless (by simp [KV.payload])]; rfl⟩
    · have hise : elems.isEmpty = false := by
        cases elems with
        | nil => exact absurd rfl hemp
        | cons _ _ => rfl
      simp only [hise, Bool.false_eq_true, if_false] at hp
      obtain ⟨hsnd, hswf⟩ := Wf_sub hwf hl
      have hel := WtElems_unpack hwe
      have hcv' : strict = true → elems.map Prod.fst = List.range elems.length ∧ ContigElems elems :=
        fun h => by simpa only [ContigVal] using hcv h
      have hnonempty : ∀ i ms', (i, ms') ∈ elems → kentries sub ms' ≠ [] :=
        fun i ms' h1 => kentries_ne_nil F sub ms' (hel i ms' h1).2 (hel i ms' h1).1
      have hchild : ∀ i ms', (i, ms') ∈ elems → ∀ ys : List KEntry, ys.Perm (kentries sub ms') →
          (strict = true → KSorted ys) →
          ∃ st', foldO (walkP G strict sub) (freshAttrs sub, []) ys = .ok st' ∧
            eraseAttrs st'.1 = expInto sub ms' (freshAttrs sub) ∧ (FreqConf sub ms' → freqOk sub st'.2 = true) :=
        fun i ms' h1 ys hys hsy => ih i ms' h1 sub hsnd.1 hswf
          (hel i ms' h1).2 (fun h => ContigElems_unpack (hcv' h).2 i ms' h1) ys hys hsy
      simp only [expNode, subOf_eq hl, cntOf, FreqConfVal]
      cases strict with
      | false =>
        exact arr_member_idxmap G hG hl hm hemp hinc hnonempty
          (fun i ms' h1 ys hys => hchild i ms' h1 ys hys (fun h => nomatch h)) es hp
      | true =>
        exact arr_member_strict G hG hl hm hemp (hcv' rfl).1 hnonempty
          (fun i ms' h1 ys hys hsy => hchild i ms' h1 ys hys (fun _ => hsy)) es hp (hs rfl)

/-- Processing the keys of a spelled object in any order the array reading accepts, from a fresh instance and no
    increments: the instance — idxmaps erased — is the object that was spelled, and if the spelled value respects
    the occurrence constraints the increments pass the final check. The idxmap branch accepts ANY order;
    `strict_arrays = True` needs arrays numbered 0, 1, 2, … and the keys index-sorted. -/
theorem walkAll (F G : Facts03) (hG : G.freqScope = .perMember) (strict : Bool) (fields : List Fld) (ms : Members)
    (hnd : (fields.map Prod.fst).Nodup) (hwf : WfFields fields) (hwt : WtMembers F fields ms)
    (hcontig : strict = true → ContigMembers ms)
    (es : List KEntry) (hp : es.Perm (kentries fields ms)) (hsorted : strict = true → KSorted es) :
    ∃ st', foldO (walkP G strict fields) (freshAttrs fields, []) es = .ok st' ∧
      eraseAttrs st'.1 = expAttrs fields ms ∧ (FreqConf fields ms → freqOk fields st'.2 = true) := by
  induction ms using Members.induct generalizing fields es with
  | step ms ih =>
    obtain ⟨hmsnd, hvals⟩ := WtMembers_unpack hwt
    have hname : ∀ m, m ∈ ms → m.1 ∈ fields.map Prod.fst := fun m hm => WtVal_name (hvals m.1 m.2 hm)
    have key := foldO_by_key (σ := PSt) (ε := KEntry) (κ := Text) (ν := Node × List Ev)
      getPr (walkP G strict fields) KEntry.head (updP G strict fields) (InstI fields)
      (fun e => e.head ∈ fields.map Prod.fst)
      (fun k v => eraseNode v.1 = getAttr (expAttrs fields ms) k ∧ evCount v.2 [] k = cnt ms k ∧
        (FreqConf fields ms → ∀ j, freqDeep (evsUnder (k, j) v.2) = true))
      (fun _ _ _ hk hI h => walkP_law G hG hk hI h)
      es (freshAttrs fields, [])
      (fun e he => by
        obtain ⟨m, hm, hm1⟩ := List.mem_map.mp (kentries_head_mem fields ms e (hp.subset he))
        exact hm1 ▸ hname m hm)
      ⟨freshAttrs_keys fields, fun _ h => by simp at h⟩
      (by
        intro k
        simp only [getPr, getAttr_freshAttrs, List.filter_nil]
        have hfil := hp.filter (fun e => e.head = k)
        rw [kentries_filter_head fields ms hmsnd k] at hfil
        rw [expAttrs, getAttr_expInto fields ms hmsnd, getAttr_freshAttrs]
        simp only [cnt]
        cases hfind : ms.find? (fun m => m.1 = k) with
        | none =>
          rw [hfind] at hfil
          rw [hfil.eq_nil]
          exact ⟨(.none, []), rfl, rfl, rfl, fun _ _ => rfl⟩
        | some m =>
          rw [hfind] at hfil
          obtain ⟨n, sv⟩ := m
          have hmem : (n, sv) ∈ ms := List.mem_of_find?_eq_some hfind
          have hnk : n = k := by simpa using List.find?_some hfind
          subst hnk
          obtain ⟨v, hv, hve, hcnt, hdeep⟩ := member_walk F G hG strict fields n sv hwf (hvals n sv hmem)
            (fun h => ContigMembers_unpack (hcontig h) n sv hmem)
            (ih n sv hmem)
            _ hfil (fun h => (hsorted h).filter _)
          exact ⟨v, hv, hve, hcnt, fun hfc => hdeep (FreqConfAll_mem hfc.2 hmem)⟩)
    obtain ⟨st', hfold, ⟨hk1, hown⟩, hq⟩ := key
    refine ⟨st', hfold, ?_, fun hfc => ?_⟩
    · have hk2 : (expAttrs fields ms).map Prod.fst = fields.map Prod.fst := by
        rw [expAttrs, expInto_keys, freshAttrs_keys]
        intro m hm
        rw [freshAttrs_keys]
        exact hname m hm
      apply attrs_ext (by rw [eraseAttrs_keys, hk1]; exact hnd) (by rw [eraseAttrs_keys, hk1, hk2])
      intro k
      rw [getAttr_eraseAttrs]
      exact (hq k).1
    · rw [freqOk_eq, Bool.and_eq_true]
      have hroot : freqOkAt st'.2 [] (specOf fields) = true := by
        apply freqOkAt_iff.mpr
        intro f hf
        have := (hq f.1).2.1
        simp only [getPr, evCount_filter_owned] at this
        rw [this]
        exact hfc.1 f hf
      refine ⟨hroot, ?_⟩
      unfold freqDeep
      rw [List.all_eq_true]
      intro e he
      cases hk : e.key with
      | nil => rw [hown e he hk]; exact hroot
      | cons c K =>
        obtain ⟨ck, ci⟩ := c
        have := (hq ck).2.2 hfc ci
        simp only [getPr, evsUnder_filter_owned] at this
        rw [freqOkAt_child]
        exact freqDeep_at this (mem_evsUnder he hk)

/-- the object graph alone, under any facts and for both array readings: it is the graph of the walk run under facts
    whose labels are member names -/
theorem walkAll_graph (F : Facts03) (strict : Bool) (fields : List Fld) (ms : Members)
    (hnd : (fields.map Prod.fst).Nodup) (hwf : WfFields fields) (hwt : WtMembers F fields ms)
    (hcontig : strict = true → ContigMembers ms)
    (es : List KEntry) (hp : es.Perm (kentries fields ms)) (hsorted : strict = true → KSorted es) :
    ∃ st', foldO (walkP F strict fields) (freshAttrs fields, []) es = .ok st' ∧
      eraseAttrs st'.1 = expAttrs fields ms := by
  obtain ⟨st', h1, h2, _⟩ := walkAll F { F with freqScope := .perMember } rfl strict fields ms hnd hwf hwt
    hcontig es hp hsorted
  have hg := foldO_walkP_graph F { F with freqScope := .perMember } strict fields es (freshAttrs fields, [])
    (freshAttrs fields, []) rfl
  rw [h1] at hg
  obtain ⟨st, hst, heq⟩ := obind_ok_eq_ok.mp hg
  exact ⟨st, hst, by rw [← show st'.1 = st.1 from heq]; exact h2⟩

/-- The documented notation is accepted under every configuration, the pairs in any order: strict arrays need the
    index-first key order and arrays numbered 0, 1, 2, …; soft validation needs member names as labels and every member
    to occur as often as its class allows. -/
theorem decode_documented_cfg (F : Facts03) (L : LeafLaws F.leaf) (cfg : Cfg) (fields : List Fld) (ms : Members)
    (doc : Doc) (htag : (F.tagScope = .perRequestClass && hasDup (cidsFields fields)) = false)
    (hwf : WfSig fields) (hkeys : KeysOk cfg.delim fields) (hwt : WtMembers F fields ms)
    (hsoft : cfg.soft = true → F.freqScope = .perMember ∧ FreqConf fields ms)
    (hstrict : cfg.strict = true → F.keyOrder = .natural ∧ ContigMembers ms)
    (hp : doc.Perm (docOf F cfg.delim fields ms)) :
    decode F cfg fields doc = .ok (.obj (expAttrs fields ms)) := by
  obtain ⟨ys, hys, hyseq, hnb, hfold⟩ := stepKeys_as_walk F L cfg fields ms doc hwf hkeys hwt hp
  have hsorted := sortDoc_sorted F doc
  rw [hyseq] at hsorted
  have hks : cfg.strict = true → KSorted ys := fun h =>
    KSorted_of_natural F (hstrict h).1 cfg.delim (fun c hc e => hkeys.2 (e ▸ hc)) ys hnb hsorted
  unfold decode
  simp only [htag, Bool.false_eq_true, if_false, hfold]
  cases hs : cfg.soft with
  | false =>
    obtain ⟨st', h1, h2⟩ := walkAll_graph F cfg.strict fields ms hwf.1.1 hwf.2 hwt (fun h => (hstrict h).2) ys hys hks
    rw [h1, obind_ok]
    simp [h2]
  | true =>
    obtain ⟨st', h1, h2, h3⟩ := walkAll F F (hsoft hs).1 cfg.strict fields ms hwf.1.1 hwf.2 hwt (fun h => (hstrict h).2)
      ys hys hks
    rw [h1, obind_ok]
    simp [h2, h3 (hsoft hs).2]

theorem decode_documented (F : Facts03) (L : LeafLaws F.leaf) (cfg : Cfg) (fields : List Fld) (ms : Members)
    (doc : Doc) (hsoft : cfg.soft = false)
    (htag : (F.tagScope = .perRequestClass && hasDup (cidsFields fields)) = false)
    (hwf : WfSig fields) (hkeys : KeysOk cfg.delim fields) (hwt : WtMembers F fields ms)
    (hstrict : cfg.strict = true → F.keyOrder = .natural ∧ ContigMembers ms)
    (hp : doc.Perm (docOf F cfg.delim fields ms)) :
    decode F cfg fields doc = .ok (.obj (expAttrs fields ms)) :=
  decode_documented_cfg F L cfg fields ms doc htag hwf hkeys hwt (fun h => by rw [hsoft] at h; cases h) hstrict hp

/-- … with or without soft validation when every member occurs as often as its class allows -/
theorem decode_documented_soft (F : Facts03) (L : LeafLaws F.leaf) (hF : F.freqScope = .perMember)
    (cfg : Cfg) (fields : List Fld) (ms : Members) (doc : Doc)
    (htag : (F.tagScope = .perRequestClass && hasDup (cidsFields fields)) = false)
    (hwf : WfSig fields) (hkeys : KeysOk cfg.delim fields) (hwt : WtMembers F fields ms) (hfc : FreqConf fields ms)
    (hstrict : cfg.strict = true → F.keyOrder = .natural ∧ ContigMembers ms)
    (hp : doc.Perm (docOf F cfg.delim fields ms)) :
    decode F cfg fields doc = .ok (.obj (expAttrs fields ms)) :=
  decode_documented_cfg F L cfg fields ms doc htag hwf hkeys hwt (fun _ => ⟨hF, hfc⟩) hstrict hp

end SpyneModel.Flat
