/-
  Lemmas about the request funnel (SpyneModel/Hostile.lean), general in the facts `F`.
  The side conditions are decidable shape predicates on the extracted handler lists / measured tables, so
  that Props/C10.lean discharges them by `decide` on the regenerated facts.
-/
import SpyneModel.Hostile
import Proofs.Radix
namespace SpyneModel.Hostile
open Radix

theorem catches_of_mem {h : Handler} {r : Raised} {c : Name} (hc : c ∈ h.classes) (hm : c ∈ r.mro) :
    h.catches r = true := by
  unfold Handler.catches
  rw [List.any_eq_true]
  exact ⟨c, hc, by simpa using hm⟩

theorem fault_ordinary (c : String) : "Exception" ∈ (Raised.fault c).mro := by
  simp [Raised.mro]

theorem unknownBody_ordinary : "Exception" ∈ (Raised.exc unknownBody).mro := by
  simp [Raised.mro, unknownBody]

/-- every handler of the statement is understood and answers (keep / wrap) -/
def answers (hs : List Handler) : Bool :=
  hs.all (fun h => match h.action with | .keep => true | .wrap _ => true | _ => false)

/-- the statement has a catch-all for ordinary exceptions -/
def catchAll (hs : List Handler) : Bool := hs.any (fun h => h.classes.contains "Exception")

/-- a `try` of the server that lets nothing ordinary through -/
def total (hs : List Handler) : Bool := answers hs && catchAll hs

/-- what a `try` statement does with an ordinary exception: it answers; or a clause retries, which is not an answer; or
    something ordinary goes on, and then the statement has no catch-all if all its clauses answer -/
theorem tryExcept_ordinary (hs : List Handler) (r : Raised) (hr : "Exception" ∈ r.mro) :
    match tryExcept hs r with
    | .code _ => True
    | .retried => answers hs = false
    | .propagates r' => "Exception" ∈ r'.mro ∧ (answers hs = true → catchAll hs = false) := by
  -- cases of `tryExcept`: 1 no clause is left; 2–6 the first clause catches, by its action (keeps a Fault, keeps
  -- another exception, wraps, retries, other); 7 it does not catch
  fun_induction tryExcept hs r with
  | case1 => exact ⟨hr, fun _ => rfl⟩
  | case2 | case3 | case4 => trivial
  | case5 _ _ _ _ hretry => simp [answers, hretry]
  | case6 _ _ _ _ hother => exact ⟨unknownBody_ordinary, by simp [answers, hother]⟩
  | case7 h hs r hcat ih =>
    have ih := ih hr
    -- a clause that names `Exception` would have caught `r`
    have hcl : h.classes.contains "Exception" = false :=
      Bool.eq_false_iff.2 fun hc => hcat (catches_of_mem (by simpa using hc) hr)
    cases hte : tryExcept hs r with
    | code c => trivial
    | retried => rw [hte] at ih; simp only [answers, List.all_cons, Bool.and_eq_false_iff]; exact Or.inr ih
    | propagates r' =>
      rw [hte] at ih
      refine ⟨ih.1, fun ha => ?_⟩
      simp only [answers, List.all_cons, Bool.and_eq_true] at ha
      simp only [catchAll, List.any_cons, hcl, Bool.false_or]
      exact ih.2 ha.2

theorem tryExcept_of_total {hs : List Handler} (ht : total hs = true) (r : Raised) (hr : "Exception" ∈ r.mro) :
    ∃ c, tryExcept hs r = .code c := by
  simp only [total, Bool.and_eq_true] at ht
  have h := tryExcept_ordinary hs r hr
  cases hte : tryExcept hs r with
  | code c => exact ⟨c, rfl⟩
  | retried => rw [hte, ht.1] at h; cases h
  | propagates r' => rw [hte] at h; exact absurd (h.2 ht.1) (by rw [ht.2]; exact nofun)

theorem tryExcept_propagates_ordinary (hs : List Handler) (r r' : Raised) (hr : "Exception" ∈ r.mro)
    (h : tryExcept hs r = .propagates r') : "Exception" ∈ r'.mro := by
  have := tryExcept_ordinary hs r hr
  rw [h] at this
  exact this.1

theorem throughChain_propagates_ordinary (ch : List (List Handler)) (r r' : Raised) (hr : "Exception" ∈ r.mro)
    (hp : throughChain ch r = .propagates r') : "Exception" ∈ r'.mro := by
  fun_induction throughChain ch r with
  | case1 => cases hp; exact hr
  | case2 _ _ _ c _ ih => exact ih (fault_ordinary c) hp
  | case3 => cases hp
  | case4 hs _ r r2 hte ih => exact ih (tryExcept_propagates_ordinary hs r r2 hr hte) hp

/-! ### ordinary requests: every oracle exception derives from `Exception` -/

def ParseResult.Ordinary : ParseResult → Prop
  | .doc => True
  | .decodeExc e => e.ordinary
  | .parseExc e => e.ordinary

def Codec.Ordinary : Codec → Prop
  | .crash e => e.ordinary
  | _ => True

def User.Ordinary : User → Prop
  | .raisesExc e => e.ordinary
  | _ => True

structure Req.Ordinary (q : Req) : Prop where
  parse : q.parse.Ordinary
  reparse : q.reparse.Ordinary
  dispatch : q.dispatch.Ordinary
  deser : q.deser.Ordinary
  user : q.user.Ordinary
  ser : ∀ e, q.serExc = some e → e.ordinary

theorem attempt_ordinary (F : Facts10) (p : Proto) (pr : ParseResult) (h : pr.Ordinary) (r : Raised)
    (ha : attempt F p pr = some (.propagates r)) : "Exception" ∈ r.mro := by
  cases pr <;> simp only [attempt, Option.some.injEq, reduceCtorEq] at ha
  all_goals exact throughChain_propagates_ordinary _ (.exc _) _ h ha

theorem secondAttempt_ordinary (F : Facts10) (p : Proto) (first pr : ParseResult) (h : pr.Ordinary) (r : Raised)
    (ha : secondAttempt F p first pr = some (.propagates r)) : "Exception" ∈ r.mro := by
  cases pr <;> simp only [secondAttempt, Option.some.injEq, reduceCtorEq] at ha
  all_goals exact throughChain_propagates_ordinary _ (.exc _) _ h ha

theorem cid_ordinary (F : Facts10) (p : Proto) (pr rp : ParseResult) (h1 : pr.Ordinary) (h2 : rp.Ordinary) (r : Raised)
    (hc : cid F p pr rp = some r) : "Exception" ∈ r.mro := by
  unfold cid at hc
  split at hc
  · cases hc
  · cases hc; exact fault_ordinary _
  · cases hc; exact attempt_ordinary F p pr h1 _ ‹_›
  · split at hc
    · cases hc
    · cases hc; exact fault_ordinary _
    · cases hc; exact secondAttempt_ordinary F p pr rp h2 _ ‹_›
    · cases hc; exact unknownBody_ordinary

theorem codec_raised_ordinary (c : Codec) (h : c.Ordinary) (r : Raised) (hr : c.raised = some r) : "Exception" ∈ r.mro := by
  cases c <;> simp only [Codec.raised, Option.some.injEq, reduceCtorEq] at hr <;> subst hr
  · exact fault_ordinary _
  · exact h

/-- a `try` of the server answers with the call count it was entered with, or lets an exception out -/
theorem guarded_cases (hs : List Handler) (r : Raised) (n : Nat) :
    (∃ c, guarded hs r n = .fault c n) ∨ ∃ r', guarded hs r n = .escape r' := by
  unfold guarded
  cases tryExcept hs r with
  | code c => exact Or.inl ⟨c, rfl⟩
  | retried => exact Or.inr ⟨_, rfl⟩
  | propagates r' => exact Or.inr ⟨r', rfl⟩

/-- the funnel, stage by stage: the user function returns and the answer is normal, or some stage raises `r` after `n`
    calls inside one of the three `try` statements -/
theorem runBase_cases (F : Facts10) (q : Req) :
    runBase F q = .ok 1 ∨
    ∃ hs r n, runBase F q = guarded hs r n ∧ hs ∈ [F.genContexts, F.getInObject, F.processRequest] ∧
      (q.Ordinary → "Exception" ∈ r.mro) ∧ (q.user = .returns → n = 0) := by
  unfold runBase
  cases hcid : createInDocument F q with
  | some r =>
    exact Or.inr ⟨_, r, 0, rfl, by simp, fun ho => cid_ordinary F _ _ _ ho.parse ho.reparse r hcid, fun _ => rfl⟩
  | none =>
    cases hd : q.dispatch.raised with
    | some r => exact Or.inr ⟨_, r, 0, rfl, by simp, fun ho => codec_raised_ordinary _ ho.dispatch r hd, fun _ => rfl⟩
    | none =>
      cases hs : q.deser.raised with
      | some r => exact Or.inr ⟨_, r, 0, rfl, by simp, fun ho => codec_raised_ordinary _ ho.deser r hs, fun _ => rfl⟩
      | none =>
        cases hu : q.user with
        | returns => exact Or.inl rfl
        | raisesFault c => exact Or.inr ⟨_, .fault c, 1, rfl, by simp, fun _ => fault_ordinary c, nofun⟩
        | raisesExc e => exact Or.inr ⟨_, .exc e, 1, rfl, by simp, fun ho => by have := ho.user; rwa [hu] at this, nofun⟩

/-- ServerBase: with catch-alls around the three stages nothing ordinary escapes; the answer is a normal response or
    a fault document -/
theorem runBase_total (F : Facts10) (hg : total F.genContexts = true) (hi : total F.getInObject = true)
    (hp : total F.processRequest = true) (q : Req) (ho : q.Ordinary) :
    (∃ n, runBase F q = .ok n) ∨ (∃ c n, runBase F q = .fault c n) := by
  rcases runBase_cases F q with h | ⟨hs, r, n, h, hm, hr, _⟩
  · exact Or.inl ⟨1, h⟩
  · have ht : total hs = true := by
      simp only [List.mem_cons, List.not_mem_nil, or_false] at hm
      rcases hm with rfl | rfl | rfl <;> assumption
    obtain ⟨c, hc⟩ := tryExcept_of_total ht r (hr ho)
    exact Or.inr ⟨c, n, h.trans (by simp [guarded, hc])⟩

theorem runBase_no_escape (F : Facts10) (hg : total F.genContexts = true) (hi : total F.getInObject = true)
    (hp : total F.processRequest = true) (q : Req) (ho : q.Ordinary) (r : Raised) : runBase F q ≠ .escape r := by
  rcases runBase_total F hg hi hp q ho with ⟨n, h⟩ | ⟨c, n, h⟩ <;> rw [h] <;> simp

/-- a fault that is answered although the user function did not raise comes from the input path: no call -/
theorem runBase_fault_not_called (F : Facts10) (q : Req) (hu : q.user = .returns) (c : String) (n : Nat)
    (h : runBase F q = .fault c n) : n = 0 := by
  rcases runBase_cases F q with h' | ⟨hs, r, m, h', _, _, hm⟩
  · rw [h'] at h; cases h
  · rw [h'] at h
    rcases guarded_cases hs r m with ⟨c', hc⟩ | ⟨r', hc⟩ <;> rw [hc] at h <;> cases h
    exact hm hu

theorem runBase_ok_called_once (F : Facts10) (q : Req) (n : Nat) (h : runBase F q = .ok n) : n = 1 := by
  rcases runBase_cases F q with h' | ⟨hs, r, m, h', _⟩
  · rw [h'] at h; cases h; rfl
  · rw [h'] at h
    rcases guarded_cases hs r m with ⟨c', hc⟩ | ⟨r', hc⟩ <;> rw [hc] at h <;> cases h

theorem getD_of_all {δ : Type} {t : List δ} {P : δ → Prop} (h : ∀ x ∈ t, P x) {i : Nat} (hi : i < t.length) (d : δ) :
    P (t.getD i d) := by
  rw [List.getD_eq_getElem?_getD, List.getElem?_eq_getElem hi]
  exact h _ (List.getElem_mem hi)

theorem getD_of_tableOk {δ : Type} {t : List δ} {n : Nat} {P : δ → Bool} (h : (decide (t.length = n) && t.all P) = true)
    {i : Nat} (hi : i < n) (d : δ) : P (t.getD i d) = true := by
  simp only [Bool.and_eq_true, decide_eq_true_eq, List.all_eq_true] at h
  exact getD_of_all h.2 (h.1 ▸ hi) d

/-- a sweep over keys that looks each row up by position is a sweep over the keys paired with the rows, when the keys
    are listed in the order of their positions -/
theorem all_getD_eq_all_zip {κ δ : Type} (idx : κ → Nat) (d : δ) (P : κ → δ → Bool) :
    ∀ (ks : List κ) (n m : Nat) (t : List δ), ks.map idx = List.range' n m → n + m ≤ t.length →
      ks.all (fun k => P k (t.getD (idx k) d)) = (ks.zip (t.drop n)).all (fun kd => P kd.1 kd.2)
  | [], _, _, _, _, _ => rfl
  | _ :: _, _, 0, _, hi, _ => by cases hi
  | k :: ks, n, m + 1, t, hi, hl => by
    rw [List.map_cons, List.range'_succ, List.cons.injEq] at hi
    have hn : n < t.length := by omega
    rw [List.drop_eq_getElem_cons hn, List.zip_cons_cons, List.all_cons, List.all_cons, hi.1,
      List.getD_eq_getElem?_getD, List.getElem?_eq_getElem hn, Option.getD_some,
      all_getD_eq_all_zip idx d P ks (n + 1) m t hi.2 (by omega)]

theorem bit_lt (b : Bool) : (if b = true then 1 else 0) < 2 := by cases b <;> decide

theorem PFam.idx_lt (f : PFam) : f.idx < 3 := by cases f <;> decide
theorem PMethod.idx_lt (m : PMethod) : m.idx < 3 := by cases m <;> decide
theorem PCtype.idx_lt (c : PCtype) : c.idx < 6 := by cases c <;> decide
theorem PLen.idx_lt (l : PLen) : l.idx < 12 := by cases l <;> decide

theorem PreKey.idx_lt (k : PreKey) : k.idx < PreKey.count :=
  lt_mul_add (lt_mul_add (lt_mul_add k.fam.idx_lt k.method.idx_lt) k.ctype.idx_lt) k.len.idx_lt

theorem pre_of_all (F : Facts10) (hl : F.preTable.length = PreKey.count) (P : PreDecision → Prop)
    (h : ∀ d ∈ F.preTable, P d) (k : PreKey) : P (F.pre k) :=
  getD_of_all h (hl ▸ PreKey.idx_lt k) _

theorem PreKey.mem_all (k : PreKey) : k ∈ PreKey.all := by
  rcases k with ⟨f, m, c, l⟩
  simp only [PreKey.all, List.mem_flatMap, List.mem_map]
  refine ⟨f, ?_, m, ?_, c, ?_, l, ?_, rfl⟩
  · cases f <;> decide
  · cases m <;> decide
  · cases c <;> decide
  · cases l <;> decide

theorem PreKey.all_idx : PreKey.all.map PreKey.idx = List.range' 0 PreKey.count := by decide +kernel

def PreDecision.noEscape : PreDecision → Bool
  | .escape _ => false
  | _ => true

/-- a row that answers without looking at the document: a Client-family fault; 4xx unless the family is SOAP -/
def rowOk (k : PreKey) : PreDecision → Bool
  | .proceed => true
  | .unavailable => true
  | .escape _ => false
  | .reject c s => isClient c && (k.fam == .soap || (decide (400 ≤ s) && decide (s < 500)))

/-- the transport table is swept key by key, because what a row may answer depends on its key (`k.fam`); the other
    four tables are judged row by row -/
def tableOk (F : Facts10) : Bool := PreKey.all.all (fun k => rowOk k (F.pre k))

theorem rowOk_of_tableOk (F : Facts10) (h : tableOk F = true) (k : PreKey) : rowOk k (F.pre k) = true := by
  unfold tableOk at h
  rw [List.all_eq_true] at h
  exact h k (PreKey.mem_all k)

/-- on a complete table the verdict is reached in one pass over the rows (looking each key up by position makes the
    kernel walk the list once per key) -/
theorem tableOk_eq_zip (F : Facts10) (hl : F.preTable.length = PreKey.count) :
    tableOk F = (PreKey.all.zip F.preTable).all (fun kd => rowOk kd.1 kd.2) :=
  all_getD_eq_all_zip PreKey.idx _ rowOk PreKey.all 0 _ F.preTable PreKey.all_idx (by rw [hl, Nat.zero_add]; exact Nat.le_refl _)

theorem ENs.idx_lt (n : ENs) : n.idx < 3 := by cases n <;> decide
theorem EHeader.idx_lt (h : EHeader) : h.idx < 6 := by cases h <;> decide
theorem EBody.idx_lt (b : EBody) : b.idx < 8 := by cases b <;> decide

theorem EnvKey.idx_lt (k : EnvKey) : k.idx < EnvKey.count :=
  lt_mul_add (lt_mul_add (lt_mul_add (bit_lt k.soap12) k.ns.idx_lt) k.header.idx_lt) k.body.idx_lt

def EnvDecision.good : EnvDecision → Bool
  | .called => true
  | .clientFault c => isClient c
  | _ => false

/-- every row of the envelope table is a call or a Client fault -/
def envTableOk (F : Facts10) : Bool := decide (F.envTable.length = EnvKey.count) && F.envTable.all EnvDecision.good

theorem env_good (F : Facts10) (h : envTableOk F = true) (k : EnvKey) : (F.env k).good = true :=
  getD_of_tableOk h (EnvKey.idx_lt k) _

theorem HrefShape.idx_lt (s : HrefShape) : s.idx < 9 := by cases s <;> decide

theorem HrefKey.idx_lt (k : HrefKey) : k.idx < HrefKey.count := lt_mul_add (bit_lt k.soap12) k.shape.idx_lt

def hrefTableOk (F : Facts10) : Bool := decide (F.hrefTable.length = HrefKey.count) && F.hrefTable.all EnvDecision.good

theorem href_good (F : Facts10) (h : hrefTableOk F = true) (k : HrefKey) : (F.href k).good = true :=
  getD_of_tableOk h (HrefKey.idx_lt k) _

theorem Proto.idx_lt (p : Proto) : p.idx < 8 := by cases p <;> decide
theorem FChars.idx_lt (c : FChars) : c.idx < 6 := by cases c <;> decide

theorem FaultDocKey.idx_lt (k : FaultDocKey) : k.idx < FaultDocKey.count :=
  lt_mul_add (lt_mul_add k.out.idx_lt (bit_lt k.wsgi)) k.chars.idx_lt

def faultDocTableOk (F : Facts10) : Bool :=
  decide (F.faultDocTable.length = FaultDocKey.count) && F.faultDocTable.all (fun d => d == .proceed)

theorem faultDoc_written (F : Facts10) (h : faultDocTableOk F = true) (k : FaultDocKey) : F.faultDoc k = .proceed :=
  eq_of_beq (getD_of_tableOk h (FaultDocKey.idx_lt k) _)

theorem UScript.idx_lt (s : UScript) : s.idx < 4 := by cases s <;> decide
theorem UPath.idx_lt (p : UPath) : p.idx < 3 := by cases p <;> decide
theorem UHost.idx_lt (h : UHost) : h.idx < 4 := by cases h <;> decide

theorem UrlKey.idx_lt (k : UrlKey) : k.idx < UrlKey.count :=
  lt_mul_add (lt_mul_add (lt_mul_add (lt_mul_add k.fam.idx_lt k.script.idx_lt) k.path.idx_lt) k.host.idx_lt) (bit_lt k.https)

/-- a row of the url table: served as usual, or refused with a Client-family fault, with a 4xx status when `soap` is
    `false`; `urlTableOk` asks every row for the family only (`soap = true`) -/
def urlRowOk (soap : Bool) : PreDecision → Bool
  | .proceed => true
  | .reject c s => isClient c && (soap || (decide (400 ≤ s) && decide (s < 500)))
  | _ => false

def urlTableOk (F : Facts10) : Bool :=
  decide (F.urlTable.length = UrlKey.count) && F.urlTable.all (fun d => urlRowOk true d)

theorem url_ok (F : Facts10) (h : urlTableOk F = true) (k : UrlKey) : urlRowOk true (F.url k) = true :=
  getD_of_tableOk h (UrlKey.idx_lt k) _

theorem statusOf_eq (F : Facts10) (p : Proto) (c : String) :
    statusOf F p c = if p.soap then F.statusSoap (faultClass c) else F.statusPlain (faultClass c) := rfl

/-- WsgiApplication: nothing ordinary escapes the callable -/
theorem runWsgi_total (F : Facts10) (hg : total F.genContexts = true) (hi : total F.getInObject = true)
    (hp : total F.processRequest = true) (hw : total F.wsgiOutString = true) (ht : tableOk F = true)
    (k : PreKey) (hav : F.pre k ≠ .unavailable) (q : Req) (ho : q.Ordinary) :
    (∃ s n, runWsgi F k q = .ok s n) ∨ (∃ c s n, runWsgi F k q = .fault c s n) := by
  have hrow := rowOk_of_tableOk F ht k
  unfold runWsgi
  cases hpre : F.pre k with
  | escape n => rw [hpre] at hrow; simp [rowOk] at hrow
  | unavailable => exact absurd hpre hav
  | reject c s => exact Or.inr ⟨c, s, 0, rfl⟩
  | proceed =>
    rcases runBase_total F hg hi hp q ho with ⟨n, h⟩ | ⟨c, n, h⟩
    · rw [h]
      cases hse : q.serExc with
      | none => exact Or.inl ⟨_, _, rfl⟩
      | some e =>
        obtain ⟨c, hc⟩ := tryExcept_of_total hw (.exc e) (ho.ser e hse)
        exact Or.inr ⟨c, statusOf F q.proto c, n, by simp [hc]⟩
    · rw [h]; exact Or.inr ⟨c, _, n, rfl⟩

/-! ### a Fault raised by a codec stage is the answer -/

/-- the first clause that matches a Fault keeps it -/
def keeps : List Handler → Bool
  | [] => false
  | h :: t => if h.catches (.fault "") then h.action == .keep else keeps t

theorem tryExcept_fault_of_keeps (hs : List Handler) (c : String) (hk : keeps hs = true) :
    tryExcept hs (.fault c) = .code c := by
  fun_induction keeps hs with
  | case1 => cases hk
  | case2 h _ hcat =>
    have : h.catches (.fault c) = true := hcat
    rcases h with ⟨cl, act⟩
    cases act <;> simp_all [tryExcept]
  | case3 h _ hcat ih =>
    have : ¬ h.catches (.fault c) = true := hcat
    unfold tryExcept
    rw [if_neg this]
    exact ih hk

theorem guarded_fault_of_keeps {hs : List Handler} (hk : keeps hs = true) (c : String) (n : Nat) :
    guarded hs (.fault c) n = .fault c n := by
  simp [guarded, tryExcept_fault_of_keeps hs c hk]

/-- what the bytes -> document step of protocol `p` can raise on input it rejects -/
def rejections (F : Facts10) (p : Proto) : List ParseResult :=
  (F.raisable p).map .parseExc ++
  (if F.decodes p then (F.raisableText p).map .parseExc ++ F.raisableDecode.map .decodeExc else [])

/-- what the retry can end in: it parses the bytes again -/
def retryOutcomes (F : Facts10) (p : Proto) : List ParseResult := .doc :: (F.raisable p).map .parseExc

def clientOrDoc (o : Option Raised) : Bool :=
  match o with
  | none => true
  | some (.fault c) => isClient c
  | some (.exc _) => false

/-- every rejection (and every rejection of the retry) ends in a Client fault raised by create_in_document -/
def rejectionsAreClient (F : Facts10) : Bool :=
  Proto.all.all fun p => (rejections F p).all fun pr => (retryOutcomes F p).all fun rp =>
    clientOrDoc (cid F p pr rp)

theorem Proto.mem_all (p : Proto) : p ∈ Proto.all := by cases p <;> decide

theorem cid_of_rejectionsAreClient (F : Facts10) (h : rejectionsAreClient F = true) (p : Proto) (pr rp : ParseResult)
    (h1 : pr ∈ rejections F p) (h2 : rp ∈ retryOutcomes F p) :
    cid F p pr rp = none ∨ ∃ c, cid F p pr rp = some (.fault c) ∧ isClient c = true := by
  simp only [rejectionsAreClient, List.all_eq_true] at h
  have := h p (Proto.mem_all p) pr h1 rp h2
  cases hc : cid F p pr rp with
  | none => exact Or.inl rfl
  | some r =>
    rw [hc] at this
    cases r with
    | fault c => exact Or.inr ⟨c, rfl, by simpa [clientOrDoc] using this⟩
    | exc e => simp [clientOrDoc] at this

/-- the request whose bytes the parser rejects is answered with a Client fault and no call -/
theorem runBase_rejected (F : Facts10) (hk : keeps F.genContexts = true) (q : Req) (c : String)
    (h : createInDocument F q = some (.fault c)) : runBase F q = .fault c 0 := by
  unfold runBase
  simp [h, guarded_fault_of_keeps hk]

theorem runBase_dispatch_fault (F : Facts10) (hk : keeps F.genContexts = true) (q : Req) (c : String)
    (hdoc : createInDocument F q = none) (h : q.dispatch = .fault c) : runBase F q = .fault c 0 := by
  unfold runBase
  simp [hdoc, h, Codec.raised, guarded_fault_of_keeps hk]

theorem runBase_deser_fault (F : Facts10) (hk : keeps F.getInObject = true) (q : Req) (c : String)
    (hdoc : createInDocument F q = none) (hd : q.dispatch = .ok) (h : q.deser = .fault c) : runBase F q = .fault c 0 := by
  unfold runBase
  simp [hdoc, hd, h, Codec.raised, guarded_fault_of_keeps hk]

theorem runBase_valid (F : Facts10) (q : Req) (hdoc : createInDocument F q = none) (hd : q.dispatch = .ok)
    (hs : q.deser = .ok) (hu : q.user = .returns) : runBase F q = .ok 1 := by
  unfold runBase
  simp [hdoc, hd, hs, hu, Codec.raised]

/-- a measured SOAP row as the dispatch stage of a request that parses: a good row is a call or a Client fault -/
theorem runBase_of_good (F : Facts10) (hk : keeps F.genContexts = true) (p : Proto) (d : EnvDecision)
    (hg : d.good = true) :
    let q : Req := { proto := p, parse := .doc, dispatch := d.codec, deser := .ok }
    runBase F q = .ok 1 ∨ ∃ c, runBase F q = .fault c 0 ∧ isClient c = true := by
  cases d with
  | called => exact Or.inl (runBase_valid F _ rfl rfl rfl rfl)
  | clientFault c => exact Or.inr ⟨c, runBase_dispatch_fault F hk _ c rfl rfl, hg⟩
  | serverFault c => exact absurd hg Bool.false_ne_true
  | escape e => exact absurd hg Bool.false_ne_true

theorem ite_ne_of {α : Type} {p : Prop} [Decidable p] {a b x : α} (ha : a ≠ x) (hb : b ≠ x) :
    (if p then a else b) ≠ x := by
  split <;> assumption

theorem faultClass_ne_server {c : String} (h : isClient c = true) : faultClass c ≠ .server := by
  unfold faultClass
  rw [if_pos h]
  exact ite_ne_of nofun (ite_ne_of nofun (ite_ne_of nofun (ite_ne_of nofun nofun)))

/-- the plain status table sends every class but `server` with 4xx -/
def plainIs4xx (F : Facts10) : Bool :=
  [FaultClass.tooLong, .notFound, .notAllowed, .invalidCreds, .client].all
    (fun fc => decide (400 ≤ F.statusPlain fc) && decide (F.statusPlain fc < 500))

theorem statusPlain_4xx (F : Facts10) (h : plainIs4xx F = true) (fc : FaultClass) (hfc : fc ≠ .server) :
    400 ≤ F.statusPlain fc ∧ F.statusPlain fc < 500 := by
  have hm : fc ∈ [FaultClass.tooLong, .notFound, .notAllowed, .invalidCreds, .client] := by
    cases fc with
    | server => exact absurd rfl hfc
    | _ => decide
  simpa using List.all_eq_true.mp h fc hm

end SpyneModel.Hostile
