/-
  C05 for dict documents, the hard direction: under soft validation EVERYTHING `_from_dict_value` /
  `_doc_to_object` accept — from any document — satisfies every declared constraint (`conformsOne`): nullability,
  occurrence bounds (via the `frequencies` bookkeeping), integer ranges and bounds, string length / pattern /
  enumeration, lexical well-formedness. Leaves: `LeafLaws.soft` (`LeafEx`); tree: the invariant `exInv` of the decoders
  (`HierInv`), whose member slots carry the value together with its occurrence count (`SlotEx`), then `_check_freq_dict`.
  Stated for a registry without subclasses (`conformsOne` demands the exact class).
-/
import Proofs.HierSafeLeaf
namespace SpyneModel.Hier
open SpyneModel
variable {F : Facts08} {G : Facts02} {cfg : Cfg}

/-- what a member slot holds while `_doc_to_object` runs under soft validation -/
def SlotEx (t : Ty) (v : Val) (c : Nat) : Prop :=
  if t.occ.repeated = true then
    (v = .none ∧ c = 0) ∨ (∃ vs, v = .list vs ∧ c = vs.length ∧ ∀ x ∈ vs, conformsOne t x = true)
  else (v = .none ∧ c = 0) ∨ (1 ≤ c ∧ conformsOne t v = true)

/-- the slots of an instance under construction: the names in declaration order, every slot `SlotEx` -/
def AccEx : Fields → Acc → Prop
  | (n, t) :: fs, (m, v, c) :: ss => n = m ∧ SlotEx t v c ∧ AccEx fs ss
  | [], [] => True
  | _, _ => False

theorem accEx_init (fs : Fields) : AccEx fs (initAcc fs) := by
  induction fs with
  | nil => trivial
  | cons nt fs ih =>
    obtain ⟨n, t⟩ := nt
    refine ⟨rfl, ?_, ih⟩
    unfold SlotEx; split <;> exact Or.inl ⟨rfl, rfl⟩

theorem accEx_putSlot : ∀ (fs : Fields) (a : Acc) (n : Text) (t : Ty) (f : Val → Val) (k : Nat),
    AccEx fs a → lookupField fs n = some t → (∀ old c, SlotEx t old c → SlotEx t (f old) (c + k)) →
    AccEx fs (putSlot a n f k) := by
  intro fs
  induction fs with
  | nil => intro a n t f k _ hl; simp [lookupField] at hl
  | cons nt fs ih =>
    obtain ⟨m, u⟩ := nt
    intro a n t f k h hl hf
    cases a with
    | nil => exact h.elim
    | cons s ss =>
      obtain ⟨m', v, c⟩ := s
      obtain ⟨rfl, hs, hr⟩ := h
      simp only [lookupField] at hl
      by_cases hmn : m = n
      · subst hmn
        simp only [if_true, Option.some.injEq] at hl
        subst hl
        simp only [putSlot, if_true]
        exact ⟨rfl, hf v c hs, hr⟩
      · simp only [hmn, if_false] at hl
        simp only [putSlot, hmn, if_false]
        exact ⟨rfl, hs, ih ss n t f k hr hl hf⟩

theorem slotEx_put (t : Ty) (x : Val) (hr : t.occ.repeated = false) (hx : conformsOne t x = true) :
    ∀ old c, SlotEx t old c → SlotEx t x (c + 1) := by
  intro old c _
  unfold SlotEx; simp only [hr, Bool.false_eq_true, if_false]
  exact Or.inr ⟨by omega, hx⟩

theorem slotEx_putItems (t : Ty) (vs : List Val) (hr : t.occ.repeated = true)
    (hx : ∀ x ∈ vs, conformsOne t x = true) :
    ∀ old c, SlotEx t old c → SlotEx t (.list (oldItems old ++ vs)) (c + vs.length) := by
  intro old c h
  unfold SlotEx at h ⊢
  simp only [hr, if_true] at h ⊢
  rcases h with ⟨rfl, rfl⟩ | ⟨ws, rfl, rfl, hws⟩
  · exact Or.inr ⟨vs, by simp [oldItems], by simp, hx⟩
  · refine Or.inr ⟨ws ++ vs, by simp [oldItems], by simp, ?_⟩
    intro x hxm
    rcases List.mem_append.1 hxm with h | h
    · exact hws x h
    · exact hx x h

theorem slot_conforms (t : Ty) (v : Val) (c : Nat) (hwf : wfTy t = true) (h5 : c05Ty t = true) (hs : SlotEx t v c)
    (hb : freqOk t c = true) : conformsMember t v = true := by
  -- an absent member that is no wrapped array: the check has seen `min_occurs = 0`
  have absent : (∀ m e o, t ≠ .arr m e o) → c = 0 → conformsMember t .none = true := fun hna h0 => by
    rw [freqOk_occ hna, h0] at hb
    simp [conformsMember, (Occ.countOk_zero _).mp hb]
  unfold SlotEx at hs
  cases hr : t.occ.repeated
  · simp only [hr, Bool.false_eq_true, if_false] at hs
    rcases hs with ⟨rfl, rfl⟩ | ⟨hc, hv⟩
    · cases t with
      | arr m e o =>
        simp only [c05Ty, Bool.and_eq_true, Bool.or_eq_true, decide_eq_true_eq] at h5
        simp only [Ty.occ] at hr
        rcases h5.1 with h | h <;> simp [conformsMember, Ty.occ, h, hr]
      | _ => exact absent (by intros; simp) rfl
    · by_cases hvn : v = .none
      · subst hvn
        rw [conformsOne_none] at hv
        simp [conformsMember, hv, hr]
      · have : conforms t v = true := by rw [conforms_single t v hr]; exact hv
        cases v <;> first | exact absurd rfl hvn | exact this
  · simp only [hr, if_true] at hs
    have hna := repeated_not_arr hwf hr
    rcases hs with ⟨rfl, rfl⟩ | ⟨vs, rfl, rfl, hvs⟩
    · exact absent hna rfl
    · rw [freqOk_occ hna] at hb
      simp only [conformsMember, conforms, hr, if_true, hb, (conformsItems_iff t vs).2 hvs, Bool.and_self]

theorem conformsFields_of_acc : ∀ (fs : Fields) (a : Acc), wfFields fs = true → c05Fields fs = true → AccEx fs a →
    checkFreq fs a = true → conformsFields fs (a.map (fun s => (s.1, s.2.1))) = true := by
  intro fs
  induction fs with
  | nil =>
    intro a _ _ h _
    cases a with
    | nil => exact (conformsFields_nil _).mpr rfl
    | cons s ss => exact h.elim
  | cons nt fs ih =>
    obtain ⟨n, t⟩ := nt
    intro a hwf h5 h hf
    cases a with
    | nil => exact h.elim
    | cons s ss =>
      obtain ⟨m, v, c⟩ := s
      obtain ⟨rfl, hs, hr⟩ := h
      have hw : wfTy t = true ∧ wfFields fs = true := by simpa [wfFields] using hwf
      have h5' : c05Ty t = true ∧ c05Fields fs = true := by simpa [c05Fields] using h5
      rw [checkFreq_cons, Bool.and_eq_true] at hf
      have h1 := slot_conforms t v c hw.1 h5'.1 hs hf.1
      have h2 := ih ss hw.2 h5'.2 hr hf.2
      simp only [List.map_cons, conformsFields_cons_eq, decide_true, h1, h2, Bool.and_self]

def Ex (t : Ty) (v : Val) : Prop := conformsOne t v = true

/-- C05 at a leaf: under soft validation whatever `_from_dict_value` accepts for a primitive member — from whatever
    document node — satisfies every declared constraint of the member (nullability, range, bounds, length, pattern,
    enumeration, lexical form) -/
theorem primIn_ex (L : LeafLaws F) (hG : G.Good) (hb : G.binTextValidated = true) (p : PrimTy) (o : Occ) (d : Doc) :
    Safe cfg (Ex (.prim p o)) (primIn F G cfg p o d) :=
  (primIn_ok L hG p o d).mono (fun v h => by
    rcases h with ⟨rfl, hn⟩ | ⟨hk, hx⟩
    · exact (conformsOne_none _).trans hn
    · exact (conformsOne_prim p o v (PrimTy.kindOk_ne_none hk)).trans (hx hb))

theorem occInc_good (hG : G.Good) (k : Nat) : occInc G k = k := by simp [occInc, hG.occ]

/-- what `_doc_to_object` builds for class `cls` under soft validation: members `fs` holding conformant values -/
def IsInstEx (cls : Text) (fs : Fields) (v : Val) : Prop :=
  ∃ vals, v = .obj cls vals ∧ conformsFields fs vals = true

/-- hypotheses of the exactness induction: bytes text is length-checked, and no class opts out of the occurrence check -/
structure ExHyp (G : Facts02) (cfg : Cfg) : Prop where
  bint : G.binTextValidated = true
  nf : cfg.noFreq = []

theorem finish_ex (cls : Text) (fs : Fields) (a : Acc) (hwf : wfFields fs = true) (h5 : c05Fields fs = true)
    (hnf : cfg.noFreq = [])
    (h : cfg.soft = true → AccEx fs a) : Safe cfg (IsInstEx cls fs) (finish cfg cls fs a) := by
  unfold finish
  split
  · exact Safe.fault'
  · rename_i hc
    refine Safe.good (fun hs => ⟨_, rfl, conformsFields_of_acc fs a hwf h5 (h hs) ?_⟩)
    cases hf : checkFreq fs a with
    | true => rfl
    | false => exact absurd (by simp [hs, hf, hnf]) hc

theorem c05Fields_iff (fs : Fields) : c05Fields fs = true ↔ ∀ nt ∈ fs, c05Ty nt.2 = true := by
  rw [all_of_rec (g := c05Fields) (f := fun nt => c05Ty nt.2) (by rw [c05Fields]) (fun _ _ => by rw [c05Fields]),
    List.all_eq_true]

theorem exTy_fields (fs : Fields) :
    (wfFields fs = true ∧ c05Fields fs = true) ↔ ∀ nt ∈ fs, wfTy nt.2 = true ∧ c05Ty nt.2 = true := by
  rw [wfFields_iff, c05Fields_iff]
  exact ⟨fun h nt hm => ⟨h.1 nt hm, h.2 nt hm⟩, fun h => ⟨fun nt hm => (h nt hm).1, fun nt hm => (h nt hm).2⟩⟩

/-- without registered subclasses the wrapper key is not looked at: the declared class is used -/
theorem resolveClass_nil (name : Text) (fs : Fields) (key : Option Text) :
    resolveClass [] name fs key = .good (name, fs) := by
  unfold resolveClass
  split
  · rfl
  · simp [subclassesOf]

/-- C05 as an invariant of the decoders (no registered subclasses): every declared constraint holds, the member slots
    carry their occurrence counts -/
def exInv (L : LeafLaws F) (hG : G.Good) (hb : ExHyp G cfg) : DecInv F G cfg [] where
  T t := wfTy t = true ∧ c05Ty t = true
  P := Ex
  A := AccEx
  I := IsInstEx
  T_arr h := ⟨wfTy_arr h.1, by have := h.2; simp only [c05Ty, Bool.and_eq_true] at this; exact this.2⟩
  T_obj h := ⟨(wfTy_obj h.1).1, (exTy_fields _).1 ⟨(wfTy_obj h.1).2, by simpa [c05Ty] using h.2⟩⟩
  prim := primIn_ex L hG hb.bint
  none t _ hn := (conformsOne_none t).trans hn
  arr hl := (conformsOne_arr_list _ _ _ _).trans ((conformsArr_iff _ _).2 hl)
  sub hT h := by
    rw [resolveClass_nil] at h
    cases h
    exact ⟨⟨(wfTy_obj hT.1).1, (exTy_fields _).1 ⟨(wfTy_obj hT.1).2, by simpa [c05Ty] using hT.2⟩⟩,
      fun v ⟨vals, hv, hc⟩ => by subst hv; exact (conformsOne_obj_obj ..).trans (by simp [hc])⟩
  init := accEx_init
  put ha hl hr hx := by
    unfold Acc.put; rw [occInc_good hG]
    exact accEx_putSlot _ _ _ _ _ _ ha hl (slotEx_put _ _ hr hx)
  putItems ha hl hr hx := by
    unfold Acc.putItems; rw [occInc_good hG]
    exact accEx_putSlot _ _ _ _ _ _ ha hl (slotEx_putItems _ _ hr hx)
  finish hT h := finish_ex _ _ _ ((exTy_fields _).2 hT).1 ((exTy_fields _).2 hT).2 hb.nf h

theorem decode_ex (L : LeafLaws F) (hG : G.Good) (hb : ExHyp G cfg) : ∀ (d : Doc) (t : Ty), wfTy t = true → c05Ty t = true →
    Safe cfg (Ex t) (decode F G cfg [] t d) :=
  fun d t hwf h5 => decode_inv (exInv L hG hb) hG d t ⟨hwf, h5⟩

theorem decodeWrapped_ex (L : LeafLaws F) (hG : G.Good) (hb : ExHyp G cfg) : ∀ (kvs : List (Key × Doc)) (n ns : Text) (b : Option Text)
    (fields : Fields) (o : Occ), wfTy (.obj n ns b fields o) = true → c05Ty (.obj n ns b fields o) = true →
    Safe cfg (Ex (.obj n ns b fields o)) (decodeWrapped F G cfg [] n fields o kvs) :=
  fun kvs n ns b fields o hwf h5 => decodeWrapped_inv (exInv L hG hb) hG kvs n ns b fields o ⟨hwf, h5⟩

theorem decodeBody_ex (L : LeafLaws F) (hG : G.Good) (hb : ExHyp G cfg) : ∀ (d : Doc) (cls : Text) (fs : Fields),
    namesDistinct (fs.map (·.1)) = true → wfFields fs = true → c05Fields fs = true →
    Safe cfg (IsInstEx cls fs) (decodeBody F G cfg [] cls fs d) :=
  fun d cls fs hd hwf h5 => decodeBody_inv (exInv L hG hb) hG d cls fs hd ((exTy_fields fs).1 ⟨hwf, h5⟩)

theorem decodeItems_ex (L : LeafLaws F) (hG : G.Good) (hb : ExHyp G cfg) : ∀ (ds : List Doc) (t : Ty), wfTy t = true → c05Ty t = true →
    Safe cfg (fun l => ∀ y ∈ l, Ex t y) (decodeItems F G cfg [] t ds) :=
  fun ds t hwf h5 => decodeItems_inv (exInv L hG hb) hG ds t ⟨hwf, h5⟩

theorem decodeKvs_ex (L : LeafLaws F) (hG : G.Good) (hb : ExHyp G cfg) : ∀ (kvs : List (Key × Doc)) (fs : Fields) (a : Acc),
    wfFields fs = true → c05Fields fs = true → (cfg.soft = true → AccEx fs a) →
    Safe cfg (fun a' => AccEx fs a') (decodeKvs F G cfg [] fs kvs a) :=
  fun kvs fs a hwf h5 => decodeKvs_inv (exInv L hG hb) hG kvs fs a ((exTy_fields fs).1 ⟨hwf, h5⟩)

theorem decodePos_ex (L : LeafLaws F) (hG : G.Good) (hb : ExHyp G cfg) : ∀ (ds : List Doc) (all pre fs : Fields) (a : Acc),
    all = pre ++ fs → namesDistinct (all.map (·.1)) = true → wfFields fs = true → c05Fields fs = true →
    (cfg.soft = true → AccEx all a) →
    Safe cfg (fun a' => AccEx all a') (decodePos F G cfg [] all fs ds a) :=
  fun ds all _ fs a hall hnd hwf h5 =>
    decodePos_inv (exInv L hG hb) hG ds all fs a (lookupField_of_mem hall hnd) ((exTy_fields fs).1 ⟨hwf, h5⟩)

/-- C05 for a whole request: the argument tuple the user function is called with conforms to the declared
    parameter types -/
theorem decodeRequest_ex (L : LeafLaws F) (hG : G.Good) (hb : ExHyp G cfg)
    (hbody : G.missingBodyFault = true)
    (name ns : Text) (base : Option Text) (fields : Fields) (o : Occ)
    (hwf : wfTy (.obj name ns base fields o) = true) (h5 : c05Ty (.obj name ns base fields o) = true) (d : Doc) :
    Safe cfg (fun v => Ex (.obj name ns base fields o) v ∨ v = .obj name [])
      (decodeRequest F G cfg [] (.obj name ns base fields o) d) :=
  decodeRequest_of_decode hG hbody [] name ns base fields o _ (fun d => decode_ex L hG hb d _ hwf h5) d

end SpyneModel.Hier
