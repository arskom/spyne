/-
  Lemmas for the byte level of the C11 model (SpyneModel/DispatchBytes.lean): strict UTF-8 decoding inverts
  encoding and accepts nothing but the canonical encoding.
-/
import SpyneModel.DispatchBytes
import Proofs.Utf8Digits
namespace SpyneModel.Dispatch
open SpyneModel SpyneModel.Utf8

theorem isCont_add {d : Nat} (h : d < 64) : isCont (0x80 + d) = true := by
  simp only [isCont, Bool.and_eq_true, decide_eq_true_eq]; omega

theorem isCont_sub {b : Nat} (h : isCont b = true) : b - 0x80 < 64 ∧ 0x80 + (b - 0x80) = b := by
  simp only [isCont, Bool.and_eq_true, decide_eq_true_eq] at h; omega

theorem isScalar_iff (cp : Nat) : isScalar cp = true ↔ cp < 0xD800 ∨ (0xE000 ≤ cp ∧ cp < 0x110000) := by
  simp only [isScalar, Bool.or_eq_true, Bool.and_eq_true, decide_eq_true_eq]

/-! ## the well-formed sequences of each length, bytes given by their payloads: the decoder reads the code point, the
    encoder writes the bytes back -/

theorem seq_one (cp : Nat) (h : cp < 0x80) (rest : List Nat) :
    utf8Decode (cp :: rest) = (utf8Decode rest).map (cp :: ·) ∧ encodeOne cp = [cp] ∧ isScalar cp = true := by
  rw [utf8Decode.eq_def, encodeOne, isScalar_iff]
  exact ⟨if_pos h, if_pos h, by omega⟩

theorem seq_two (l d0 cp : Nat) (hcp : cp = l * 64 + d0) (h2 : 2 ≤ l) (hl : l < 32) (h0 : d0 < 64) (rest : List Nat) :
    utf8Decode ((0xC0 + l) :: (0x80 + d0) :: rest) = (utf8Decode rest).map (cp :: ·) ∧
    encodeOne cp = [0xC0 + l, 0x80 + d0] ∧ isScalar cp = true := by
  refine ⟨?_, ?_, (isScalar_iff cp).mpr (by omega)⟩
  · rw [utf8Decode, if_neg (by omega), if_neg (by omega), if_pos (by omega), if_pos (isCont_add h0), Nat.add_sub_cancel_left,
      Nat.add_sub_cancel_left, hcp]
  · rw [encodeOne, if_neg (by omega), if_pos (by omega), (of_digits2 h0 hcp).1, (of_digits2 h0 hcp).2]

theorem seq_three (l d1 d0 cp : Nat) (hcp : cp = l * 4096 + d1 * 64 + d0) (hl : l < 16) (h1 : d1 < 64) (h0 : d0 < 64)
    (hlo : 0x800 ≤ cp) (hs : ¬ (0xD800 ≤ cp ∧ cp < 0xE000)) (rest : List Nat) :
    utf8Decode ((0xE0 + l) :: (0x80 + d1) :: (0x80 + d0) :: rest) = (utf8Decode rest).map (cp :: ·) ∧
    encodeOne cp = [0xE0 + l, 0x80 + d1, 0x80 + d0] ∧ isScalar cp = true := by
  refine ⟨?_, ?_, (isScalar_iff cp).mpr (by omega)⟩
  · rw [utf8Decode, if_neg (by omega), if_neg (by omega), if_neg (by omega), if_pos (by omega)]
    simp only [Nat.add_sub_cancel_left, ← hcp]
    rw [if_pos ⟨isCont_add h1, isCont_add h0, hlo, hs⟩]
  · rw [encodeOne, if_neg (by omega), if_neg (by omega), if_pos (by omega)]
    obtain ⟨q2, q1, q0⟩ := of_digits3 h1 h0 hcp
    rw [q2, q1, q0]

theorem seq_four (l d2 d1 d0 cp : Nat) (hcp : cp = l * 262144 + d2 * 4096 + d1 * 64 + d0) (hl : l < 5) (h2 : d2 < 64)
    (h1 : d1 < 64) (h0 : d0 < 64) (hlo : 0x10000 ≤ cp) (hhi : cp < 0x110000) (rest : List Nat) :
    utf8Decode ((0xF0 + l) :: (0x80 + d2) :: (0x80 + d1) :: (0x80 + d0) :: rest) = (utf8Decode rest).map (cp :: ·) ∧
    encodeOne cp = [0xF0 + l, 0x80 + d2, 0x80 + d1, 0x80 + d0] ∧ isScalar cp = true := by
  refine ⟨?_, ?_, (isScalar_iff cp).mpr (by omega)⟩
  · rw [utf8Decode, if_neg (by omega), if_neg (by omega), if_neg (by omega), if_neg (by omega), if_pos (by omega)]
    simp only [Nat.add_sub_cancel_left, ← hcp]
    rw [if_pos ⟨isCont_add h2, isCont_add h1, isCont_add h0, hlo, hhi⟩]
  · rw [encodeOne, if_neg (by omega), if_neg (by omega), if_neg (by omega)]
    obtain ⟨q3, q2, q1, q0⟩ := of_digits4 h2 h1 h0 hcp
    rw [q3, q2, q1, q0]

theorem utf8Decode_encodeOne (cp : Nat) (h : isScalar cp = true) (rest : List Nat) :
    utf8Decode (encodeOne cp ++ rest) = (utf8Decode rest).map (cp :: ·) := by
  rw [isScalar_iff] at h
  by_cases h1 : cp < 0x80
  · have s := seq_one cp h1 rest
    rw [s.2.1]; exact s.1
  by_cases h2 : cp < 0x800
  · have s := seq_two _ _ cp (Nat.div_add_mod' cp 64).symm (lead2 h1 h2).1 (lead2 h1 h2).2 (mod64_lt _) rest
    rw [s.2.1]; exact s.1
  by_cases h3 : cp < 0x10000
  · have s := seq_three _ _ _ cp (digits3 cp).symm (lead3 h3) (mod64_lt _) (mod64_lt _) (by omega) (by omega) rest
    rw [s.2.1]; exact s.1
  · have s := seq_four _ _ _ _ cp (digits4 cp).symm (lead4 (by omega)) (mod64_lt _) (mod64_lt _) (mod64_lt _) (by omega) (by omega) rest
    rw [s.2.1]; exact s.1

theorem utf8Encode_cons (c : Nat) (cs : List Nat) : utf8Encode (c :: cs) = encodeOne c ++ utf8Encode cs := by
  simp [utf8Encode]

theorem utf8Decode_encode (cps : List Nat) (h : ∀ c ∈ cps, isScalar c = true) :
    utf8Decode (utf8Encode cps) = some cps := by
  induction cps with
  | nil => rfl
  | cons c cs ih =>
    rw [utf8Encode_cons, utf8Decode_encodeOne c (h c (by simp)), ih (fun x hx => h x (by simp [hx]))]
    rfl

theorem encode_step {r : List Nat} {cp : Nat} {bytes cps : List Nat}
    (ih : ∀ t, utf8Decode r = some t → utf8Encode t = r ∧ ∀ c ∈ t, isScalar c = true)
    (h : (utf8Decode r).map (cp :: ·) = some cps) (he : encodeOne cp = bytes ∧ isScalar cp = true) :
    utf8Encode cps = bytes ++ r ∧ ∀ c ∈ cps, isScalar c = true := by
  obtain ⟨t, ht, rfl⟩ := Option.map_eq_some_iff.mp h
  have ⟨e, s⟩ := ih t ht
  rw [utf8Encode_cons, e, he.1]
  exact ⟨rfl, fun c hc => (List.mem_cons.mp hc).elim (· ▸ he.2) (s c)⟩

theorem utf8Encode_decode (bs : List Nat) : ∀ cps, utf8Decode bs = some cps →
    utf8Encode cps = bs ∧ ∀ c ∈ cps, isScalar c = true := by
  -- cases of `utf8Decode`: 1 the end of the input; 2, 4, 7, 10 a well-formed sequence of one, two, three, four bytes
  -- (the only ones that go on); every other case returns `none`
  fun_induction utf8Decode bs with
  | case1 => intro cps h; cases h; exact ⟨rfl, nofun⟩
  | case2 b0 r h0 ih => exact fun cps h => encode_step ih h (seq_one b0 h0 r).2
  | case4 b0 h0 h1 h2 b1 r1 hc ih =>
    intro cps h
    obtain ⟨c1, e1⟩ := isCont_sub hc
    have s := (seq_two (b0 - 0xC0) (b1 - 0x80) _ rfl (by omega) (by omega) c1 r1).2
    rw [e1, Nat.add_sub_cancel' (by omega)] at s
    exact encode_step ih h s
  | case7 b0 h0 h1 h2 h3 b1 b2 r2 cp hc ih =>
    intro cps h
    obtain ⟨c1, e1⟩ := isCont_sub hc.1
    obtain ⟨c2, e2⟩ := isCont_sub hc.2.1
    have s := (seq_three (b0 - 0xE0) (b1 - 0x80) (b2 - 0x80) cp rfl
      (Nat.sub_lt_left_of_lt_add (Nat.le_of_not_lt h2) h3) c1 c2 hc.2.2.1 hc.2.2.2 r2).2
    rw [e1, e2, Nat.add_sub_cancel' (Nat.le_of_not_lt h2)] at s
    exact encode_step ih h s
  | case10 b0 h0 h1 h2 h3 h4 b1 b2 b3 r3 cp hc ih =>
    intro cps h
    obtain ⟨c1, e1⟩ := isCont_sub hc.1
    obtain ⟨c2, e2⟩ := isCont_sub hc.2.1
    obtain ⟨c3, e3⟩ := isCont_sub hc.2.2.1
    have s := (seq_four (b0 - 0xF0) (b1 - 0x80) (b2 - 0x80) (b3 - 0x80) cp rfl
      (Nat.sub_lt_left_of_lt_add (Nat.le_of_not_lt h3) h4) c1 c2 c3 hc.2.2.2.1 hc.2.2.2.2 r3).2
    rw [e1, e2, e3, Nat.add_sub_cancel' (Nat.le_of_not_lt h3)] at s
    exact encode_step ih h s
  | case3 | case5 | case6 | case8 | case9 | case11 | case12 | case13 => exact fun cps h => nomatch h


theorem toNat_ofNat_scalar (n : Nat) (h : isScalar n = true) : (Char.ofNat n).toNat = n := by
  simp only [isScalar, Bool.or_eq_true, Bool.and_eq_true, decide_eq_true_eq] at h
  have hv : n.isValidChar := by
    unfold Nat.isValidChar; omega
  simp [Char.ofNat, hv, Char.ofNatAux, Char.toNat]

theorem isScalar_toNat (c : Char) : isScalar c.toNat = true := by
  have hv : c.toNat < 0xd800 ∨ (0xdfff < c.toNat ∧ c.toNat < 0x110000) := c.valid
  simp only [isScalar, Bool.or_eq_true, Bool.and_eq_true, decide_eq_true_eq]
  omega

theorem map_toNat_ofNat (cps : List Nat) (h : ∀ c ∈ cps, isScalar c = true) :
    (cps.map Char.ofNat).map Char.toNat = cps := by
  induction cps with
  | nil => rfl
  | cons c cs ih =>
    simp only [List.map_cons, toNat_ofNat_scalar c (h c (by simp)), ih (fun x hx => h x (by simp [hx]))]

/-- strict UTF-8 accepts only the one canonical encoding of the text it yields -/
theorem decodeName_canonical (bs : List Nat) (s : Text) (h : decodeName bs = some s) : bs = encodeName s := by
  unfold decodeName at h
  cases hd : utf8Decode bs with
  | none => simp [hd] at h
  | some cps =>
    simp [hd] at h
    have ⟨e, sc⟩ := utf8Encode_decode bs cps hd
    unfold encodeName
    rw [← h, map_toNat_ofNat cps sc, e]

theorem decodeName_encodeName (s : Text) : decodeName (encodeName s) = some s := by
  unfold decodeName encodeName
  rw [utf8Decode_encode _ (by intro c hc; simp only [List.mem_map] at hc; obtain ⟨x, _, rfl⟩ := hc; exact isScalar_toNat x)]
  simp only [List.map_map, Option.map_some]
  congr 1
  induction s with
  | nil => rfl
  | cons c cs ih => simp only [List.map_cons, Function.comp, Char.ofNat_toNat, ih]

theorem decodeName_inj (b1 b2 : List Nat) (s : Text) (h1 : decodeName b1 = some s) (h2 : decodeName b2 = some s) :
    b1 = b2 := by
  rw [decodeName_canonical b1 s h1, decodeName_canonical b2 s h2]

end SpyneModel.Dispatch
