/-
  Two formalisations of the XSD lexical spaces meet here: `XsdLex.*` (SpyneModel/Prim2, written from the Recommendation)
  and `Schema.xsd*` (SpyneModel/Schema, as libxml2 reads the literals).  For xs:integer and xs:duration they are the same
  recogniser, so what the schema lemmas say of the printers holds of `XsdLex` as well.  (For xs:date, xs:time and
  xs:dateTime they differ: `Schema.xsd*` knows four-digit years only, and it takes `24:00:00.0000001` for the end of the
  day, because it looks at the fraction after rounding to microseconds.)
-/
import Proofs.Numeral
import Proofs.XsdDuration
import Proofs.SchemaLex
namespace SpyneModel

theorem integer_eq_schema (s : Text) :
    XsdLex.integer s = Schema.xsdInteger s ∧ XsdLex.valueOfInteger s = Schema.xsdIntVal s := by
  cases s with
  | nil => exact ⟨rfl, rfl⟩
  | cons c r =>
    by_cases h1 : c = '-'
    · subst h1; exact ⟨rfl, rfl⟩
    · by_cases h2 : c = '+'
      · subst h2; exact ⟨rfl, rfl⟩
      · simp [XsdLex.integer, XsdLex.valueOfInteger, splitSign, h1, h2, Schema.xsdInteger, Schema.xsdIntVal]

theorem xsdInteger_intToText (i : Int) : XsdLex.integer (intToText i) = true :=
  (integer_eq_schema _).1 ▸ (Schema.xsdInteger_intText i).1

theorem duration_eq_schema (s : Text) : XsdLex.duration s = Schema.xsdDuration s := by
  unfold XsdLex.duration Schema.xsdDuration
  rw [durationLit_eq, Bool.and_assoc]
  by_cases h : s.getLast? = some 'P' ∨ s.getLast? = some 'T'
  · rw [if_pos h]
    rcases h with h | h <;> simp [h]
  · rw [if_neg h, bne_iff_ne.2 (not_or.1 h).1, bne_iff_ne.2 (not_or.1 h).2]
    simp

theorem xsdDuration_durToText (F : Facts08) (hF : F.durFracFmt = .pad6) (us : Int) :
    XsdLex.duration (durToText F us) = true := by
  rw [duration_eq_schema]
  exact Schema.xsdDuration_durToText F hF us

end SpyneModel
