/-
  `_s2cmi`, the idxmap invariant (`ArrInv`), and the array as a store keyed by the sparse index (`arrGet`, `arrPut`).

  The idxmap `m` of a list maps the sparse index of an element to its position. Invariant:
  the keys are distinct, every key is mapped to its rank (the number of smaller keys), and the list
  is as long as the map. `_s2cmi` + `list.insert` keep it, whatever index arrives next.
-/
import Proofs.FlatBasic
import SpyneModel.FlatSpec
namespace SpyneModel.Flat
open SpyneModel

def mkeys (m : List (Nat × Nat)) : List Nat := m.map Prod.fst

/-- the position index `i` takes among the indexes `ks` in increasing order: how many of them are smaller -/
def rank (ks : List Nat) (i : Nat) : Nat := ks.countP (fun k => decide (k < i))

/-- the idxmap `m` (sparse index ↦ position) of a list of length `n` -/
structure ArrInv (m : List (Nat × Nat)) (n : Nat) : Prop where
  /-- no sparse index is entered twice -/
  nodup : (mkeys m).Nodup
  /-- the position of an index is its rank among the indexes entered: the list is in index order -/
  ranked : ∀ kc, kc ∈ m → kc.2 = rank (mkeys m) kc.1
  /-- every element of the list has its entry -/
  len : n = m.length

theorem ArrInv.empty : ArrInv [] 0 := ⟨by simp [mkeys], by simp, rfl⟩

theorem rank_perm {ks ks' : List Nat} (h : ks.Perm ks') (i : Nat) : rank ks i = rank ks' i :=
  h.countP_eq _

theorem rank_cons (a : Nat) (ks : List Nat) (i : Nat) :
    rank (a :: ks) i = rank ks i + (if a < i then 1 else 0) := by
  simp [rank, List.countP_cons]

theorem rank_append_single (ks : List Nat) (j i : Nat) :
    rank (ks ++ [j]) i = rank ks i + (if j < i then 1 else 0) := by
  simp [rank, List.countP_append, List.countP_cons]

theorem rank_mono (ks : List Nat) {i j : Nat} (h : i ≤ j) : rank ks i ≤ rank ks j :=
  List.countP_mono_left fun k _ hk => by simp only [decide_eq_true_eq] at hk ⊢; omega

theorem rank_le_length (ks : List Nat) (i : Nat) : rank ks i ≤ ks.length := List.countP_le_length

/-- a key that is present may be taken to stand in front -/
theorem rank_of_mem {ks : List Nat} {k : Nat} (hk : k ∈ ks) (i : Nat) :
    rank ks i = rank (ks.erase k) i + (if k < i then 1 else 0) := by
  rw [rank_perm (List.perm_cons_erase hk) i, rank_cons]

theorem rank_lt_of_mem (ks : List Nat) {k i : Nat} (hk : k ∈ ks) (h : k < i) : rank ks k < rank ks i := by
  have := rank_mono (ks.erase k) (Nat.le_of_lt h)
  rw [rank_of_mem hk k, rank_of_mem hk i]
  simp only [Nat.lt_irrefl, h, if_true, if_false]
  omega

theorem rank_lt_length_of_mem (ks : List Nat) {k : Nat} (hk : k ∈ ks) : rank ks k < ks.length := by
  have := rank_le_length (ks.erase k) k
  rw [rank_of_mem hk k, List.length_erase_of_mem hk] at *
  have := List.length_pos_of_mem hk
  simp only [Nat.lt_irrefl, if_false]
  omega

theorem exists_max_below (ks : List Nat) (i : Nat) (h : ∃ x, x ∈ ks ∧ x < i) :
    ∃ k, k ∈ ks ∧ k < i ∧ ∀ x, x ∈ ks → x < i → x ≤ k := by
  obtain ⟨x, hx, hxi⟩ := h
  cases hm : (ks.filter (· < i)).max? with
  | none =>
    rw [List.max?_eq_none_iff, List.filter_eq_nil_iff] at hm
    exact absurd hxi (by simpa using hm x hx)
  | some k =>
    have := List.max?_eq_some_iff.mp hm
    simp only [List.mem_filter, decide_eq_true_eq] at this
    exact ⟨k, this.1.1, this.1.2, fun y hy hyi => this.2 y ⟨hy, hyi⟩⟩

theorem rank_of_max_below (ks : List Nat) (hn : ks.Nodup) {k i : Nat} (hk : k ∈ ks) (hki : k < i)
    (hmax : ∀ x, x ∈ ks → x < i → x ≤ k) : rank ks i = rank ks k + 1 := by
  rw [rank_of_mem hk k, rank_of_mem hk i]
  simp only [Nat.lt_irrefl, hki, if_true, if_false, Nat.add_zero, Nat.add_right_cancel_iff]
  apply List.countP_congr
  intro x hx
  have hxk : x ≠ k := fun e => (List.Nodup.mem_erase_iff hn).mp (e ▸ hx) |>.1 rfl
  have := hmax x (List.mem_of_mem_erase hx)
  simp only [decide_eq_true_eq]
  omega

theorem mapGet_eq_lookup : ∀ (m : List (Nat × Nat)) (i : Nat), mapGet m i = m.lookup i
  | [], _ => rfl
  | (k, v) :: r, i => by
    rw [mapGet, List.lookup_cons, mapGet_eq_lookup r i]
    by_cases h : k = i
    · rw [if_pos h, h, beq_self_eq_true]
    · rw [if_neg h, beq_eq_false_iff_ne.mpr (Ne.symm h)]

theorem mapGet_mem {m : List (Nat × Nat)} {i c : Nat} (h : mapGet m i = some c) : (i, c) ∈ m :=
  mem_of_lookup ((mapGet_eq_lookup m i).symm.trans h)

theorem mapGet_of_mem {m : List (Nat × Nat)} (hn : (mkeys m).Nodup) {i c : Nat} (h : (i, c) ∈ m) :
    mapGet m i = some c :=
  (mapGet_eq_lookup m i).trans (lookup_of_mem_nodup hn h)

theorem mapGet_none_iff {m : List (Nat × Nat)} {i : Nat} : mapGet m i = none ↔ i ∉ mkeys m := by
  rw [mapGet_eq_lookup, ← Option.not_isSome_iff_eq_none, lookup_isSome]
  rfl

theorem ArrInv.get {m : List (Nat × Nat)} {n : Nat} (h : ArrInv m n) {i : Nat} (hi : i ∈ mkeys m) :
    mapGet m i = some (rank (mkeys m) i) := by
  obtain ⟨kc, hkc, rfl⟩ := List.mem_map.mp hi
  have := h.ranked kc hkc
  exact mapGet_of_mem h.nodup (by rw [← this]; exact hkc)

theorem ArrInv.get_lt {m : List (Nat × Nat)} {n : Nat} (h : ArrInv m n) {i c : Nat} (hg : mapGet m i = some c) :
    c < n ∧ c = rank (mkeys m) i ∧ i ∈ mkeys m := by
  have hm := mapGet_mem hg
  have hi : i ∈ mkeys m := List.mem_map_of_mem (f := Prod.fst) hm
  have hc := h.ranked _ hm
  simp only at hc
  refine ⟨?_, hc, hi⟩
  have := rank_lt_length_of_mem _ hi
  simp only [mkeys, List.length_map] at this
  rw [hc, h.len]
  exact this

/-- the loop of `_s2cmi` computes the least upper bound of its start value and the values, plus
    one, of the entries with a smaller key -/
theorem s2cmiPos_fold_le_iff (m : List (Nat × Nat)) (i a B : Nat) :
    m.foldl (fun acc iv => if iv.1 ≥ i then acc else max acc (iv.2 + 1)) a ≤ B ↔
      a ≤ B ∧ ∀ kc, kc ∈ m → kc.1 < i → kc.2 + 1 ≤ B := by
  induction m generalizing a with
  | nil => simp
  | cons kv r ih =>
    simp only [List.foldl_cons, ih, List.mem_cons, forall_eq_or_imp]
    by_cases h : kv.1 ≥ i
    · simp [h, Nat.not_lt.mpr h]
    · simp [h, Nat.lt_of_not_ge h, Nat.max_le, and_assoc]

/-- what `_s2cmi` returns is the rank of the new index: the heart of "index order" -/
theorem s2cmiPos_eq_rank {m : List (Nat × Nat)} {n : Nat} (h : ArrInv m n) (i : Nat) :
    s2cmiPos m i = rank (mkeys m) i := by
  apply Nat.le_antisymm
  · refine (s2cmiPos_fold_le_iff m i 0 _).mpr ⟨Nat.zero_le _, fun kc hkc hlt => ?_⟩
    have := rank_lt_of_mem (mkeys m) (List.mem_map_of_mem (f := Prod.fst) hkc) hlt
    have := h.ranked kc hkc
    omega
  · by_cases hex : ∃ x, x ∈ mkeys m ∧ x < i
    · obtain ⟨k, hk, hki, hmax⟩ := exists_max_below _ _ hex
      have hr := rank_of_max_below _ h.nodup hk hki hmax
      obtain ⟨kc, hkc, rfl⟩ := List.mem_map.mp hk
      have := ((s2cmiPos_fold_le_iff m i 0 (s2cmiPos m i)).mp (Nat.le_refl _)).2 kc hkc hki
      have hc := h.ranked kc hkc
      omega
    · have : rank (mkeys m) i = 0 := by
        simp only [rank, List.countP_eq_zero, decide_eq_true_eq]
        intro x hx hxi
        exact hex ⟨x, hx, hxi⟩
      omega

theorem s2cmi_keys (m : List (Nat × Nat)) (i : Nat) : mkeys (s2cmi m i).2 = mkeys m ++ [i] := by
  simp only [s2cmi, mkeys, List.map_append, List.map_map, List.map_cons, List.map_nil]
  congr 1
  apply List.map_congr_left
  intro kv _
  simp only [Function.comp]
  split <;> rfl

theorem ArrInv.after_s2cmi {m : List (Nat × Nat)} {n : Nat} (h : ArrInv m n) {i : Nat} (hi : i ∉ mkeys m) :
    ArrInv (s2cmi m i).2 (n + 1) ∧ (s2cmi m i).1 = rank (mkeys m) i := by
  have hpos := s2cmiPos_eq_rank h i
  refine ⟨⟨?_, ?_, ?_⟩, hpos⟩
  · rw [s2cmi_keys]
    exact List.nodup_append.mpr ⟨h.nodup, by simp, by
      intro a ha b hb
      simp only [List.mem_singleton] at hb
      subst hb
      intro e; subst e; exact hi ha⟩
  · intro kc hkc
    rw [s2cmi_keys, rank_append_single]
    simp only [s2cmi, List.mem_append, List.mem_map, List.mem_singleton] at hkc
    rcases hkc with ⟨kv, hkv, rfl⟩ | rfl
    · have hr := h.ranked kv hkv
      have hk : kv.1 ∈ mkeys m := List.mem_map_of_mem (f := Prod.fst) hkv
      have hne : kv.1 ≠ i := fun e => hi (e ▸ hk)
      by_cases hge : kv.1 ≥ i
      · have : i < kv.1 := by omega
        simp [hge, this, hr]
      · have : ¬ i < kv.1 := by omega
        simp [hge, this, hr]
    · simp [hpos]
  · simp [s2cmi, h.len]

theorem ArrInv.s2cmi_le {m : List (Nat × Nat)} {n : Nat} (h : ArrInv m n) (i : Nat) : (s2cmi m i).1 ≤ n := by
  rw [show (s2cmi m i).1 = s2cmiPos m i from rfl, s2cmiPos_eq_rank h, h.len]
  simpa [mkeys] using rank_le_length (mkeys m) i

/-- the element at sparse index `i`, `dflt` when the idxmap does not know `i` -/
def arrGet {α : Type} (m : List (Nat × Nat)) (items : List α) (dflt : α) (i : Nat) : α :=
  match mapGet m i with
  | some c => items.getD c dflt
  | none => dflt

/-- put `v` at sparse index `i`: in place when the index is known, else `_s2cmi` + `list.insert` -/
def arrPut {α : Type} (m : List (Nat × Nat)) (items : List α) (i : Nat) (v : α) :
    List (Nat × Nat) × List α :=
  match mapGet m i with
  | some c => (m, setAt items c v)
  | none => ((s2cmi m i).2, pyInsert items (s2cmi m i).1 v)

theorem setAt_eq_set {α : Type} : ∀ (l : List α) (i : Nat) (x : α), setAt l i x = l.set i x
  | [], _, _ => rfl
  | _ :: _, 0, _ => rfl
  | _ :: r, i + 1, x => by rw [setAt, List.set_cons_succ, setAt_eq_set r i x]

theorem setAt_length {α : Type} (l : List α) (i : Nat) (x : α) : (setAt l i x).length = l.length := by
  rw [setAt_eq_set, List.length_set]

theorem setAt_getD_same {α : Type} (l : List α) (i : Nat) (x d : α) (h : i < l.length) :
    (setAt l i x).getD i d = x := by
  rw [setAt_eq_set, List.getD_eq_getElem?_getD, List.getElem?_set_self h]
  rfl

theorem setAt_getD_ne {α : Type} (l : List α) (i j : Nat) (x d : α) (h : j ≠ i) :
    (setAt l i x).getD j d = l.getD j d := by
  rw [setAt_eq_set, List.getD_eq_getElem?_getD, List.getElem?_set_ne (Ne.symm h), List.getD_eq_getElem?_getD]

theorem setAt_append_last {α : Type} (l : List α) (x y : α) : setAt (l ++ [x]) l.length y = l ++ [y] := by
  induction l with
  | nil => rfl
  | cons a r ih => simp [setAt, ih]

theorem pyInsert_length {α : Type} (l : List α) (p : Nat) (x : α) (h : p ≤ l.length) :
    (pyInsert l p x).length = l.length + 1 := by
  simp [pyInsert]; omega

theorem pyInsert_getD_lt {α : Type} (l : List α) (p j : Nat) (x d : α) (h : j < p) (hp : p ≤ l.length) :
    (pyInsert l p x).getD j d = l.getD j d := by
  simp only [pyInsert, List.getD_eq_getElem?_getD]
  rw [List.getElem?_append_left (by simp; omega)]
  simp [h]

theorem pyInsert_getD_eq {α : Type} (l : List α) (p : Nat) (x d : α) (hp : p ≤ l.length) :
    (pyInsert l p x).getD p d = x := by
  simp only [pyInsert, List.getD_eq_getElem?_getD]
  rw [List.getElem?_append_right (by simp; omega)]
  simp [Nat.min_eq_left hp]

theorem pyInsert_getD_gt {α : Type} (l : List α) (p j : Nat) (x d : α) (h : p ≤ j) (hp : p ≤ l.length) :
    (pyInsert l p x).getD (j + 1) d = l.getD j d := by
  simp only [pyInsert, List.getD_eq_getElem?_getD]
  rw [List.getElem?_append_right (by simp; omega)]
  simp only [List.length_take, Nat.min_eq_left hp]
  have : j + 1 - p = (j - p) + 1 := by omega
  rw [this, List.getElem?_cons_succ, List.getElem?_drop]
  congr 2
  omega

theorem setAt_pyInsert {α : Type} (l : List α) (p : Nat) (x y : α) (hp : p ≤ l.length) :
    setAt (pyInsert l p x) p y = pyInsert l p y := by
  induction l generalizing p with
  | nil =>
    have : p = 0 := by simpa using hp
    subst this; rfl
  | cons a r ih =>
    cases p with
    | zero => rfl
    | succ p =>
      have := ih p (by simpa using hp)
      simp only [pyInsert, List.take_succ_cons, List.drop_succ_cons, List.cons_append, setAt] at this ⊢
      rw [this]

theorem getElem?_of_getD {α : Type} (l : List α) (c : Nat) (d : α) (h : c < l.length) :
    l[c]? = some (l.getD c d) := by
  simp [List.getD_eq_getElem?_getD, h]

theorem arrPut_inv {α : Type} {m : List (Nat × Nat)} {items : List α} (h : ArrInv m items.length)
    (i : Nat) (v : α) : ArrInv (arrPut m items i v).1 (arrPut m items i v).2.length := by
  unfold arrPut
  cases hg : mapGet m i with
  | some c => simpa [setAt_length] using h
  | none =>
    have hi := mapGet_none_iff.mp hg
    obtain ⟨hinv, hpos⟩ := h.after_s2cmi hi
    have hle := h.s2cmi_le i
    simpa [pyInsert_length _ _ _ hle] using hinv

theorem arrPut_keys {α : Type} (m : List (Nat × Nat)) (items : List α) (i : Nat) (v : α) :
    mkeys (arrPut m items i v).1 = if i ∈ mkeys m then mkeys m else mkeys m ++ [i] := by
  unfold arrPut
  cases hg : mapGet m i with
  | some c =>
    have : i ∈ mkeys m := List.mem_map_of_mem (f := Prod.fst) (mapGet_mem hg)
    simp [this]
  | none =>
    have hi := mapGet_none_iff.mp hg
    simp [hi, s2cmi_keys]

theorem mem_arrPut_keys {α : Type} {m : List (Nat × Nat)} {items : List α} {i j : Nat} {v : α} :
    j ∈ mkeys (arrPut m items i v).1 ↔ j ∈ mkeys m ∨ j = i := by
  rw [arrPut_keys]
  split
  · next h => exact ⟨Or.inl, fun h' => h'.elim id (· ▸ h)⟩
  · simp

theorem arrPut_map_length {α : Type} (m : List (Nat × Nat)) (items : List α) (i : Nat) (v : α) :
    (arrPut m items i v).1.length = m.length + (match mapGet m i with | some _ => 0 | none => 1) := by
  unfold arrPut
  cases mapGet m i with
  | some c => rfl
  | none => simp [s2cmi]

theorem arrGet_arrPut_same {α : Type} {m : List (Nat × Nat)} {items : List α} (h : ArrInv m items.length)
    (i : Nat) (v d : α) : arrGet (arrPut m items i v).1 (arrPut m items i v).2 d i = v := by
  unfold arrPut
  cases hg : mapGet m i with
  | some c =>
    simp only [arrGet, hg]
    exact setAt_getD_same _ _ _ _ (h.get_lt hg).1
  | none =>
    have hi := mapGet_none_iff.mp hg
    obtain ⟨hinv, hpos⟩ := h.after_s2cmi hi
    have hle := h.s2cmi_le i
    have hmem : i ∈ mkeys (s2cmi m i).2 := by simp [s2cmi_keys]
    have hget := hinv.get hmem
    rw [s2cmi_keys, rank_append_single] at hget
    simp only [Nat.lt_irrefl, if_false, Nat.add_zero] at hget
    simp only [arrGet, hget, ← hpos]
    exact pyInsert_getD_eq _ _ _ _ hle

theorem arrGet_arrPut_ne {α : Type} {m : List (Nat × Nat)} {items : List α} (h : ArrInv m items.length)
    (i j : Nat) (v d : α) (hj : j ≠ i) :
    arrGet (arrPut m items i v).1 (arrPut m items i v).2 d j = arrGet m items d j := by
  unfold arrPut
  cases hg : mapGet m i with
  | some c =>
    simp only [arrGet]
    cases hgj : mapGet m j with
    | none => rfl
    | some c' =>
      simp only
      apply setAt_getD_ne
      intro e
      subst e
      have h1 := (h.get_lt hg)
      have h2 := (h.get_lt hgj)
      -- equal ranks of two present keys mean equal keys
      have hlt : ¬ j < i := fun hlt => by
        have := rank_lt_of_mem (mkeys m) h2.2.2 hlt; omega
      have hgt : ¬ i < j := fun hgt => by
        have := rank_lt_of_mem (mkeys m) h1.2.2 hgt; omega
      omega
  | none =>
    have hi := mapGet_none_iff.mp hg
    obtain ⟨hinv, hpos⟩ := h.after_s2cmi hi
    have hle := h.s2cmi_le i
    simp only [arrGet]
    cases hgj : mapGet m j with
    | none =>
      have hjn := mapGet_none_iff.mp hgj
      have : mapGet (s2cmi m i).2 j = none := by
        apply mapGet_none_iff.mpr
        rw [s2cmi_keys]
        simp [hjn, hj]
      simp [this]
    | some c' =>
      have h2 := h.get_lt hgj
      have hjm : j ∈ mkeys (s2cmi m i).2 := by rw [s2cmi_keys]; simp [h2.2.2]
      have hget := hinv.get hjm
      rw [s2cmi_keys, rank_append_single] at hget
      simp only [hget, hpos]
      by_cases hlt : i < j
      · simp only [hlt, if_true]
        rw [h2.2.1]
        exact pyInsert_getD_gt _ _ _ _ _ (rank_mono _ (Nat.le_of_lt hlt)) (by rw [← hpos]; exact hle)
      · have hji : j < i := by omega
        simp only [hlt, if_false, Nat.add_zero]
        rw [h2.2.1]
        exact pyInsert_getD_lt _ _ _ _ _ (rank_lt_of_mem _ h2.2.2 hji) (by rw [← hpos]; exact hle)

theorem arrGet_dflt {α : Type} {m : List (Nat × Nat)} {items : List α} (h : ArrInv m items.length)
    {i : Nat} (hi : i ∈ mkeys m) (d d' : α) : arrGet m items d i = arrGet m items d' i := by
  have hg := h.get hi
  have hlt := (h.get_lt hg).1
  simp only [arrGet, hg, List.getD_eq_getElem?_getD]
  rw [List.getElem?_eq_getElem hlt]
  rfl

theorem arrGet_none_key {α : Type} {m : List (Nat × Nat)} {items : List α} {i : Nat} (hi : i ∉ mkeys m) (d : α) :
    arrGet m items d i = d := by
  simp [arrGet, mapGet_none_iff.mpr hi]

theorem StrictInc.tail {a : Nat} {l : List Nat} (h : StrictInc (a :: l)) : StrictInc l := by
  cases l with
  | nil => trivial
  | cons b r => exact h.2

theorem StrictInc.head_lt {a : Nat} {l : List Nat} (h : StrictInc (a :: l)) : ∀ x, x ∈ l → a < x := by
  induction l generalizing a with
  | nil => simp
  | cons b r ih =>
    intro x hx
    rcases List.mem_cons.mp hx with rfl | hx'
    · exact h.1
    · have := ih h.2 x hx'; have := h.1; omega

theorem StrictInc.nodup {l : List Nat} (h : StrictInc l) : l.Nodup := by
  induction l with
  | nil => simp
  | cons a r ih =>
    refine List.nodup_cons.mpr ⟨?_, ih h.tail⟩
    intro ha
    have := h.head_lt a ha
    omega

theorem rank_strictInc (l : List Nat) (h : StrictInc l) (c : Nat) (hc : c < l.length) :
    rank l (l[c]) = c := by
  induction l generalizing c with
  | nil => simp at hc
  | cons a r ih =>
    cases c with
    | zero =>
      simp only [List.getElem_cons_zero, rank, List.countP_cons, Nat.lt_irrefl, decide_false]
      have : r.countP (fun k => decide (k < a)) = 0 := by
        simp only [List.countP_eq_zero, decide_eq_true_eq]
        intro x hx; have := h.head_lt x hx; omega
      simp [this]
    | succ c =>
      have hc' : c < r.length := by simpa using hc
      simp only [List.getElem_cons_succ, rank, List.countP_cons]
      have hlt : a < r[c] := h.head_lt _ (List.getElem_mem hc')
      have := ih h.tail c hc'
      simp only [rank] at this
      simp [hlt, this]

theorem items_eq_map_arrGet {α : Type} {m : List (Nat × Nat)} {items : List α} (h : ArrInv m items.length)
    (is : List Nat) (hs : StrictInc is) (hp : (mkeys m).Perm is) (d : α) :
    items = is.map (arrGet m items d) := by
  have hlen : items.length = is.length := by
    rw [h.len, ← hp.length_eq]; simp [mkeys]
  apply List.ext_getElem
  · simp [hlen]
  · intro c h1 h2
    have hc : c < is.length := by omega
    simp only [List.getElem_map]
    have hmem : is[c] ∈ mkeys m := hp.symm.subset (List.getElem_mem hc)
    have hg := h.get hmem
    rw [rank_perm hp, rank_strictInc is hs c hc] at hg
    simp [arrGet, hg, List.getD_eq_getElem?_getD, h1]

theorem strictInc_of_pairwise : ∀ {l : List Nat}, l.Pairwise (· < ·) → StrictInc l
  | [], _ => trivial
  | [_], _ => trivial
  | _ :: b :: _, h =>
    ⟨(List.pairwise_cons.mp h).1 b List.mem_cons_self, strictInc_of_pairwise (List.pairwise_cons.mp h).2⟩

theorem exists_sorted_perm (l : List Nat) (hn : l.Nodup) : ∃ is, StrictInc is ∧ l.Perm is := by
  refine ⟨l.mergeSort, strictInc_of_pairwise ?_, (List.mergeSort_perm l _).symm⟩
  have h1 := List.pairwise_mergeSort (le := fun a b => decide (a ≤ b)) (by simp; omega) (by simp; omega) l
  have h2 : (l.mergeSort).Nodup := (List.mergeSort_perm l _).nodup_iff.mpr hn
  exact (h1.and h2).imp (fun ⟨h, h'⟩ => by simp at h; omega)

theorem item_has_index {α : Type} {m : List (Nat × Nat)} {items : List α} (h : ArrInv m items.length) (d : α)
    {it : α} (hit : it ∈ items) : ∃ i, i ∈ mkeys m ∧ it = arrGet m items d i := by
  obtain ⟨is, hs, hp⟩ := exists_sorted_perm (mkeys m) h.nodup
  have := items_eq_map_arrGet h is hs hp d
  rw [this] at hit
  obtain ⟨i, hi, rfl⟩ := List.mem_map.mp hit
  exact ⟨i, hp.symm.subset hi, rfl⟩

/-- `cidx = _s2cmi(m, nidx); lst.insert(cidx, x)` for a sequence of (index, element) -/
def insertAll {α : Type} : List (Nat × α) → List (Nat × Nat) × List α → List (Nat × Nat) × List α
  | [], s => s
  | ix :: r, s => insertAll r ((s2cmi s.1 ix.1).2, pyInsert s.2 (s2cmi s.1 ix.1).1 ix.2)

theorem insertAll_spec {α : Type} : ∀ (r : List (Nat × α)) (s : List (Nat × Nat) × List α),
    ArrInv s.1 s.2.length → (∀ i, i ∈ r.map Prod.fst → i ∉ mkeys s.1) → (r.map Prod.fst).Nodup →
    ArrInv (insertAll r s).1 (insertAll r s).2.length ∧
    mkeys (insertAll r s).1 = mkeys s.1 ++ r.map Prod.fst ∧
    ∀ (d : α) (j : Nat), arrGet (insertAll r s).1 (insertAll r s).2 d j =
      match r.lookup j with
      | some x => x
      | none => arrGet s.1 s.2 d j := by
  intro r
  induction r with
  | nil => intro s h _ _; exact ⟨h, by simp [insertAll], fun d j => rfl⟩
  | cons ix r ih =>
    intro s hinv hfresh hnd
    obtain ⟨i, x⟩ := ix
    simp only [List.map_cons, List.nodup_cons] at hnd
    have hi : i ∉ mkeys s.1 := hfresh i (by simp)
    have hstep : insertAll ((i, x) :: r) s = insertAll r (arrPut s.1 s.2 i x) := by
      simp [insertAll, arrPut, mapGet_none_iff.mpr hi]
    have hkeys : mkeys (arrPut s.1 s.2 i x).1 = mkeys s.1 ++ [i] := by rw [arrPut_keys, if_neg hi]
    obtain ⟨h1, h2, h3⟩ := ih (arrPut s.1 s.2 i x) (arrPut_inv hinv i x)
      (fun j hj => by
        rw [hkeys]
        simp only [List.mem_append, List.mem_singleton, not_or]
        exact ⟨hfresh j (by simp [hj]), fun e => hnd.1 (e ▸ hj)⟩)
      hnd.2
    rw [hstep]
    refine ⟨h1, by rw [h2, hkeys]; simp, fun d j => ?_⟩
    rw [h3 d j, List.lookup_cons]
    by_cases hj : j = i
    · subst hj
      have hnone : r.lookup j = none := List.lookup_eq_none_iff.mpr fun p hp => by
        simp only [bne_iff_ne, ne_eq]
        intro e
        exact hnd.1 (e ▸ List.mem_map_of_mem (f := Prod.fst) hp)
      simp [hnone, arrGet_arrPut_same hinv j x d]
    · simp [show (j == i) = false by simp [hj], arrGet_arrPut_ne hinv i j x d hj]

/-- **index order, whatever the arrival order.** Insert elements with pairwise distinct sparse
    indexes, in any order, the way `simple_dict_to_object` does (`_s2cmi` for the position,
    `list.insert`): the list ends up in increasing index order, and the idxmap sends every index
    to its rank. -/
theorem s2cmi_rank {α : Type} (ixs : List (Nat × α)) (hnd : (ixs.map Prod.fst).Nodup)
    (js : List Nat) (hs : StrictInc js) (hp : (ixs.map Prod.fst).Perm js) (d : α) :
    (insertAll ixs ([], [])).2 = js.map (fun j => (ixs.lookup j).getD d) ∧
    ∀ j, j ∈ js → mapGet (insertAll ixs ([], [])).1 j = some (rank js j) := by
  obtain ⟨h1, h2, h3⟩ := insertAll_spec ixs ([], []) ArrInv.empty (by simp [mkeys]) hnd
  simp only [mkeys, List.map_nil, List.nil_append] at h2
  have hk : (mkeys (insertAll ixs ([], [])).1).Perm js := by
    simp only [mkeys]; rw [h2]; exact hp
  constructor
  · rw [items_eq_map_arrGet h1 js hs hk d]
    apply List.map_congr_left
    intro j hj
    rw [h3 d j]
    have : j ∈ ixs.map Prod.fst := hp.symm.subset hj
    obtain ⟨p, hp', rfl⟩ := List.mem_map.mp this
    cases hl : ixs.lookup p.1 with
    | some x => rfl
    | none =>
      have := List.lookup_eq_none_iff.mp hl p hp'
      simp at this
  · intro j hj
    have := h1.get (hk.symm.subset hj)
    rw [rank_perm hk] at this
    exact this

end SpyneModel.Flat
