/-
  Insertion sort, for any function that inserts like one: `ins` puts `x` in front of the first element it stops at,
  `sort` inserts the head into the sorted tail.  The models write their own sorts (`Dispatch.sortDesc`, `Wsdl.isortBy`,
  `Flat.sortBy`, `Schema.sortTexts`); each satisfies these equations by unfolding.  Core Lean only, no model imported.
-/
namespace SpyneModel.InsertionSort
variable {α : Type}

section insert
variable {ins : List α → List α} {x : α} {stop : α → Bool} (hnil : ins [] = [x])
  (hcons : ∀ y ys, ins (y :: ys) = if stop y = true then x :: y :: ys else y :: ins ys)
include hnil hcons

theorem insert_perm : ∀ l, (ins l).Perm (x :: l)
  | [] => hnil ▸ .refl _
  | y :: ys => by
    rw [hcons]
    split
    · exact .refl _
    · exact ((insert_perm ys).cons y).trans (.swap x y ys)

/-- inserting keeps the list sorted by `S` when `x` stops only at elements it may precede, passes only elements that
    may precede it, and what it may precede carries on along `S` -/
theorem insert_pairwise {S : α → α → Prop} (hstop : ∀ y, stop y = true → S x y) (hpass : ∀ y, ¬ stop y = true → S y x)
    (tr : ∀ y z, S x y → S y z → S x z) : ∀ l, l.Pairwise S → (ins l).Pairwise S
  | [], _ => hnil ▸ List.pairwise_singleton S x
  | y :: ys, h => by
    have hy := List.pairwise_cons.mp h
    rw [hcons]
    split
    · next hs =>
      exact List.pairwise_cons.mpr
        ⟨fun z hz => (List.mem_cons.mp hz).elim (· ▸ hstop y hs) fun hz => tr y z (hstop y hs) (hy.1 z hz), h⟩
    · next hs =>
      refine List.pairwise_cons.mpr ⟨fun z hz => ?_, insert_pairwise hstop hpass tr ys hy.2⟩
      rcases List.mem_cons.mp ((insert_perm hnil hcons ys).mem_iff.mp hz) with rfl | hz
      · exact hpass y hs
      · exact hy.1 z hz
end insert

section sort
variable {ins : α → List α → List α} {sort : List α → List α} (hnil : sort [] = [])
  (hcons : ∀ x xs, sort (x :: xs) = ins x (sort xs))
include hnil hcons

theorem sort_perm (hp : ∀ x l, (ins x l).Perm (x :: l)) : ∀ l, (sort l).Perm l
  | [] => by rw [hnil]
  | x :: xs => by rw [hcons]; exact (hp x _).trans ((sort_perm hp xs).cons x)

theorem sort_pairwise {S : α → α → Prop} (hs : ∀ x l, l.Pairwise S → (ins x l).Pairwise S) : ∀ l, (sort l).Pairwise S
  | [] => by rw [hnil]; exact .nil
  | x :: xs => by rw [hcons]; exact hs x _ (sort_pairwise hs xs)
end sort

end SpyneModel.InsertionSort
