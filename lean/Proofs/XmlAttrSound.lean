/-
  C04 for classes with attribute / data members: whatever document arrives, a value `from_element` returns
  is None, of the declared kind, an instance of the declared class or a registered descendant whose
  attribute / data members hold None or values of their declared primitive kind, or a list of such.
  (Holds with or without the child-attribute loop: what that loop assigns is still converted with the
  member's own type.)
-/
import Proofs.XmlAttrBasic
import Proofs.XmlAttrRules
namespace SpyneModel
namespace Xml

/-- what `hasTyFieldsA` asks of one slot of the instance -/
def slotOk (I : IfaceA) (kind : MKind) (t : TyA) (v : Val) : Bool :=
  match kind with
  | .element => hasTyA I t v
  | _ => (match v with | .none => true | w => kindOkA t w)

theorem hasTyFieldsA_cons {I : IfaceA} {k k' : Text} {kind : MKind} {t : TyA} {v : Val}
    {fs : List (Text × MKind × TyA)} {vs : List (Text × Val)} :
    hasTyFieldsA I ((k, kind, t) :: fs) ((k', v) :: vs) =
      (decide (k = k') && slotOk I kind t v && hasTyFieldsA I fs vs) := by
  cases kind <;> simp [hasTyFieldsA, slotOk]
  all_goals (cases v <;> rfl)

theorem slotOk_none (I : IfaceA) (kind : MKind) (t : TyA) : slotOk I kind t .none = true := by
  cases kind <;> simp [slotOk, hasTyA]

theorem hasTyFieldsA_iff {I : IfaceA} : (fs : List (Text × MKind × TyA)) → (st : List (Text × Val)) →
    (hasTyFieldsA I fs st = true ↔ Slots (fun _ x v => slotOk I x.1 x.2 v = true) fs st)
  | [], [] => by simp [hasTyFieldsA, Slots]
  | [], _ :: _ => by simp [hasTyFieldsA, Slots]
  | _ :: _, [] => by simp [hasTyFieldsA, Slots]
  | (k, kind, t) :: fs, (k', w) :: st => by
    rw [hasTyFieldsA_cons]
    simp only [Slots, Bool.and_eq_true, decide_eq_true_eq, hasTyFieldsA_iff fs st, and_assoc]

theorem hasTyFieldsA_init (I : IfaceA) (fields : List (Text × MKind × TyA)) :
    hasTyFieldsA I fields (initStateA fields) = true :=
  (hasTyFieldsA_iff fields _).mpr (Slots.init fields (fun f _ => slotOk_none I f.2.1 f.2.2))

theorem hasTyFieldsA_stSet {I : IfaceA} (fields : List (Text × MKind × TyA)) (st : List (Text × Val)) (k : Text)
    (kind : MKind) (mt : TyA) (v : Val) (hst : hasTyFieldsA I fields st = true)
    (hk : lookupA fields k = some (kind, mt)) (hv : slotOk I kind mt v = true) :
    hasTyFieldsA I fields (stSet st k v) = true :=
  (hasTyFieldsA_iff fields _).mpr (Slots.set_same v fields st hk (fun _ => hv) ((hasTyFieldsA_iff fields st).mp hst))

theorem hasTyA_def (I : IfaceA) (t : TyA) (v : Val) :
    hasTyA I t v =
      if t.occ.repeated then
        (match v with
         | .none => true
         | .list vs => hasTyItemsA I t vs
         | _ => false)
      else hasTyOneA I t v := by
  rw [hasTyA.eq_def, hasTyOneA.eq_def]
  generalize t.occ.repeated = r
  cases r <;> cases v <;> rfl

/-- a slot that holds a value of the member's type still does after one more occurrence is stored in it -/
theorem hasTyA_store {I : IfaceA} {t : TyA} {w v : Val} (hw : hasTyA I t w = true) (hv : hasTyOneA I t v = true) :
    hasTyA I t (if t.occ.repeated then accStep w v else v) = true := by
  rw [hasTyA_def] at hw ⊢
  cases hrep : t.occ.repeated with
  | false => exact hv
  | true =>
    rw [hrep, if_pos rfl] at hw
    cases w with
    | list l => exact all_snoc (g := hasTyItemsA I t) rfl (fun _ _ => rfl) l v hw hv
    | _ => simp [accStep, hasTyItemsA, hv]

theorem hasTyFieldsA_store {I : IfaceA} (fields : List (Text × MKind × TyA)) (st : List (Text × Val)) (k : Text)
    (mt : TyA) (v : Val) (hst : hasTyFieldsA I fields st = true) (hk : lookupA fields k = some (.element, mt))
    (hv : hasTyOneA I mt v = true) :
    hasTyFieldsA I fields (if mt.occ.repeated then stAppend st k v else stSet st k v) = true := by
  rw [store_eq, hasTyFieldsA_iff]
  exact Slots.set_same _ fields st hk (fun hold => hasTyA_store hold hv) ((hasTyFieldsA_iff fields st).mp hst)


theorem modifierValue_sound {F : Facts08} (L : LeafLaws F) (A : FactsAttr) (cfg : Cfg) (p : PrimTy) (s : Text) (v : Val)
    (h : modifierValue F A cfg p s = .ok v) : p.kindOk v = true := by
  rw [modifierValue_eq L] at h
  split at h
  · exact L.sound p s v (leafSpec_eq_ok.mp h).1
  · exact L.sound p s v h

theorem slotOk_modifier {I : IfaceA} {kind : MKind} (hk : kind ≠ .element) (p : PrimTy) (o : Occ) (v : Val)
    (h : p.kindOk v = true) : slotOk I kind (.prim p o) v = true := by
  cases kind with
  | element => exact absurd rfl hk
  | _ => cases v <;> simp_all [slotOk, kindOkA]

theorem dataPass_sound {F : Facts08} (L : LeafLaws F) (A : FactsAttr) (cfg : Cfg) (I : IfaceA) (text : Option Text)
    (fields : List (Text × MKind × TyA)) (fs : List (Text × MKind × TyA))
    (hsub : ∀ f ∈ fs, lookupA fields f.1 = some f.2) (st st' : List (Text × Val))
    (hst : hasTyFieldsA I fields st = true) (h : dataPass F A cfg text fs st = .ok st') :
    hasTyFieldsA I fields st' = true :=
  dataPass_ind F A cfg text fs st st' (fun k p o s v st hm hv hst =>
    hasTyFieldsA_stSet fields st k .data (.prim p o) v hst (hsub _ hm)
      (slotOk_modifier (by simp) p o v (modifierValue_sound L A cfg p s v hv))) hst h

theorem attrPass_sound {F : Facts08} (L : LeafLaws F) (A : FactsAttr) (cfg : Cfg) (I : IfaceA)
    (fields : List (Text × MKind × TyA)) (as : List (Text × Text)) (st st' : List (Text × Val))
    (hst : hasTyFieldsA I fields st = true) (h : attrPass F A cfg fields as st = .ok st') :
    hasTyFieldsA I fields st' = true :=
  attrPass_ind F A cfg fields (P := fun _ st => hasTyFieldsA I fields st = true)
    (fun _ key s p o v st hlk hv hst => hasTyFieldsA_stSet fields st key .attribute (.prim p o) v hst hlk
      (slotOk_modifier (by simp) p o v (modifierValue_sound L A cfg p s v hv)))
    (fun _ _ _ _ _ hst => hst) as [] st st' hst h

theorem childAttrLeak_sound {F : Facts08} (L : LeafLaws F) (A : FactsAttr) (cfg : Cfg) (I : IfaceA)
    (fields : List (Text × MKind × TyA)) (as : List (Text × Text)) (st st' : List (Text × Val))
    (hst : hasTyFieldsA I fields st = true) (h : childAttrLeak F A cfg fields as st = .ok st') :
    hasTyFieldsA I fields st' = true := by
  unfold childAttrLeak at h
  split at h
  · cases h; exact hst
  · exact attrPass_sound L _ cfg I fields as st st' hst h


theorem ifaceWfA_names {I : IfaceA} (h : ifaceWfA I = true) : textsNodup (I.classes.map (·.name)) = true := by
  simp only [ifaceWfA, Bool.and_eq_true] at h; exact h.1.1.1

theorem ifaceWfA_others {I : IfaceA} (h : ifaceWfA I = true) :
    ∀ e ∈ I.others, (match e.2 with | .obj _ _ _ _ _ => false | _ => true) = true := by
  simp only [ifaceWfA, Bool.and_eq_true, List.all_eq_true] at h; exact h.1.2

theorem ifaceWfA_fields {I : IfaceA} (h : ifaceWfA I = true) :
    ∀ c ∈ I.classes, namesNodupA c.fields = true ∧ c.fields.all (fun f => plainName f.1) = true ∧
      kindsWf c.fields = true ∧ wfFieldsA c.fields = true := by
  simp only [ifaceWfA, Bool.and_eq_true, List.all_eq_true] at h
  intro c hc
  have := h.2 c hc
  exact ⟨this.1.1.1, by simpa [List.all_eq_true] using this.1.1.2, this.1.2, this.2⟩

/-- what `resolvedA` (XmlAttrRules) can return, as a relation: the declared type, or the type of a registered
    descendant of the declared class. `resolvedA_sound` gives it from the `xsi:type` check and a well-formed
    registry, and the lemmas below read it. -/
def ResolvedFromA (I : IfaceA) (t rt : TyA) : Prop :=
  rt = t ∨ (∃ dn dns db dfs docc c, t = .obj dn dns db dfs docc ∧ rt = ClassDefA.toTy c ∧ c ∈ I.classes ∧
              I.classes.find? (fun d => d.name = c.name) = some c ∧ I.isSub c.name dn = true)

theorem resolveXsiA_sound {X : FactsXml} (hX : X.xsiTypeCheck = true) {I : IfaceA} (hI : ifaceWfA I = true)
    {t rt : TyA} {key : Text} (h : resolveXsiA X I t key = some rt) : ResolvedFromA I t rt := by
  unfold resolveXsiA at h
  split at h
  · cases h
  · rename_i nt hl
    simp only [hX, if_true] at h
    split at h
    · rename_i dn dns db dfs docc nn nns nb nfs nocc
      split at h
      · rename_i hs
        cases h
        unfold IfaceA.lookup at hl
        split at hl
        · rename_i c hc
          right
          have hmem := List.mem_of_find?_eq_some hc
          have hcc : ClassDefA.toTy c = .obj nn nns nb nfs nocc := Option.some.inj hl
          refine ⟨dn, dns, db, dfs, docc, c, rfl, hcc.symm, hmem, find?_key_of_mem (·.name) _ _ (ifaceWfA_names hI) hmem, ?_⟩
          have : c.name = nn := by
            simp only [ClassDefA.toTy] at hcc; injection hcc
          rw [this]; exact hs
        · exfalso
          have := ifaceWfA_others hI _ (mem_of_lookup hl)
          simp at this
      · cases h
    · split at h
      · cases h; left; rfl
      · cases h
    · cases h; left; rfl
    · cases h

/-- the type `from_element` goes on with, whether or not `parse_xsi_type` looks at the attribute -/
theorem resolvedA_sound {X : FactsXml} (hX : X.xsiTypeCheck = true) {I : IfaceA} (hI : ifaceWfA I = true)
    {cfg : Cfg} {attrs : List (Text × Text)} {t rt : TyA} (h : resolvedA X cfg I t attrs = some rt) : ResolvedFromA I t rt := by
  unfold resolvedA at h
  split at h
  · split at h
    · cases h; exact Or.inl rfl
    · exact resolveXsiA_sound hX hI h
  · cases h; exact Or.inl rfl

theorem resolvedA_fields {I : IfaceA} (hI : ifaceWfA I = true) {t : TyA} (hwf : tyWfA t = true) {cname cns : Text}
    {cb : Option Text} {fields : List (Text × MKind × TyA)} {o : Occ} (hr : ResolvedFromA I t (.obj cname cns cb fields o)) :
    namesNodupA fields = true ∧ wfFieldsA fields = true := by
  rcases hr with h' | ⟨dn, dns, db, dfs, docc, c, ht, hrt', hmem, _⟩
  · subst h'
    simp only [tyWfA, Bool.and_eq_true] at hwf
    exact ⟨hwf.1.1.1.1, hwf.1.2⟩
  · simp only [ClassDefA.toTy] at hrt'
    injection hrt' with h1 h2 h3 h4 h5
    subst h4
    exact ⟨(ifaceWfA_fields hI c hmem).1, (ifaceWfA_fields hI c hmem).2.2.2⟩

theorem resolvedA_prim {I : IfaceA} {t : TyA} {p : PrimTy} {o : Occ} (hr : ResolvedFromA I t (.prim p o)) : t = .prim p o := by
  rcases hr with h | ⟨_, _, _, _, _, c, _, hrt, _⟩
  · exact h.symm
  · simp [ClassDefA.toTy] at hrt

theorem resolvedA_arr {I : IfaceA} {t : TyA} {m : Text} {e : TyA} {o : Occ} (hr : ResolvedFromA I t (.arr m e o)) :
    t = .arr m e o := by
  rcases hr with h | ⟨_, _, _, _, _, c, _, hrt, _⟩
  · exact h.symm
  · simp [ClassDefA.toTy] at hrt

theorem hasTyOneA_obj_of_resolved {I : IfaceA} {t : TyA} {cname cns : Text} {cb : Option Text}
    {fields : List (Text × MKind × TyA)} {o : Occ} (hr : ResolvedFromA I t (.obj cname cns cb fields o))
    (st : List (Text × Val)) (hst : hasTyFieldsA I fields st = true) : hasTyOneA I t (.obj cname st) = true := by
  rcases hr with h | ⟨dn, dns, db, dfs, docc, c, ht, hrt, _, hf, hs⟩
  · subst h; simp [hasTyOneA, hst]
  · subst ht
    injection hrt with h1 h2 h3 h4 h5
    subst h1; subst h4
    simp [hasTyOneA, hs, hf, hst]

theorem leafFromElement_soundA {F : Facts08} (L : LeafLaws F) (X : FactsXml) (cfg : Cfg) (I : IfaceA) (p : PrimTy)
    (o : Occ) (text : Option Text) (v : Val) (h : leafFromElement F X cfg p o text = .ok v) :
    hasTyOneA I (.prim p o) v = true := by
  rcases leafFromElement_kind L X cfg p o text v h with rfl | hv
  · rfl
  · cases v <;> first | exact hv | rfl | cases PrimTy.isLeaf_of_kindOk hv

mutual
  theorem fromElementA_sound {F : Facts08} (L : LeafLaws F) {X : FactsXml} (hX : X.xsiTypeCheck = true)
      (A : FactsAttr) (cfg : Cfg) {I : IfaceA} (hI : ifaceWfA I = true) (t : TyA) :
      (x : Node) → (v : Val) → tyWfA t = true →
      fromElementA F X A cfg I t x = .ok v → hasTyOneA I t v = true
    | .elem ns name attrs text children, v, hwf, h => by
      rcases fromElementA_ok h with ⟨_, _, hv⟩ | ⟨p, o, hr, hl⟩ |
        ⟨cname, cns, cb, fields, o, st1, st2, st3, hr, h1, h2, h3, _, hv⟩ | ⟨m, elem, o, vs, hr, hal, hv⟩
      · rw [hv]; rfl
      · have := resolvedA_prim (resolvedA_sound hX hI hr)
        subst this
        exact leafFromElement_soundA L X cfg I _ _ _ v hl
      · have hr := resolvedA_sound hX hI hr
        have hnd := resolvedA_fields hI hwf hr
        have hs1 := dataPass_sound L A cfg I text fields fields (lookupA_of_memA fields hnd.1) _ st1
          (hasTyFieldsA_init I fields) h1
        have hs2 := childLoopA_sound L hX A cfg hI fields hnd.2 children st1 st2 hs1 h2
        rw [hv]
        exact hasTyOneA_obj_of_resolved hr st3 (attrPass_sound L A cfg I fields attrs st2 st3 hs2 h3)
      · have := resolvedA_arr (resolvedA_sound hX hI hr)
        subst this
        simp only [tyWfA, Bool.and_eq_true] at hwf
        rw [hv]
        simp [hasTyOneA, arrayLoopA_sound L hX A cfg hI elem hwf.1 children vs hal]

  theorem childLoopA_sound {F : Facts08} (L : LeafLaws F) {X : FactsXml} (hX : X.xsiTypeCheck = true)
      (A : FactsAttr) (cfg : Cfg) {I : IfaceA} (hI : ifaceWfA I = true) (fields : List (Text × MKind × TyA))
      (hwf : wfFieldsA fields = true) :
      (cs : List Node) → (st st' : List (Text × Val)) → hasTyFieldsA I fields st = true →
      childLoopA F X A cfg I fields cs st = .ok st' → hasTyFieldsA I fields st' = true
    | [], st, st', hst, h => by
      simp only [childLoopA] at h; cases h; exact hst
    | c :: cs, st, st', hst, h => by
      rcases childLoopA_ok h with ⟨_, h⟩ | ⟨mt, v, st1, hk, hv, hl, h⟩
      · exact childLoopA_sound L hX A cfg hI fields hwf cs st st' hst h
      · have hv' := fromElementA_sound L hX A cfg hI mt c v (wf_of_lookupA fields hwf _ _ _ hk) hv
        exact childLoopA_sound L hX A cfg hI fields hwf cs st1 st'
          (childAttrLeak_sound L A cfg I fields c.attrs _ st1 (hasTyFieldsA_store fields st _ mt v hst hk hv') hl) h

  theorem arrayLoopA_sound {F : Facts08} (L : LeafLaws F) {X : FactsXml} (hX : X.xsiTypeCheck = true)
      (A : FactsAttr) (cfg : Cfg) {I : IfaceA} (hI : ifaceWfA I = true) (elem : TyA)
      (hwf : tyWfA elem = true) :
      (cs : List Node) → (vs : List Val) → arrayLoopA F X A cfg I elem cs = .ok vs → hasTyItemsA I elem vs = true
    | [], vs, h => by
      simp only [arrayLoopA] at h; cases h; rfl
    | c :: cs, vs, h => by
      obtain ⟨v, ws, hv, hws, hvs⟩ := arrayLoopA_ok h
      rw [hvs, hasTyItemsA, fromElementA_sound L hX A cfg hI elem c v hwf hv,
        arrayLoopA_sound L hX A cfg hI elem hwf cs ws hws]
      rfl
end

end Xml
end SpyneModel
