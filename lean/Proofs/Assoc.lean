/-
  Keyed lists. The model looks members, classes, keyword arguments and schema components up by key in many
  places, sometimes with `List.lookup`, sometimes with `List.find?`, sometimes with a recursion of its own, and
  checks that keys are distinct with several Boolean recursions. The facts every codec needs are the same three:
  a hit is an entry of the list, a miss means the key does not occur, and when the keys are distinct every
  entry is what its key finds. Core Lean only.
-/
namespace SpyneModel
universe u v w

/-! ### first match on a key, distinct keys -/

/-- with distinct keys, a search that stops at the first entry carrying the key of `a` finds `a` itself; the
    test is a variable so that `decide (key x = k)`, `key x == k` and `k == key x` are all instances -/
theorem find?_of_mem_nodup {α : Type u} {κ : Type v} (key : α → κ) {p : α → Bool} {a : α} :
    ∀ {l : List α}, (l.map key).Nodup → a ∈ l → (∀ x ∈ l, p x = true ↔ key x = key a) → l.find? p = some a
  | x :: l, hn, ha, hp => by
    obtain ⟨hx, hn⟩ := List.nodup_cons.mp hn
    rcases List.mem_cons.mp ha with rfl | ha
    · rw [List.find?_cons_of_pos ((hp a List.mem_cons_self).mpr rfl)]
    · have : ¬ p x = true := fun h => hx (((hp x List.mem_cons_self).mp h) ▸ List.mem_map_of_mem ha)
      rw [List.find?_cons_of_neg this]
      exact find?_of_mem_nodup key hn ha fun y hy => hp y (List.mem_cons_of_mem _ hy)

theorem eq_of_nodup_map {α : Type u} {κ : Type v} (key : α → κ) {a b : α} :
    ∀ {l : List α}, (l.map key).Nodup → a ∈ l → b ∈ l → key a = key b → a = b
  | x :: l, hn, ha, hb, h => by
    obtain ⟨hx, hn⟩ := List.nodup_cons.mp hn
    rcases List.mem_cons.mp ha with rfl | ha' <;> rcases List.mem_cons.mp hb with rfl | hb'
    · rfl
    · exact absurd (h ▸ List.mem_map_of_mem hb') hx
    · exact absurd (h ▸ List.mem_map_of_mem ha') hx
    · exact eq_of_nodup_map key hn ha' hb' h

/-- a conjunction written as the recursion `g (a :: l) = (f a && g l)` is `List.all f`; inside mutual blocks over
    nested types the model has to spell it out -/
theorem all_of_rec {α : Type u} {f : α → Bool} {g : List α → Bool} (hnil : g [] = true)
    (hcons : ∀ a l, g (a :: l) = (f a && g l)) : ∀ l, g l = l.all f
  | [] => hnil
  | a :: l => by rw [hcons, all_of_rec hnil hcons l, List.all_cons]

/-- a Boolean check written as the recursion `g (a :: l) = (!l.contains a && g l)` decides `Nodup` -/
theorem nodup_iff_of_rec {α : Type u} [BEq α] [LawfulBEq α] {g : List α → Bool} (hnil : g [] = true)
    (hcons : ∀ a l, g (a :: l) = (!l.contains a && g l)) : ∀ l, g l = true ↔ l.Nodup
  | [] => by simp [hnil]
  | a :: l => by simp [hcons, nodup_iff_of_rec hnil hcons l]

/-- the same for a check that compares keys: `hcons` says what the test between an entry and the entries after
    it amounts to, so that `e.1 == k`, `decide (f.1 = k)` and a test on two components are all instances -/
theorem nodup_map_iff_of_rec {α : Type u} {κ : Type v} (key : α → κ) {g : List α → Bool} (hnil : g [] = true)
    (hcons : ∀ a l, g (a :: l) = true ↔ (∀ b ∈ l, key b ≠ key a) ∧ g l = true) : ∀ l, g l = true ↔ (l.map key).Nodup
  | [] => by simp [hnil]
  | a :: l => by
    rw [hcons, nodup_map_iff_of_rec key hnil hcons l, List.map_cons, List.nodup_cons, List.mem_map]
    exact and_congr_left' ⟨fun h ⟨b, hb, e⟩ => h b hb e, fun h b hb e => h ⟨b, hb, e⟩⟩

/-! ### `List.lookup` -/

section lookup
variable {κ : Type u} {β : Type v} {γ : Type w} [BEq κ] {l l₂ : List (κ × β)} {k : κ} {v : β}

theorem lookup_append_of_some (h : l.lookup k = some v) : (l ++ l₂).lookup k = some v := by
  rw [List.lookup_append, h]; rfl

theorem lookup_append_of_none (h : l.lookup k = none) : (l ++ l₂).lookup k = l₂.lookup k := by
  rw [List.lookup_append, h]; rfl

variable [LawfulBEq κ]

theorem mem_of_lookup (h : l.lookup k = some v) : (k, v) ∈ l := by
  obtain ⟨l₁, l₂, rfl, _⟩ := List.lookup_eq_some_iff.mp h
  exact List.mem_append_right _ List.mem_cons_self

theorem lookup_eq_none : l.lookup k = none ↔ ∀ e ∈ l, e.1 ≠ k :=
  List.lookup_eq_none_iff.trans
    ⟨fun h e he hk => bne_iff_ne.mp (h e he) hk.symm, fun h e he => bne_iff_ne.mpr fun hk => h e he hk.symm⟩

theorem lookup_isSome : (l.lookup k).isSome = true ↔ k ∈ l.map (·.1) := by
  rw [List.lookup_isSome_iff, List.mem_map]
  exact ⟨fun ⟨e, he, hk⟩ => ⟨e, he, (beq_iff_eq.mp hk).symm⟩, fun ⟨e, he, hk⟩ => ⟨e, he, beq_iff_eq.mpr hk.symm⟩⟩

/-- with distinct keys every entry is what its key looks up -/
theorem lookup_of_mem_nodup (hn : (l.map (·.1)).Nodup) (hm : (k, v) ∈ l) : l.lookup k = some v := by
  obtain ⟨w, hw⟩ := Option.isSome_iff_exists.mp (lookup_isSome.mpr (List.mem_map_of_mem (f := (·.1)) hm))
  rw [hw, ← (Prod.mk.inj (eq_of_nodup_map (·.1) hn hm (mem_of_lookup hw) rfl)).2]

/-- rewriting the values leaves the search alone -/
theorem lookup_map_val (f : κ → β → γ) : ∀ l : List (κ × β), (l.map fun e => (e.1, f e.1 e.2)).lookup k = (l.lookup k).map (f k)
  | [] => rfl
  | (k', w) :: l => by
    simp only [List.map_cons, List.lookup_cons]
    cases h : k == k' with
    | true => rw [beq_iff_eq.mp h]; rfl
    | false => exact lookup_map_val f l

end lookup

end SpyneModel
