/-
  Lemmas about the C17 model (SpyneModel/XmlParserCfg.lean), general in the libxml2 constants
  `L : Lib` and in the facts `F : Facts17`.
-/
import SpyneModel.XmlParserCfg
namespace SpyneModel.XmlCfg
open SpyneModel


theorem safe_directKw_iff (a : CtorArgs) :
    Safe (directKw a) ↔
      (a.resolveEntities = .off ∧ a.loadDtd = false ∧ a.dtdValidation = false ∧
       a.attributeDefaults = false ∧ a.noNetwork = true ∧ a.hugeTree = false) := Iff.rfl

/-- nothing external is ever substituted or loaded: entity substitution off, no DTD loading -/
def Quiet (kw : ParserKw) : Prop := kw.resolveEntities = .off ∧ kw.dtdLoads = false

namespace Safe
variable {kw : ParserKw} (h : Safe kw)
include h
theorem resolveEntities : kw.resolveEntities = .off := h.1
theorem hugeTree : kw.hugeTree = false := h.2.2.2.2.2
theorem quiet : Quiet kw := by
  obtain ⟨h1, h2, h3, h4, _, _⟩ := h
  exact ⟨h1, by simp [ParserKw.dtdLoads, h2, h3, h4]⟩
end Safe


theorem prepend_fetches (f : List Uri) (o : List OTok) (r : PResult) :
    (r.prepend f o).fetches = f ++ r.fetches := rfl

theorem prepend_out_ok {f : List Uri} {o : List OTok} {r : PResult} {t : List OTok}
    (h : (r.prepend f o).out = .ok t) : ∃ t', r.out = .ok t' ∧ t = o ++ t' := by
  unfold PResult.prepend at h
  cases hr : r.out with
  | ok t' => rw [hr] at h; cases h; exact ⟨t', rfl, rfl⟩
  | err e => rw [hr] at h; cases h

theorem prepend_out_err (f : List Uri) (o : List OTok) {r : PResult} {e : Err} (h : r.out = .err e) :
    (r.prepend f o).out = .err e := by
  simp [PResult.prepend, h]

theorem parse_out {L : Lib} {kw : ParserKw} {env : Env} {doc : Doc} {o : List OTok}
    (h : (parse L kw env doc).out = .ok o) : ∃ D l, (parseBody L kw env D l doc).out = .ok o := by
  unfold parse at h
  split at h
  · exact ⟨_, _, h⟩
  · simp only [] at h
    split at h
    · cases h
    · obtain ⟨t', h1, rfl⟩ := prepend_out_ok h
      exact ⟨_, _, h1⟩

theorem parse_err {L : Lib} {kw : ParserKw} {env : Env} {doc : Doc}
    (h : ∀ D l, ∃ e, (parseBody L kw env D l doc).out = .err e) : ∃ e, (parse L kw env doc).out = .err e := by
  unfold parse
  split
  · exact h _ _
  · simp only []
    split
    · exact ⟨_, rfl⟩
    · obtain ⟨e, he⟩ := h _ _
      exact ⟨e, prepend_out_err _ _ he⟩


theorem lookup_map {α β : Type} (D : List (Nat × α)) (g : Nat → β) (n : Nat) :
    lookup (D.map fun d => (d.1, g d.1)) n = (lookup D n).map fun _ => g n := by
  induction D with
  | nil => rfl
  | cons d r ih =>
    obtain ⟨k, v⟩ := d
    simp only [List.map, lookup]
    by_cases hk : k = n
    · subst hk; simp
    · simp [hk, ih]

theorem lookup_costTab_zero (c : Cfg) (ctx : Ctx) (n : Nat) :
    lookup (costTab c ctx 0) n = (lookup c.decls n).map fun _ => Res.err Err.entDepth :=
  lookup_map c.decls (fun _ => Res.err Err.entDepth) n

theorem lookup_costTab_succ (c : Cfg) (ctx : Ctx) (k n : Nat) :
    lookup (costTab c ctx (k + 1)) n =
      (lookup c.decls n).map fun _ => refCost c ctx (tabGet c ctx (costTab c ctx k)) n :=
  lookup_map c.decls (fun m => refCost c ctx (tabGet c ctx (costTab c ctx k)) m) n

theorem tabGet_costTab (c : Cfg) (ctx : Ctx) (k n : Nat) :
    tabGet c ctx (costTab c ctx k) n = costAt c ctx k n := by
  induction k generalizing n with
  | zero =>
    simp only [tabGet, lookup_costTab_zero, costAt]
    cases h : lookup c.decls n <;> simp
  | succ k ih =>
    have hfun : tabGet c ctx (costTab c ctx k) = costAt c ctx k := funext ih
    simp only [tabGet, lookup_costTab_succ, costAt, hfun]
    cases h : lookup c.decls n with
    | none => simp [refCost, h]
    | some d => simp

theorem acct_eq (c : Cfg) : c.acct = ⟨costAt c .attr c.fuel, costAt c .text c.fuel⟩ := by
  simp only [Cfg.acct]
  congr 1 <;> exact funext (tabGet_costTab c _ _)


/-- the same parse in another world: with entity substitution off nothing below reads `env` -/
def Cfg.setEnv (c : Cfg) (e : Env) : Cfg := { c with env := e }

section env
variable (c : Cfg) (e : Env) (hq : c.kw.resolveEntities = .off)
include hq

theorem refCost_env : refCost (c.setEnv e) = refCost c := by
  funext ctx prev n
  simp only [refCost, Cfg.setEnv, hq]

theorem costAt_env (ctx : Ctx) (k : Nat) : costAt (c.setEnv e) ctx k = costAt c ctx k := by
  induction k with
  | zero => funext n; simp only [costAt, refCost_env c e hq]; rfl
  | succ k ih => funext n; simp only [costAt, ih, refCost_env c e hq]

theorem acct_env : (c.setEnv e).acct = c.acct := by
  rw [acct_eq, acct_eq, costAt_env c e hq, costAt_env c e hq]
  rfl

theorem refText_env : refText (c.setEnv e) = refText c := by
  funext ctx prev n
  simp only [refText, Cfg.setEnv, hq]

theorem textAt_env (ctx : Ctx) (k : Nat) : textAt (c.setEnv e) ctx k = textAt c ctx k := by
  induction k with
  | zero => rfl
  | succ k ih => funext n; simp only [textAt, ih, refText_env c e hq]

theorem attrValues_env (as : List (Text × List Piece)) : attrValues (c.setEnv e) as = attrValues c as := by
  induction as with
  | nil => rfl
  | cons a r ih =>
    have : textAt (c.setEnv e) .attr (c.setEnv e).fuel = textAt c .attr c.fuel := textAt_env c e hq _ _
    simp only [attrValues, ih, this]
    rfl

theorem walk_env (A : Acct) (d k : Nat) (b : List Tok) : walk (c.setEnv e) A d k b = walk c A d k b := by
  have hr : ∀ n, textRef (c.setEnv e) n = textRef c n := fun n => by simp [textRef, Cfg.setEnv, hq]
  induction b generalizing d k with
  | nil => rfl
  | cons t r ih => cases t <;> simp only [walk, ih, attrValues_env c e hq, hr] <;> rfl

end env

theorem parseBody_env (L : Lib) (kw : ParserKw) (e1 e2 : Env) (hq : kw.resolveEntities = .off)
    (D : Decls) (l : Bool) (doc : Doc) : parseBody L kw e1 D l doc = parseBody L kw e2 D l doc := by
  have h1 := walk_env ⟨L, kw, e1, D, l, doc.size⟩ e2 hq
  have h2 := acct_env ⟨L, kw, e1, D, l, doc.size⟩ e2 hq
  simp only [Cfg.setEnv] at h1 h2
  simp only [parseBody, h2, h1]

theorem peDecls_quiet (L : Lib) (kw : ParserKw) (env : Env) (hq : Quiet kw) (us : List Uri) :
    peDecls L kw env us = W.pure [] := by
  induction us with
  | nil => rfl
  | cons u r ih =>
    simp only [peDecls, hq.1, hq.2, ih]
    rfl

theorem dtdPhase_quiet (L : Lib) (kw : ParserKw) (env : Env) (hq : Quiet kw) (d : Dtd) :
    dtdPhase L kw env d = ⟨.ok d.ents, []⟩ := by
  simp only [dtdPhase, peDecls_quiet L kw env hq, hq.2]
  cases d.extSubset <;> simp [W.andThen, W.pure, W.map]

theorem parse_quiet_env (L : Lib) (kw : ParserKw) (e1 e2 : Env) (hq : Quiet kw) (doc : Doc) :
    parse L kw e1 doc = parse L kw e2 doc := by
  unfold parse
  cases doc.dtd with
  | none => exact parseBody_env L kw e1 e2 hq.1 _ _ doc
  | some d => simp only [dtdPhase_quiet L kw _ hq, parseBody_env L kw e1 e2 hq.1]


/-- what holds of every URI a parse fetches: substitution of external entities or DTD loading is on, and the loader
    let the URI through (`loaded`, or `empty` for a resource that is not there) -/
def Touched (L : Lib) (kw : ParserKw) (env : Env) (u : Uri) : Prop :=
  (kw.resolveEntities = .all ∨ kw.dtdLoads = true) ∧ (load L kw env u = .loaded ∨ load L kw env u = .empty)

theorem piecesText_fetches {P : Uri → Prop} (h : Nat → Text × List Uri) (hh : ∀ n, ∀ u ∈ (h n).2, P u)
    (ps : List Piece) : ∀ u ∈ (piecesText h ps).2, P u := by
  induction ps with
  | nil => nofun
  | cons p r ih =>
    cases p with
    | lit t => exact ih
    | ref n => exact List.forall_mem_append.2 ⟨hh n, ih⟩

theorem textAt_fetches (c : Cfg) (ctx : Ctx) (k n : Nat) :
    ∀ u ∈ (textAt c ctx k n).2, Touched c.lib c.kw c.env u := by
  induction k generalizing n with
  | zero => nofun
  | succ k ih =>
    unfold textAt refText
    split
    · nofun
    · exact piecesText_fetches _ ih _
    · split
      · next hr =>
        split
        · next hl => exact List.forall_mem_singleton.2 ⟨.inl hr, .inl hl⟩
        · next hl => exact List.forall_mem_singleton.2 ⟨.inl hr, .inr hl⟩
        · nofun
      · nofun

theorem attrValues_fetches (c : Cfg) (as : List (Text × List Piece)) :
    ∀ u ∈ (attrValues c as).2, Touched c.lib c.kw c.env u := by
  induction as with
  | nil => nofun
  | cons a r ih => exact List.forall_mem_append.2 ⟨piecesText_fetches _ (textAt_fetches c .attr c.fuel) _, ih⟩

theorem walk_fetches (c : Cfg) (A : Acct) (d k : Nat) (b : List Tok) :
    ∀ u ∈ (walk c A d k b).fetches, Touched c.lib c.kw c.env u := by
  -- the cases of `walk`: 1 `[]`, 2 text, 3 end tag, 4–6 a start tag refused (depth, account, budget),
  -- 7 a start tag accepted, 8–9 a reference refused (account, budget), 10 a reference accepted
  fun_induction walk c A d k b
  case case2 ih | case3 ih => exact ih
  case case7 ih => exact List.forall_mem_append.2 ⟨attrValues_fetches c _, ih⟩
  case case10 n _ _ _ _ _ ih =>
    refine List.forall_mem_append.2 ⟨?_, ih⟩
    show ∀ u ∈ (textRef c n).2, _
    unfold textRef
    split
    · nofun
    · exact textAt_fetches c .text c.fuel n
  all_goals nofun

theorem loadDecls_fetches (L : Lib) (kw : ParserKw) (env : Env) (h : kw.resolveEntities = .all ∨ kw.dtdLoads = true)
    (u : Uri) : ∀ v ∈ (loadDecls L kw env u).fetches, Touched L kw env v := by
  unfold loadDecls
  split
  · next hl => exact List.forall_mem_singleton.2 ⟨h, .inl hl⟩
  · next hl => exact List.forall_mem_singleton.2 ⟨h, .inr hl⟩
  · nofun
  · nofun

theorem andThen_fetches {α β} {P : Uri → Prop} (x : W α) (f : α → W β) (hx : ∀ u ∈ x.fetches, P u)
    (hf : ∀ a, ∀ u ∈ (f a).fetches, P u) : ∀ u ∈ (x.andThen f).fetches, P u := by
  unfold W.andThen
  split
  · exact hx
  · exact List.forall_mem_append.2 ⟨hx, hf _⟩

theorem map_fetches {α β} (x : W α) (f : α → β) : (x.map f).fetches = x.fetches := by
  unfold W.map; cases x.val <;> rfl

theorem peDecls_fetches (L : Lib) (kw : ParserKw) (env : Env) (us : List Uri) :
    ∀ u ∈ (peDecls L kw env us).fetches, Touched L kw env u := by
  induction us with
  | nil => nofun
  | cons u r ih =>
    unfold peDecls
    split
    · nofun
    · split
      · next h =>
        refine andThen_fetches _ _ (loadDecls_fetches L kw env ?_ u) fun d => by rw [map_fetches]; exact ih
        rcases Bool.or_eq_true_iff.1 h with h | h
        · exact .inr h
        · exact .inl (by simpa using h)
      · exact ih

theorem dtdPhase_fetches (L : Lib) (kw : ParserKw) (env : Env) (d : Dtd) :
    ∀ u ∈ (dtdPhase L kw env d).fetches, Touched L kw env u := by
  refine andThen_fetches _ _ (peDecls_fetches L kw env _) fun pe => ?_
  rw [map_fetches]
  split
  · split
    · next h => exact loadDecls_fetches L kw env (.inr h) _
    · nofun
  · nofun

theorem parse_fetches (L : Lib) (kw : ParserKw) (env : Env) (doc : Doc) :
    ∀ u ∈ (parse L kw env doc).fetches, Touched L kw env u := by
  unfold parse
  split
  · exact walk_fetches ⟨L, kw, env, _, _, doc.size⟩ _ 0 0 doc.body
  · simp only []
    split
    · exact dtdPhase_fetches L kw env _
    · exact List.forall_mem_append.2 ⟨dtdPhase_fetches L kw env _, walk_fetches ⟨L, kw, env, _, _, doc.size⟩ _ 0 0 doc.body⟩

/-- nothing is opened unless substitution of external entities or DTD loading is switched on
    (covers `resolve_entities='internal'`, lxml's own default, used by the schema tools) -/
theorem parse_no_fetch (L : Lib) (kw : ParserKw) (env : Env) (hq : kw.resolveEntities ≠ .all)
    (hd : kw.dtdLoads = false) (doc : Doc) : (parse L kw env doc).fetches = [] :=
  List.eq_nil_iff_forall_not_mem.2 fun u hu =>
    (parse_fetches L kw env doc u hu).1.elim hq (by simp [hd])

theorem parse_quiet_no_fetch (L : Lib) (kw : ParserKw) (env : Env) (hq : Quiet kw) (doc : Doc) :
    (parse L kw env doc).fetches = [] :=
  parse_no_fetch L kw env (by simp [hq.1]) hq.2 doc


def NonNet (L : Lib) (l : List Uri) : Prop := ∀ u ∈ l, L.isNet u.scheme = false

theorem NonNet.append {L : Lib} {a b : List Uri} (ha : NonNet L a) (hb : NonNet L b) : NonNet L (a ++ b) :=
  List.forall_mem_append.2 ⟨ha, hb⟩

theorem load_nonnet (L : Lib) (kw : ParserKw) (env : Env) (hn : kw.noNetwork = true) (u : Uri)
    (h : load L kw env u = .loaded ∨ load L kw env u = .empty) : L.isNet u.scheme = false := by
  unfold load at h
  cases hs : L.isNet u.scheme with
  | false => rfl
  | true => simp [hs, hn] at h

theorem parse_nonnet (L : Lib) (kw : ParserKw) (env : Env) (hn : kw.noNetwork = true) (doc : Doc) :
    NonNet L (parse L kw env doc).fetches :=
  fun u hu => load_nonnet L kw env hn u (parse_fetches L kw env doc u hu).2


theorem outTexts_append (a b : List OTok) : outTexts (a ++ b) = outTexts a ++ outTexts b := by
  induction a with
  | nil => rfl
  | cons x r ih => cases x <;> simp [outTexts, ih]

theorem walk_texts (c : Cfg) (hq : c.kw.resolveEntities = .off) (A : Acct) (d k : Nat) (b : List Tok)
    (o : List OTok) (h : (walk c A d k b).out = .ok o) : outTexts o = srcTexts b := by
  fun_induction walk c A d k b generalizing o
  case case1 => cases h; rfl
  case case2 ih | case3 ih | case7 ih =>
    obtain ⟨t', h1, rfl⟩ := prepend_out_ok h
    simp [outTexts, srcTexts, ih _ h1]
  case case10 n _ _ _ _ v ih =>
    obtain ⟨t', h1, rfl⟩ := prepend_out_ok h
    simp [v, textRef, hq, outTexts, srcTexts, ih _ h1]
  all_goals cases h

theorem parse_texts (L : Lib) (kw : ParserKw) (env : Env) (hq : kw.resolveEntities = .off) (doc : Doc)
    (o : List OTok) (h : (parse L kw env doc).out = .ok o) : outTexts o = srcTexts doc.body := by
  obtain ⟨D, l, h⟩ := parse_out h
  exact walk_texts ⟨L, kw, env, D, l, doc.size⟩ hq _ 0 0 doc.body o h


theorem walk_depth (c : Cfg) (hh : c.kw.hugeTree = false) (A : Acct) (d k : Nat) (b : List Tok)
    (hd : d ≤ c.lib.maxDepth) (hm : c.lib.maxDepth < maxDepthFrom d b) :
    ∃ e, (walk c A d k b).out = .err e := by
  fun_induction walk c A d k b
  case case1 => simp [maxDepthFrom] at hm; omega
  case case2 ih | case10 ih =>
    obtain ⟨e, he⟩ := ih hd (by simpa [maxDepthFrom] using hm)
    exact ⟨e, prepend_out_err _ _ he⟩
  case case3 ih =>
    obtain ⟨e, he⟩ := ih (by omega) (by simpa [maxDepthFrom] using hm)
    exact ⟨e, prepend_out_err _ _ he⟩
  case case7 hlt _ _ _ _ ih =>
    simp only [hh, Bool.not_false, Bool.true_and, decide_eq_true_eq, Nat.not_lt] at hlt
    simp only [maxDepthFrom] at hm
    obtain ⟨e, he⟩ := ih (by omega) (by omega)
    exact ⟨e, prepend_out_err _ _ he⟩
  all_goals exact ⟨_, rfl⟩

theorem le_maxDepthFrom_opens (t : Text) (as : List (Text × List Piece)) (n d : Nat) (r : List Tok) :
    d + (n + 1) ≤ maxDepthFrom d (List.replicate (n + 1) (.open t as) ++ r) := by
  induction n generalizing d with
  | zero => exact Nat.le_max_left _ _
  | succ n ih => exact Nat.le_trans (by omega) (Nat.le_trans (ih (d + 1)) (Nat.le_max_right _ _))

theorem parse_depth (L : Lib) (kw : ParserKw) (env : Env) (hh : kw.hugeTree = false) (doc : Doc)
    (hm : L.maxDepth < maxDepthFrom 0 doc.body) : ∃ e, (parse L kw env doc).out = .err e :=
  parse_err fun D l => walk_depth ⟨L, kw, env, D, l, doc.size⟩ hh _ 0 0 doc.body (Nat.zero_le _) hm


theorem Res.map_ok {α β} {f : α → β} {r : Res α} {b : β} (h : r.map f = .ok b) : ∃ a, r = .ok a ∧ b = f a := by
  cases r with
  | ok a => cases h; exact ⟨a, rfl, rfl⟩
  | err e => cases h

theorem piecesText_len (hc : Nat → Res Nat) (ht : Nat → Text × List Uri)
    (hh : ∀ n k, hc n = .ok k → (ht n).1.length ≤ k) (ps : List Piece) (a : Nat)
    (h : piecesCost hc ps = .ok a) : (piecesText ht ps).1.length ≤ srcLen ps + a := by
  fun_induction piecesCost hc ps generalizing a
  case case1 => simp [piecesText]
  case case2 ih =>
    have := ih a h
    simp [piecesText, srcLen, Piece.srcLen] at this ⊢
    omega
  case case3 => cases h
  case case4 n r k hn ih =>
    obtain ⟨b, hr, rfl⟩ := Res.map_ok h
    have h1 := ih b hr
    have h2 := hh n k hn
    simp [piecesText, srcLen, Piece.srcLen] at h1 ⊢
    omega

theorem textAt_len (c : Cfg) (ctx : Ctx) (k n cst : Nat) (h : costAt c ctx k n = .ok cst) :
    (textAt c ctx k n).1.length ≤ cst := by
  induction k generalizing n cst with
  | zero => simp [textAt]
  | succ k ih =>
    unfold costAt refCost at h
    unfold textAt refText
    split at h
    · simp
    · next body _ =>
      obtain ⟨a, hp, rfl⟩ := Res.map_ok h
      have := piecesText_len _ _ ih body a hp
      omega
    · split at h
      · cases h
      · split at h
        · next hr => simp [hr]
        · cases h
        · next hr =>
          split at h
          · next hld => cases h; simp [hr, hld]
          · next hld => simp [hr, hld]
          · next hld => simp [hr, hld]
          · cases h

theorem attrValues_len (c : Cfg) (as : List (Text × List Piece)) (a : Nat)
    (h : attrsCost ⟨costAt c .attr c.fuel, costAt c .text c.fuel⟩ as = .ok a) :
    (((attrValues c as).1.map fun kv => kv.2.1.length).sum) ≤ (as.map fun kv => srcLen kv.2).sum + a := by
  generalize hA : Acct.mk (costAt c .attr c.fuel) (costAt c .text c.fuel) = A at h
  fun_induction attrsCost A as generalizing a
  case case1 => simp [attrValues]
  case case2 => cases h
  case case3 k ps r b hp ih =>
    obtain ⟨b2, hr, rfl⟩ := Res.map_ok h
    have h1 := ih b2 hr
    subst hA
    have h2 := piecesText_len _ _ (textAt_len c .attr c.fuel) ps b hp
    simp only [attrValues, List.map, List.sum_cons]
    omega
theorem outSize_append (a b : List OTok) : outSize (a ++ b) = outSize a + outSize b := by
  simp [outSize]

theorem overBudget_zero (c : Cfg) : overBudget c 0 = false := by simp [overBudget]

/-- whatever `walk` delivers is paid for: literal characters, or the account, which stayed within budget -/
theorem walk_bound (c : Cfg) (d k : Nat) (b : List Tok) (o : List OTok)
    (hk : overBudget c k = false)
    (h : (walk c ⟨costAt c .attr c.fuel, costAt c .text c.fuel⟩ d k b).out = .ok o) :
    ∃ k', overBudget c k' = false ∧ outSize o + k ≤ litSize b + k' := by
  generalize hA : Acct.mk (costAt c .attr c.fuel) (costAt c .text c.fuel) = A at h
  fun_induction walk c A d k b generalizing o
  case case1 => cases h; exact ⟨_, hk, by simp [outSize, litSize]⟩
  case case2 ih | case3 ih =>
    obtain ⟨t', h1, rfl⟩ := prepend_out_ok h
    obtain ⟨k', hb, hle⟩ := ih _ hk h1
    refine ⟨k', hb, ?_⟩
    simp [outSize, litSize, OTok.size, Tok.litSize] at hle ⊢
    omega
  case case7 attrs _ _ k1 hA' hob v ih =>
    obtain ⟨t', h1, rfl⟩ := prepend_out_ok h
    obtain ⟨k', hb, hle⟩ := ih _ (by simpa using hob) h1
    refine ⟨k', hb, ?_⟩
    have hv := attrValues_len c attrs k1 (hA ▸ hA')
    simp [v, outSize, litSize, OTok.size, Tok.litSize] at hle hv ⊢
    omega
  case case10 n _ k1 hA' hob v ih =>
    obtain ⟨t', h1, rfl⟩ := prepend_out_ok h
    obtain ⟨k', hb, hle⟩ := ih _ (by simpa using hob) h1
    refine ⟨k', hb, ?_⟩
    subst hA
    have hv := textAt_len c .text c.fuel n k1 hA'
    have hs : outSize (textRef c n).1 ≤ k1 := by
      unfold textRef
      cases c.kw.resolveEntities <;> simp [outSize, OTok.size] <;> exact hv
    simp [v, outSize_append, litSize, Tok.litSize] at hle hs ⊢
    omega
  all_goals cases h

theorem budget_bound (c : Cfg) (hh : c.kw.hugeTree = false) (ha : 0 < c.lib.maxAmpl) (k : Nat)
    (h : overBudget c k = false) : k ≤ max c.lib.allowedExpansion (c.lib.maxAmpl * (c.docSize + 1)) := by
  simp only [overBudget, hh, Bool.not_false, Bool.true_and, Bool.and_eq_false_iff, decide_eq_false_iff_not,
    Nat.not_lt] at h
  rcases h with h | h
  · exact Nat.le_trans h (Nat.le_max_left _ _)
  · have : k < c.lib.maxAmpl * (c.docSize + 1) := by
      have := (Nat.div_lt_iff_lt_mul ha).mp (Nat.lt_succ_of_le h)
      rw [Nat.mul_comm]; exact this
    exact Nat.le_trans (Nat.le_of_lt this) (Nat.le_max_right _ _)

/-- memory: what reaches the application is linear in the size of the request -/
theorem parse_bound (L : Lib) (kw : ParserKw) (env : Env) (hh : kw.hugeTree = false) (ha : 0 < L.maxAmpl)
    (doc : Doc) (o : List OTok) (h : (parse L kw env doc).out = .ok o) :
    outSize o ≤ litSize doc.body + max L.allowedExpansion (L.maxAmpl * (doc.size + 1)) := by
  obtain ⟨D, l, h⟩ := parse_out h
  simp only [parseBody, acct_eq] at h
  obtain ⟨k', hb, hle⟩ := walk_bound ⟨L, kw, env, D, l, doc.size⟩ 0 0 doc.body o (overBudget_zero _) h
  have := budget_bound ⟨L, kw, env, D, l, doc.size⟩ hh ha k' hb
  simp only at this
  omega


theorem piecesCost_err_of_mem (h : Nat → Res Nat) (n : Nat) (e : Err) (hn : h n = .err e) (ps : List Piece)
    (hm : Piece.ref n ∈ ps) : ∃ e', piecesCost h ps = .err e' := by
  fun_induction piecesCost h ps
  case case1 => cases hm
  case case2 ih => exact ih (by simpa using hm)
  case case3 => exact ⟨_, rfl⟩
  case case4 hm' ih =>
    rcases List.mem_cons.1 hm with h1 | h1
    · cases h1; rw [hn] at hm'; cases hm'
    · obtain ⟨e', he'⟩ := ih h1
      exact ⟨e', by simp [he', Res.map]⟩

/-- an entity whose replacement text refers to itself can never be referenced successfully,
    with any nesting allowance -/
theorem self_loop_rejected (c : Cfg) (ctx : Ctx) (n : Nat) (body : List Piece)
    (hd : lookup c.decls n = some (.internal body)) (hm : Piece.ref n ∈ body) (k : Nat) :
    ∃ e, costAt c ctx k n = .err e := by
  induction k with
  | zero => exact ⟨.entDepth, by simp [costAt, hd]⟩
  | succ k ih =>
    obtain ⟨e, he⟩ := ih
    obtain ⟨e', he'⟩ := piecesCost_err_of_mem (costAt c ctx k) n e he body hm
    exact ⟨e', by simp [costAt, refCost, hd, he', Res.map]⟩

theorem attrsCost_err_of_mem (A : Acct) (n : Nat) (e : Err) (hn : A.attr n = .err e)
    (as : List (Text × List Piece)) (k : Text) (ps : List Piece) (h1 : (k, ps) ∈ as) (h2 : Piece.ref n ∈ ps) :
    ∃ e', attrsCost A as = .err e' := by
  fun_induction attrsCost A as
  case case1 => cases h1
  case case2 => exact ⟨_, rfl⟩
  case case3 hp ih =>
    rcases List.mem_cons.1 h1 with h | h
    · cases h
      obtain ⟨e', he'⟩ := piecesCost_err_of_mem A.attr n e hn ps h2
      rw [he'] at hp; cases hp
    · obtain ⟨e', he'⟩ := ih h
      exact ⟨e', by simp [he', Res.map]⟩

/-- a token whose own account is an error: a reference, or a start tag with such a reference in an
    attribute value -/
def Tok.Bad (A : Acct) : Tok → Prop
  | .ref n => ∃ e, A.text n = .err e
  | .open _ as => ∃ e, attrsCost A as = .err e
  | _ => False

theorem walk_err_of_bad (c : Cfg) (A : Acct) (d k : Nat) (b : List Tok) (t : Tok) (ht : t ∈ b) (hb : t.Bad A) :
    ∃ e, (walk c A d k b).out = .err e := by
  fun_induction walk c A d k b
  case case1 => cases ht
  case case2 ih | case3 ih =>
    rcases List.mem_cons.1 ht with rfl | ht
    · cases hb
    · obtain ⟨e, he⟩ := ih ht
      exact ⟨e, prepend_out_err _ _ he⟩
  case case7 hx _ _ ih | case10 hx _ _ ih =>
    rcases List.mem_cons.1 ht with rfl | ht
    · obtain ⟨e, he⟩ := hb
      rw [hx] at he
      cases he
    · obtain ⟨e, he⟩ := ih ht
      exact ⟨e, prepend_out_err _ _ he⟩
  all_goals exact ⟨_, rfl⟩

theorem parse_self_loop (L : Lib) (kw : ParserKw) (hq : Quiet kw) (env : Env) (doc : Doc) (d : Dtd)
    (n : Nat) (body : List Piece) (hdtd : doc.dtd = some d)
    (hdecl : lookup d.ents n = some (.internal body)) (hself : Piece.ref n ∈ body)
    (huse : Tok.ref n ∈ doc.body ∨
            ∃ tag as nm ps, Tok.open tag as ∈ doc.body ∧ (nm, ps) ∈ as ∧ Piece.ref n ∈ ps) :
    ∃ e, (parse L kw env doc).out = .err e := by
  unfold parse
  rw [hdtd]
  simp only [dtdPhase_quiet L kw env hq d]
  let c : Cfg := ⟨L, kw, env, d.ents, d.lenient, doc.size⟩
  have hbad : ∀ ctx, ∃ e, costAt c ctx c.fuel n = .err e :=
    fun ctx => self_loop_rejected c ctx n body hdecl hself c.fuel
  have hw : ∃ e, (walk c c.acct 0 0 doc.body).out = .err e := by
    rw [acct_eq]
    rcases huse with hu | ⟨tag, as, nm, ps, hu, h1, h2⟩
    · exact walk_err_of_bad c _ 0 0 doc.body _ hu (hbad .text)
    · obtain ⟨e, he⟩ := hbad .attr
      exact walk_err_of_bad c _ 0 0 doc.body _ hu (attrsCost_err_of_mem _ n e he as nm ps h1 h2)
  obtain ⟨e, he⟩ := hw
  exact ⟨e, prepend_out_err _ _ he⟩


/-- the roles `createInDocument` goes through -/
def usedRoles : List Role := [.xmlMain, .soapMain, .soapFallback, .mimeJoin]

/-- every parse on the request path is given `XMLParser(**self.parser_kwargs)` -/
def SitesUseKwargs (F : Facts17) : Bool := usedRoles.all fun r => roleParser F.sites r == some .fromKwargs

/-- ... and sits in a try/except that turns XMLSyntaxError into Fault('Client.XMLSyntaxError') -/
def SitesCatch (F : Facts17) : Bool := usedRoles.all fun r => roleCatches F.sites r

/-- one parse inside its try/except, at a good site -/
def parseOne (L : Lib) (kw : ParserKw) (env : Env) (doc : Doc) : Outcome (List OTok) × List Uri :=
  (match (parse L kw env doc).out with
   | .ok t => .ok t
   | .err _ => .fault "Client.XMLSyntaxError", (parse L kw env doc).fetches)

theorem parseAt_good (F : Facts17) (hg : SitesUseKwargs F = true) (hc : SitesCatch F = true) (r : Role)
    (hr : r ∈ usedRoles) (kw : ParserKw) (env : Env) (doc : Doc) :
    parseAt F r kw env doc = parseOne F.lib kw env doc := by
  have h1 := List.all_eq_true.mp hg r hr
  simp only [beq_iff_eq] at h1
  simp only [parseAt, kwAt, h1, List.all_eq_true.mp hc r hr, parseOne]
  cases (parse F.lib kw env doc).out <;> rfl

/-- with every site good, `create_in_document` is: parse with the protocol's keywords; a
    multipart request is parsed, written out and parsed again -/
def pipeline (L : Lib) (p : Proto) (tr : Transport) (kw : ParserKw) (env : Env) (req : Req) :
    Outcome (List OTok) × List Uri :=
  if p != .xml && tr == .wsgi && req.multipart then
    match parseOne L kw env req.doc with
    | (.ok t, f1) => let r2 := parseOne L kw env ⟨none, reSrc t, req.doc.size⟩; (r2.1, f1 ++ r2.2)
    | bad => bad
  else parseOne L kw env req.doc

theorem createInDocument_good (F : Facts17) (hg : SitesUseKwargs F = true) (hc : SitesCatch F = true)
    (p : Proto) (tr : Transport) (kw : ParserKw) (env : Env) (req : Req) :
    createInDocument F p tr kw env req = pipeline F.lib p tr kw env req := by
  have hx := parseAt_good F hg hc .xmlMain (by simp [usedRoles]) kw env
  have hm := parseAt_good F hg hc .mimeJoin (by simp [usedRoles]) kw env
  have hs := parseAt_good F hg hc (if tr == .wsgi && req.unicodeDecl then .soapFallback else .soapMain)
    (by split <;> simp [usedRoles]) kw env
  cases p <;> simp only [createInDocument, pipeline, hx, hm, hs] <;> cases tr <;> cases req.multipart <;> rfl

theorem pipeline_env (L : Lib) (p : Proto) (tr : Transport) (kw : ParserKw) (e1 e2 : Env) (hq : Quiet kw)
    (req : Req) : pipeline L p tr kw e1 req = pipeline L p tr kw e2 req := by
  have h : ∀ doc, parse L kw e1 doc = parse L kw e2 doc := parse_quiet_env L kw e1 e2 hq
  simp only [pipeline, parseOne, h]

theorem pipeline_no_fetch (L : Lib) (p : Proto) (tr : Transport) (kw : ParserKw) (env : Env) (hq : Quiet kw)
    (req : Req) : (pipeline L p tr kw env req).2 = [] := by
  have h : ∀ doc, (parse L kw env doc).fetches = [] := parse_quiet_no_fetch L kw env hq
  simp only [pipeline, parseOne, h]
  split
  · split <;> simp_all
  · rfl

theorem parseOne_never_crashes (L : Lib) (kw : ParserKw) (env : Env) (doc : Doc) :
    (∃ t, (parseOne L kw env doc).1 = .ok t) ∨ (parseOne L kw env doc).1 = .fault "Client.XMLSyntaxError" := by
  unfold parseOne
  cases (parse L kw env doc).out <;> simp

theorem pipeline_never_crashes (L : Lib) (p : Proto) (tr : Transport) (kw : ParserKw) (env : Env) (req : Req) :
    (∃ t, (pipeline L p tr kw env req).1 = .ok t) ∨ (pipeline L p tr kw env req).1 = .fault "Client.XMLSyntaxError" := by
  unfold pipeline
  split
  · split
    · exact parseOne_never_crashes ..
    · next hb =>
      rcases parseOne_never_crashes L kw env req.doc with ⟨t, h⟩ | h
      · exact (hb t _ (Prod.ext h rfl)).elim
      · exact .inr h
  · exact parseOne_never_crashes ..

theorem pipeline_rejects (L : Lib) (p : Proto) (tr : Transport) (kw : ParserKw) (env : Env) (req : Req)
    (e : Err) (h : (parse L kw env req.doc).out = .err e) :
    (pipeline L p tr kw env req).1 = .fault "Client.XMLSyntaxError" := by
  simp only [pipeline, parseOne, h]
  split <;> rfl

end SpyneModel.XmlCfg
