/- C07: the document-level statements about the WSDL part, assembled from Proofs.WsdlDoc. -/
import Proofs.WsdlDoc
namespace SpyneModel.Wsdl
open SpyneModel
variable (F : Facts07) (I : IState)

theorem messagesFor_perDocument (hM : F.messageDedup = .perDocument) (I : IState) :
    messagesFor F I = messagesOf I := by
  simp [messagesFor, hM]

theorem wfOps_unpack (h : I.wfOps = true) :
    ((allMethods I).map (·.opName)).Nodup ∧ (∀ s ∈ I.services, svcOk s) ∧
    (I.services.flatMap (·.portTypes)).Nodup ∧ I.name ∉ I.services.flatMap (·.portTypes) ∧
    (I.services.map (·.name)).Nodup := by
  simp only [IState.wfOps, Bool.and_eq_true, decide_eq_true_eq, List.all_eq_true, Bool.not_eq_true',
    List.contains_eq_mem, decide_eq_false_iff_not] at h
  obtain ⟨⟨⟨⟨⟨h1, h2⟩, h3⟩, hsn⟩, h4⟩, h5⟩ := h
  refine ⟨h1, ?_, h4, h5, hsn⟩
  intro s hs
  refine ⟨h2 s hs, ?_⟩
  intro m hm
  have := h3 s hs m hm
  cases hp : m.portType with
  | none => rw [hp] at this; simpa using this
  | some p => rw [hp] at this; simpa using this

/-- `I.wf = true`, clause by clause -/
structure WfParts (I : IState) : Prop where
  cls : ∀ i, i < I.classes.length → I.wfCls i = true
  graph : ∀ i ∈ I.graph, i < I.classes.length
  meth : ∀ m ∈ allMethods I, I.wfMeth m = true
  prefsInv : (Prefs.init I).Inv
  knownXs : ∃ pf, (Prefs.init I).prefmap.lookup nsXsd = some pf
  knownTns : ∃ pf, (Prefs.init I).prefmap.lookup I.tns = some pf
  imports : ∀ i ∈ I.graph, (I.cls i).kind = .builtin ∨ (I.cls i).ns ∈ I.imports.map (·.1)
  importsTns : I.tns ∈ I.imports.map (·.1)
  consistent : ∀ r1 ∈ I.requests, ∀ r2 ∈ I.requests, r1.1 = r2.1 → partsOf I r1.2 = partsOf I r2.2
  faultTns : ∀ m ∈ allMethods I, ∀ f ∈ m.faults, (I.cls f).ns = I.tns

theorem wf_unpack (h : I.wf = true) : WfParts I := by
  simp only [IState.wf, IState.wfCore, Bool.and_eq_true] at h
  obtain ⟨⟨⟨⟨⟨⟨⟨⟨⟨h1, h2⟩, h3⟩, hp⟩, hx⟩, ht⟩, h9⟩, h10⟩, h11⟩, h12⟩ := h
  refine ⟨?_, ?_, ?_, ⟨?_⟩, ?_, ?_, ?_, ?_, ?_, ?_⟩
  · simpa [List.all_eq_true] using h1
  · simpa [List.all_eq_true] using h2
  · simpa [List.all_eq_true] using h3
  · intro ns pf hl
    have hm : ns ∈ (Prefs.init I).prefmap.map (·.1) := List.mem_map.mpr ⟨(ns, pf), mem_of_lookup hl, rfl⟩
    have := (List.all_eq_true.mp hp) ns hm
    rw [hl] at this
    simpa using this
  · exact Option.isSome_iff_exists.mp hx
  · exact Option.isSome_iff_exists.mp ht
  · intro i hi
    have := (List.all_eq_true.mp h9) i hi
    simpa using this
  · simpa using h10
  · intro r1 hr1 r2 hr2 he
    have := (List.all_eq_true.mp ((List.all_eq_true.mp h11) r1 hr1)) r2 hr2
    simp only [Bool.or_eq_true, bne_iff_ne, ne_eq, beq_iff_eq] at this
    rcases this with h | h
    · exact absurd he h
    · exact h
  · simpa [IState.faultsTns, List.all_eq_true] using h12

/-- `I.wfMeth m = true`, the clauses the closure theorems use -/
structure MethParts (I : IState) (m : Meth) : Prop where
  inNs : (I.cls m.inMsg).elemNs I.tns = I.tns
  outNs : (I.cls m.outMsg).elemNs I.tns = I.tns
  plain : ∀ i ∈ (m.inHeader.getD []) ++ (m.outHeader.getD []), (I.cls i).subName = none ∧ (I.cls i).wsdlPart = none
  hdrs : ∀ i ∈ (m.inHeader.getD []) ++ (m.outHeader.getD []) ++ m.faults, i ∈ I.graph ∧ (I.cls i).kind = .complex
  inOk : (m.inMsg ∈ I.graph ∧ (I.cls m.inMsg).kind = .complex) ∨ I.typeKeyOk m.inMsg = true
  outOk : (m.outMsg ∈ I.graph ∧ (I.cls m.outMsg).kind = .complex) ∨ I.typeKeyOk m.outMsg = true

theorem wfMeth_unpack (m : Meth) (h : I.wfMeth m = true) : MethParts I m := by
  simp only [IState.wfMeth, Bool.and_eq_true, List.all_eq_true, beq_iff_eq, List.contains_eq_mem,
    decide_eq_true_eq, Bool.or_eq_true, List.mem_cons, List.not_mem_nil, or_false, forall_eq_or_imp, forall_eq] at h
  obtain ⟨⟨⟨⟨h1, ⟨⟨h2a, h2b⟩, ⟨h3a, h3b⟩⟩⟩, _⟩, _⟩, h6⟩ := h
  exact ⟨h2a, h3a, h6, h1, h2b, h3b⟩

theorem Doc.declared_of (d : Doc) (q : QN) (pf : Pref) (h1 : d.prefmap.lookup q.ns = some pf)
    (h2 : d.nsdecl.lookup pf = some q.ns) : d.declared q = true := by
  simp [Doc.declared, h1, h2]

theorem declared_tns (I : IState) (hw : WfParts I) (tr rest : List String) (x : String) :
    Doc.declared ⟨(touchAll (Prefs.init I) tr).nsmap, (touchAll (touchAll (Prefs.init I) tr) rest).prefmap,
      I.tns, I.name, [], [], [], [], []⟩ ⟨I.tns, x⟩ = true := by
  obtain ⟨pf, h1, h2⟩ := declared_of_known (Prefs.init I) hw.prefsInv tr rest I.tns (Or.inl hw.knownTns)
  exact Doc.declared_of _ _ pf h1 h2

theorem mem_bHeaders (m : Meth) (h : Option (List Nat)) (sfx : String) (bh : BHeader)
    (hbh : bh ∈ bHeaders F I m h sfx) :
    ∃ hs, h = some hs ∧ ∃ x ∈ hs, bh = ⟨⟨headerRefNs F I x, headerMsgName I m hs sfx⟩, (I.cls x).tn⟩ := by
  cases h with
  | none => cases hbh
  | some hs =>
    obtain ⟨x, hx, rfl⟩ := List.mem_map.mp hbh
    exact ⟨hs, rfl, x, hx, rfl⟩

theorem mem_names_any {α : Type} (name : α → String) (l : List α) (x : String) (h : x ∈ l.map name) :
    l.any (fun a => name a == x) = true := by
  obtain ⟨a, ha, rfl⟩ := List.mem_map.mp h
  exact List.any_eq_true.mpr ⟨a, ha, by simp⟩

/-- the document `build_interface_document` returns: its parts are those of the three WSDL phases, its schemas those
    of `build_schema_nodes` (whose prefix requests are `tr`); the namespace declarations of the root element are the
    prefix table after `tr`, and references are written with the table after all requests -/
structure Built (F : Facts07) (e : Enum) (I : IState) (url : String) (tr : List String) (d : Doc) : Prop where
  schemas : buildSchemas F e I = .ok (d.schemas, tr)
  tns : d.tns = I.tns
  messages : d.messages = (messagesOf I).1
  portTypes : d.portTypes = (portTypesOf F I (stripWsdl url)).portTypes
  services : d.services = (portTypesOf F I (stripWsdl url)).services
  bindings : d.bindings = (bindingsOf F I).bindings
  nsdecl : d.nsdecl = (touchAll (Prefs.init I) tr).nsmap
  prefmap : ∃ rest, d.prefmap = (touchAll (touchAll (Prefs.init I) tr) rest).prefmap

theorem gen_built (hM : F.messageDedup = .perDocument) (e : Enum) (I : IState) (url : String) (d : Doc)
    (h : gen F e I url = .ok d) : ∃ tr, Built F e I url tr d := by
  unfold gen at h
  rw [messagesFor_perDocument F hM] at h
  cases hb : buildSchemas F e I with
  | fault => rw [hb] at h; cases h
  | crash x => rw [hb] at h; cases h
  | ok r =>
    rw [hb] at h
    injection h with h
    subst h
    exact ⟨r.2, hb, rfl, rfl, rfl, rfl, rfl, rfl, _, rfl⟩

variable {F I} {e : Enum} {url : String} {tr : List String} {d : Doc}

theorem Built.prefix_injective (hb : Built F e I url tr d) (hw : WfParts I) (ns₁ ns₂ : String) (pf : Pref)
    (h₁ : d.prefmap.lookup ns₁ = some pf) (h₂ : d.prefmap.lookup ns₂ = some pf) : ns₁ = ns₂ := by
  obtain ⟨rest, hp⟩ := hb.prefmap
  rw [hp] at h₁ h₂
  exact Wsdl.prefix_injective _ (touchAll_inv _ (touchAll_inv _ hw.prefsInv _) _) ns₁ ns₂ pf h₁ h₂

/-- a namespace known when the root element is created is written with a declared prefix -/
theorem Built.declared (hb : Built F e I url tr d) (hw : WfParts I) (ns loc : String)
    (hk : ns ∈ tr ∨ ns = nsXsd ∨ ns = I.tns) : d.declared ⟨ns, loc⟩ = true := by
  obtain ⟨rest, hp⟩ := hb.prefmap
  obtain ⟨pf, h1, h2⟩ := declared_of_known (Prefs.init I) hw.prefsInv tr rest ns
    (hk.elim Or.inr fun h => Or.inl (h.elim (· ▸ hw.knownXs) (· ▸ hw.knownTns)))
  exact Doc.declared_of _ ⟨ns, loc⟩ pf (hp ▸ h1) (hb.nsdecl ▸ h2)

variable (F I)

/-- **every exposed method is exactly one portType operation with a matching binding operation** -/
theorem ops_exactly_once_general (hF : F.opPortType = .own) (hM : F.messageDedup = .perDocument) (e : Enum) (I : IState) (url : String)
    (d : Doc) (h : gen F e I url = .ok d) (hw : I.wfOps = true) (s : Svc) (hs : s ∈ I.services) (m : Meth)
    (hm : m ∈ s.methods) :
    opCount m.opName d.portTypes = 1 ∧ bopCount m.opName d.bindings = 1 ∧
    ∃ pt ∈ d.portTypes, ∃ b ∈ d.bindings, b.name = pt.name ∧ b.type = ⟨d.tns, pt.name⟩ ∧
      mkOp I m ∈ pt.ops ∧ mkBOp F I m ∈ b.ops := by
  obtain ⟨tr, hd⟩ := gen_built F hM e I url d h
  obtain ⟨hnd, hok, _, _, _⟩ := wfOps_unpack I hw
  have hone : ((allMethods I).filter (fun m' => m'.opName == m.opName)).length = 1 :=
    filter_length_one_of_nodup (·.opName) (allMethods I) hnd m (mem_allMethods I s hs m hm)
  -- both tables hold the declared operations under the names of their port types
  have hp := portTypes_pairs F I (stripWsdl url) fun s' hs' => targetsOk_of_own F hF I s' (hok s' hs')
  have hb := bindings_pairs F I hF hok
  have hin : ∀ {β : Type} (f : Meth → β), (opTarget F I.name s m, f m) ∈
      I.services.flatMap fun s => s.methods.map fun m => (opTarget F I.name s m, f m) :=
    fun f => List.mem_flatMap.mpr ⟨s, hs, List.mem_map.mpr ⟨m, hm, rfl⟩⟩
  rw [hd.portTypes, hd.bindings, hd.tns]
  refine ⟨?_, ?_, ?_⟩
  · rw [opCount, count_items PortType.name, (hp.filter _).length_eq, ← hone]
    simp only [declOps, allMethods, List.filter_flatMap, List.filter_map, List.length_flatMap, List.length_map]
    rfl
  · rw [bopCount, count_items Binding.name, (hb.filter _).length_eq, ← hone]
    simp only [declBOps, allMethods, List.filter_flatMap, List.filter_map, List.length_flatMap, List.length_map]
    rfl
  · obtain ⟨pt, hpt, hptn, hop⟩ := (mem_pairs _ _).mp (hp.mem_iff.mpr (hin (mkOp I)))
    obtain ⟨b, hb', hbn, hbo⟩ := (mem_pairs _ _).mp (hb.mem_iff.mpr (hin (mkBOp F I)))
    exact ⟨pt, hpt, b, hb', hbn.trans hptn.symm, by rw [(bindings_ok F I b hb').1, hbn, hptn], hop, hbo⟩

/-- **message, portType and binding references resolve**: every `message=` of a portType operation or soap:header,
    every `type=` of a binding and every `binding=` of a port names a definition of the document -/
theorem wsdl_refs_closed_general (hF : F.headerMsgNs = .tns) (hM : F.messageDedup = .perDocument) (e : Enum) (I : IState) (url : String)
    (d : Doc) (h : gen F e I url = .ok d) (hwf : I.wf = true) :
    (∀ q ∈ d.msgRefs, d.msgDefined q = true) ∧ (∀ q ∈ d.portTypeRefs, d.portTypeDefined q = true) ∧
    (∀ q ∈ d.bindingRefs, d.bindingDefined q = true) := by
  obtain ⟨tr, hd⟩ := gen_built F hM e I url d h
  have hw := wf_unpack I hwf
  have hdecl : ∀ x, d.declared ⟨I.tns, x⟩ = true := fun x => hd.declared hw _ x (Or.inr (Or.inr rfl))
  have hname : ∀ r ∈ I.requests, d.messages.any (fun msg => msg.name == r.1) = true :=
    fun r hr => mem_names_any Msg.name _ _ (hd.messages ▸ (messagesOf_spec I).2.1 r hr)
  refine ⟨?_, ?_, ?_⟩
  · intro q hq
    simp only [Doc.msgRefs, hd.portTypes, hd.bindings, List.mem_append, List.mem_flatMap] at hq
    rcases hq with ⟨pt, hpt, o, ho, hq⟩ | ⟨b, hb, o, ho, hq⟩
    · obtain ⟨m, hm, rfl⟩ := opsFrom_portTypesLoop F I (stripWsdl url) I.services (fun _ h => h)
        ⟨[], servicesInit I, []⟩ (by nofun) pt hpt o ho
      have mp := wfMeth_unpack I m (hw.meth m hm)
      obtain ⟨h1, h2, h3⟩ := body_request_mem I m hm
      simp only [Op.msgRefs, mkOp, List.mem_append, List.mem_cons, List.not_mem_nil, or_false, List.mem_map] at hq
      rcases hq with (rfl | rfl) | ⟨f, ⟨f', hf', rfl⟩, rfl⟩
      · simp only [Doc.msgDefined, elemQN, mp.inNs, hdecl, hd.tns, beq_self_eq_true, Bool.true_and]
        exact hname _ h1
      · simp only [Doc.msgDefined, elemQN, mp.outNs, hdecl, hd.tns, beq_self_eq_true, Bool.true_and]
        exact hname _ h2
      · simp only [Doc.msgDefined, hw.faultTns m hm f' hf', hdecl, hd.tns, beq_self_eq_true, Bool.true_and]
        exact hname _ (h3 f' hf')
    · obtain ⟨m, hm, rfl⟩ := (bindings_ok F I b hb).2.2 o ho
      simp only [BOp.msgRefs, mkBOp, List.map_append, List.mem_append, List.mem_map] at hq
      rcases hq with ⟨bh, hbh, rfl⟩ | ⟨bh, hbh, rfl⟩
      · obtain ⟨hs, hh, x, _, rfl⟩ := mem_bHeaders F I m _ _ bh hbh
        simp only [Doc.msgDefined, headerRefNs, hF, hdecl, hd.tns, beq_self_eq_true, Bool.true_and]
        exact hname _ (header_request_mem I m hm hs _ (Or.inl ⟨hh, rfl⟩))
      · obtain ⟨hs, hh, x, _, rfl⟩ := mem_bHeaders F I m _ _ bh hbh
        simp only [Doc.msgDefined, headerRefNs, hF, hdecl, hd.tns, beq_self_eq_true, Bool.true_and]
        exact hname _ (header_request_mem I m hm hs _ (Or.inr ⟨hh, rfl⟩))
  · intro q hq
    simp only [Doc.portTypeRefs, hd.bindings, List.mem_map] at hq
    obtain ⟨b, hb, rfl⟩ := hq
    obtain ⟨ht, ⟨s, hs, hn⟩, _⟩ := bindings_ok F I b hb
    have hmem : b.name ∈ ptNames d.portTypes := by
      rw [hd.portTypes, portTypesOf, mem_ptNames_portTypesLoop]
      exact Or.inr ⟨s, hs, hn⟩
    rw [ht, Doc.portTypeDefined, hdecl, hd.tns]
    simp only [beq_self_eq_true, Bool.true_and]
    exact mem_names_any PortType.name _ _ hmem
  · intro q hq
    simp only [Doc.bindingRefs, hd.services, List.mem_flatMap, List.mem_map] at hq
    obtain ⟨sv, hsv, p, hp, rfl⟩ := hq
    obtain ⟨hbq, s, hs, hn⟩ := services_ports F I (stripWsdl url) sv hsv p hp
    rw [hbq, Doc.bindingDefined, hdecl, hd.tns, hd.bindings]
    simp only [beq_self_eq_true, Bool.true_and]
    exact mem_names_any Binding.name _ _ (bindings_names F I s hs p.name hn)

theorem request_message (hc : ∀ r1 ∈ I.requests, ∀ r2 ∈ I.requests, r1.1 = r2.1 → partsOf I r1.2 = partsOf I r2.2)
    (r : String × List Nat) (hr : r ∈ I.requests) :
    ∃ msg ∈ (messagesOf I).1, msg.name = r.1 ∧ msg.parts = partsOf I r.2 := by
  obtain ⟨h1, h2, _⟩ := messagesOf_spec I
  obtain ⟨msg, hmsg, hn⟩ := List.mem_map.mp (h2 r hr)
  obtain ⟨r', hr', rfl⟩ := h1 msg hmsg
  exact ⟨_, hmsg, hn, hc r' hr' r hr hn⟩

/-- **every `soap:header/@part` names a part of the message the header refers to** -/
theorem header_parts_general (hM : F.messageDedup = .perDocument) (e : Enum) (I : IState) (url : String) (d : Doc)
    (h : gen F e I url = .ok d) (hwf : I.wf = true) : ∀ bh ∈ d.headerRefs, d.headerPartOk bh = true := by
  have hw := wf_unpack I hwf
  obtain ⟨tr, hd⟩ := gen_built F hM e I url d h
  intro bh hbh
  simp only [Doc.headerRefs, hd.bindings, List.mem_flatMap] at hbh
  obtain ⟨b, hb, o, ho, hbh⟩ := hbh
  obtain ⟨m, hm, rfl⟩ := (bindings_ok F I b hb).2.2 o ho
  have mp := wfMeth_unpack I m (hw.meth m hm)
  have key : ∀ (hs : List Nat) (sfx : String) (x : Nat), x ∈ hs →
      ((m.inHeader = some hs ∧ sfx = "InHeaderMsg") ∨ (m.outHeader = some hs ∧ sfx = "OutHeaderMsg")) →
      d.headerPartOk ⟨⟨headerRefNs F I x, headerMsgName I m hs sfx⟩, (I.cls x).tn⟩ = true := by
    intro hs sfx x hx hcase
    obtain ⟨msg, hmsg, hn, hp⟩ := request_message I hw.consistent _ (header_request_mem I m hm hs sfx hcase)
    have hpl : (I.cls x).subName = none ∧ (I.cls x).wsdlPart = none := by
      apply mp.plain
      rcases hcase with ⟨h1, _⟩ | ⟨h1, _⟩
      · exact List.mem_append_left _ (by rw [h1]; exact hx)
      · exact List.mem_append_right _ (by rw [h1]; exact hx)
    simp only [Doc.headerPartOk, hd.messages, List.any_eq_true, Bool.and_eq_true, beq_iff_eq]
    refine ⟨msg, hmsg, hn, ?_⟩
    rw [hp]
    refine ⟨⟨(I.cls x).wsdlPart.getD (I.cls x).elemName, elemQN I.tns (I.cls x)⟩,
      List.mem_map.mpr ⟨x, hx, rfl⟩, ?_⟩
    simp [hpl.1, hpl.2, Cls.elemName]
  simp only [mkBOp, List.mem_append] at hbh
  rcases hbh with hbh | hbh
  · obtain ⟨hs, hh, x, hx, rfl⟩ := mem_bHeaders F I m _ _ bh hbh
    exact key hs "InHeaderMsg" x hx (Or.inl ⟨hh, rfl⟩)
  · obtain ⟨hs, hh, x, hx, rfl⟩ := mem_bHeaders F I m _ _ bh hbh
    exact key hs "OutHeaderMsg" x hx (Or.inr ⟨hh, rfl⟩)


theorem getD_map_range {α : Type} (n i : Nat) (g : Nat → α) (d : α) (h : i < n) :
    ((List.range n).map g).getD i d = g i := by
  simp [List.getD_eq_getElem?_getD, List.getElem?_map, List.getElem?_range h]

theorem addMethodFaults_forced (hF : F.faultNs = .forcedTns) (I : IState) :
    (I.addMethodFaults F).tns = I.tns ∧ (I.addMethodFaults F).services = I.services ∧
    (I.addMethodFaults F).deps = I.deps ∧ (I.addMethodFaults F).classes.length = I.classes.length ∧
    ∀ f, f < I.classes.length → f ∈ I.faultIds → ((I.addMethodFaults F).cls f).ns = I.tns := by
  simp only [IState.addMethodFaults, hF]
  refine ⟨trivial, trivial, trivial, by simp, ?_⟩
  intro f hf hm
  simp only [IState.cls]
  rw [getD_map_range _ _ _ _ hf]
  simp [hm]

/-- after `add_method` every declared fault is in the target namespace: the contract's fault clause holds -/
theorem wf_of_core_forced (hF : F.faultNs = .forcedTns) (I : IState)
    (h : (I.addMethodFaults F).wfCore = true) : (I.addMethodFaults F).wf = true := by
  obtain ⟨h1, h2, h3, h4, h5⟩ := addMethodFaults_forced F hF I
  have hcore := h
  simp only [IState.wf, h, Bool.true_and, IState.faultsTns, List.all_eq_true, beq_iff_eq]
  intro m hm f hf
  have hm' : m ∈ allMethods I := by simpa [allMethods, h2] using hm
  -- the fault is a class of the graph, hence of the table
  simp only [IState.wfCore, Bool.and_eq_true, List.all_eq_true, decide_eq_true_eq] at hcore
  obtain ⟨⟨⟨⟨⟨⟨⟨⟨_, hg⟩, hmeth⟩, _⟩, _⟩, _⟩, _⟩, _⟩, _⟩ := hcore
  have hwm := hmeth m hm
  simp only [IState.wfMeth, Bool.and_eq_true, List.all_eq_true, List.contains_eq_mem, decide_eq_true_eq] at hwm
  obtain ⟨⟨⟨⟨hh, _⟩, _⟩, _⟩, _⟩ := hwm
  have hfg := (hh f (List.mem_append_right _ hf)).1
  have hlt := hg f hfg
  rw [h4] at hlt
  rw [h1]
  exact h5 f hlt (List.mem_flatMap.mpr ⟨m, hm', hf⟩)

/-- a reference that resolves under no prefix table: a `message=` outside the target namespace, or a `type=` that
    is neither an XSD builtin nor defined in a schema of the document -/
def Doc.dangling (d : Doc) : Bool :=
  d.msgRefs.any (fun q => q.ns != d.tns) ||
  d.typeRefs.any (fun q => !((q.ns == nsXsd && xsdBuiltins.contains q.loc) ||
    d.schemas.any (fun s => s.tns == q.ns && s.types.any (fun t => t.name == q.loc))))

theorem Doc.not_closed_of_dangling (d : Doc) (h : d.dangling = true) : d.closed = false := by
  simp only [Doc.dangling, Bool.or_eq_true, List.any_eq_true] at h
  rcases h with ⟨q, hq, hn⟩ | ⟨q, hq, hn⟩
  · have : d.msgRefs.all d.msgDefined = false :=
      List.all_eq_false.mpr ⟨q, hq, by simp [Doc.msgDefined, bne_iff_ne.mp hn]⟩
    simp [Doc.closed, this]
  · have : d.typeRefs.all d.typeDefined = false :=
      List.all_eq_false.mpr ⟨q, hq, by
        rw [Bool.not_eq_true'] at hn
        rw [Doc.typeDefined, hn, Bool.and_false]
        exact Bool.false_ne_true⟩
    simp [Doc.closed, this]

end SpyneModel.Wsdl
