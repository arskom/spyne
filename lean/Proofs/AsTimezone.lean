/-
  `astimezone` with fixed offsets keeps the instant; the `as_timezone` / `timezone=False` customisations of DateTime.
-/
import Proofs.Calendar
import Proofs.Radix
namespace SpyneModel
open Radix

/-- minutes since the ordinal epoch of a wall clock -/
def wallMinutes (d : Date) (t : Time) : Int := toOrdinal d * 1440 + ((t.h * 60 + t.mi : Nat) : Int)

theorem shiftWall_spec (d : Date) (t : Time) (δ : Int) (hw : d.wf) (hy : 1 ≤ d.y) (hh : t.h < 24) (hmi : t.mi < 60)
    (h1 : -1440 < δ) (h2 : δ < 1440) :
    wallMinutes (shiftWall d t δ).1 (shiftWall d t δ).2 = wallMinutes d t + δ ∧
    (shiftWall d t δ).1.wf ∧ (shiftWall d t δ).2.h < 24 ∧ (shiftWall d t δ).2.mi < 60 ∧
    (shiftWall d t δ).2.s = t.s ∧ (shiftWall d t δ).2.us = t.us ∧
    (1 ≤ (shiftWall d t δ).1.y → shiftWall (shiftWall d t δ).1 (shiftWall d t δ).2 (-δ) = (d, t)) := by
  -- the shifted minute of the day is `1440 * q + r`: `q` days carried, `r` the new minute of the day
  have hdm := Int.mul_ediv_add_emod (shiftTotal t δ) 1440
  have hr0 := Int.emod_nonneg (shiftTotal t δ) (by decide : (1440 : Int) ≠ 0)
  have hr1 := Int.emod_lt_of_pos (shiftTotal t δ) (by decide : (0 : Int) < 1440)
  unfold shiftWall
  generalize shiftTotal t δ / 1440 = q at *
  generalize hrn : (shiftTotal t δ % 1440).toNat = r at *
  have hr : shiftTotal t δ % 1440 = (r : Int) := by rw [← hrn, Int.toNat_of_nonneg hr0]
  rw [hr] at hdm hr1
  have hr60 := Nat.div_add_mod' r 60
  have hm60 : t.h * 60 + t.mi < 24 * 60 := lt_mul_add hh hmi
  unfold shiftTotal at hdm
  obtain ⟨hord, hwf, hinv⟩ := addDays_small d hw q (by omega) (by omega) hy
  refine ⟨?_, hwf, Nat.div_lt_of_lt_mul (by omega), Nat.mod_lt _ (by decide), rfl, rfl, fun hy' => ?_⟩
  · unfold wallMinutes; rw [hord]; simp only; omega
  · have hback : shiftTotal ⟨r / 60, r % 60, t.s, t.us⟩ (-δ) = 1440 * (-q) + ((t.h * 60 + t.mi : Nat) : Int) := by
      unfold shiftTotal; simp only; omega
    obtain ⟨e1, e2⟩ := ediv_emod_mul_add (k := 1440) (q := -q) (Int.natCast_nonneg (t.h * 60 + t.mi)) (by omega)
    simp only [hback, e1, e2, hinv hy', Int.toNat_natCast]
    rw [div_mul_add hmi, Nat.mul_add_mod_of_lt hmi]

theorem instant_eq (x : DateTime) :
    instant x = ((wallMinutes x.date x.time - x.tz.getD 0) * 60 + (x.time.s : Int)) * 1000000 + (x.time.us : Int) := by
  unfold instant wallMinutes; rfl

/-- what `astimezone` returns denotes the same instant, carries the target offset and is a valid datetime;
    when the arithmetic was done (`same = false`) its UTC wall clock lies in years 1..9999 -/
theorem astimezone_ok (same : Bool) (x : DateTime) (o : Int) (y : DateTime) (hx : x.valid = true)
    (ho1 : -1440 < o) (ho2 : o < 1440) (hsame : same = true → x.tz = some o)
    (h : astimezone same x o = .ok y) :
    instant y = instant x ∧ y.tz = some o ∧ y.valid = true ∧
      (same = false → inYears (shiftWall y.date y.time (-o)).1 = true) := by
  obtain ⟨hd, ht, htz⟩ := (DateTime.valid_iff x).1 hx
  obtain ⟨hwf, hy1⟩ := Date.valid_wf x.date hd
  obtain ⟨hh, hmi, hs, hus⟩ := (Time.valid_iff _).1 ht
  unfold astimezone at h
  cases htzx : x.tz with
  | none => simp [htzx] at h
  | some m =>
    simp only [htzx] at h
    have htz := htz m htzx
    cases same with
    | true =>
      simp only [if_true, Outcome.ok.injEq] at h
      subst h
      have := hsame rfl
      exact ⟨rfl, this, hx, fun h => by cases h⟩
    | false =>
      simp only [Bool.false_eq_true, if_false] at h
      obtain ⟨s1, w1, hh1, hmi1, hs1, hus1, _⟩ := shiftWall_spec x.date x.time (-m) hwf hy1 hh hmi (by omega) (by omega)
      generalize hsw1 : shiftWall x.date x.time (-m) = p1 at h s1 w1 hh1 hmi1 hs1 hus1
      obtain ⟨d1, t1⟩ := p1
      simp only at h s1 w1 hh1 hmi1 hs1 hus1
      by_cases hin1 : inYears d1 = true
      · simp only [hin1, Bool.not_true, Bool.false_eq_true, if_false] at h
        have hy1' : 1 ≤ d1.y := by simp [inYears] at hin1; exact hin1.1
        obtain ⟨s2, w2, hh2, hmi2, hs2, hus2, hinv⟩ := shiftWall_spec d1 t1 o w1 hy1' hh1 hmi1 ho1 ho2
        generalize hsw2 : shiftWall d1 t1 o = p2 at h s2 w2 hh2 hmi2 hs2 hus2 hinv
        obtain ⟨d2, t2⟩ := p2
        simp only at h s2 w2 hh2 hmi2 hs2 hus2 hinv
        by_cases hin2 : inYears d2 = true
        · simp only [hin2, if_true, Outcome.ok.injEq] at h
          subst h
          simp [inYears] at hin2
          refine ⟨?_, rfl, ?_, fun _ => by simp only [hinv hin2.1, hin1]⟩
          · rw [instant_eq, instant_eq]
            simp only [htzx, Option.getD_some, hs2, hs1, hus2, hus1]
            rw [s2, s1]; omega
          · obtain ⟨a, b, c, e⟩ := w2
            simp [DateTime.valid, Date.valid, Time.valid, hin2, a, b, c, e, hh2, hmi2, hs2, hs1, hs, hus2, hus1, hus, ho1, ho2]
        · simp [hin2] at h
      · simp [hin1] at h

/-- converting a value that already carries the target offset changes nothing, provided its UTC wall clock
    lies in years 1..9999 -/
theorem astimezone_same_offset (x : DateTime) (o : Int) (hx : x.valid = true) (htz : x.tz = some o)
    (hutc : inYears (shiftWall x.date x.time (-o)).1 = true) : astimezone false x o = .ok x := by
  obtain ⟨hd, ht, hto⟩ := (DateTime.valid_iff x).1 hx
  obtain ⟨hwf, hy1⟩ := Date.valid_wf x.date hd
  have hd' := (Date.valid_iff _).1 hd
  obtain ⟨hh, hmi, hs, hus⟩ := (Time.valid_iff _).1 ht
  have hto := hto o htz
  obtain ⟨_, _, _, _, _, _, hinv⟩ := shiftWall_spec x.date x.time (-o) hwf hy1 hh hmi (by omega) (by omega)
  have hy1' : 1 ≤ (shiftWall x.date x.time (-o)).1.y := by simp [inYears] at hutc; exact hutc.1
  have hback := hinv hy1'
  have e : -(-o) = o := by omega
  rw [e] at hback
  unfold astimezone
  simp only [htz, Bool.false_eq_true, if_false, hutc, Bool.not_true, hback]
  have hin : inYears x.date = true := by simp [inYears]; omega
  simp only [hin, if_true]
  obtain ⟨d, t, tz⟩ := x
  simp only at htz
  subst htz
  rfl

/-- `DateTime(as_timezone=o)`: a value that can be written is read back as the same instant, carrying offset `o` -/
theorem astz_roundtrip (F : Facts08) (G : Facts08x) (hO : F.offsetRule = .signMagnitude)
    (same : Bool) (x : DateTime) (m o : Int) (text : Text)
    (hx : x.valid = true) (htz : x.tz = some m) (ho1 : -1440 < o) (ho2 : o < 1440) (hsame : same = true → m = o)
    (hutc : inYears (shiftWall x.date x.time (-m)).1 = true)
    (henc : dateTimeToTextC false (some o) same true x = .ok text) :
    ∃ y, dateTimeFromTextC F G (some o) text = .ok y ∧ y.tz = some o ∧ instant y = instant x := by
  unfold dateTimeToTextC at henc
  simp only [Bool.false_eq_true, if_false, htz, if_true] at henc
  cases hconv : astimezone same x o with
  | fault => simp [hconv] at henc
  | crash e => simp [hconv] at henc
  | ok y1 =>
    simp only [hconv, Outcome.ok.injEq] at henc
    subst henc
    obtain ⟨hinst, hy1tz, hy1v, hutc'⟩ := astimezone_ok same x o y1 hx ho1 ho2 (by intro h; rw [htz, hsame h]) hconv
    refine ⟨y1, ?_, hy1tz, hinst⟩
    -- the UTC wall clock of y1 is the one of x
    have hutc1 : inYears (shiftWall y1.date y1.time (-o)).1 = true := by
      cases same with
      | true =>
        have hmo := hsame rfl
        subst hmo
        simp [astimezone, htz] at hconv
        subst hconv
        exact hutc
      | false => exact hutc' rfl
    unfold dateTimeFromTextC
    rw [dateTimeFromText_isoDateTime F hO y1 hy1v]
    simp only [hy1tz, astimezone_same_offset y1 o hy1v hy1tz hutc1]

/-- reading any text under `as_timezone=o`: an aware value is converted (same instant, offset `o`) -/
theorem astz_read (F : Facts08) (G : Facts08x) (s : Text) (x' y : DateTime) (m o : Int)
    (hp : dateTimeFromText F s = .ok x') (hv : x'.valid = true) (htz : x'.tz = some m)
    (ho1 : -1440 < o) (ho2 : o < 1440)
    (h : dateTimeFromTextC F G (some o) s = .ok y) : instant y = instant x' ∧ y.tz = some o ∧ y.valid = true := by
  unfold dateTimeFromTextC at h
  simp only [hp, htz] at h
  cases hconv : astimezone false x' o with
  | ok y1 =>
    simp only [hconv, Outcome.ok.injEq] at h
    subst h
    obtain ⟨a, b, c, _⟩ := astimezone_ok false x' o y1 hv ho1 ho2 (by intro h; cases h) hconv
    exact ⟨a, b, c⟩
  | fault => simp [hconv] at h
  | crash e =>
    simp only [hconv] at h
    split at h <;> simp at h

/-- …a naive value takes the zone with its wall clock unchanged -/
theorem astz_read_naive (F : Facts08) (G : Facts08x) (s : Text) (x' : DateTime) (o : Int)
    (hp : dateTimeFromText F s = .ok x') (htz : x'.tz = none) :
    dateTimeFromTextC F G (some o) s = .ok { x' with tz := some o } := by
  unfold dateTimeFromTextC
  simp only [hp, htz]

/-- `DateTime(timezone=False)`: the offset is dropped on output, the wall clock is what is read back -/
theorem notz_roundtrip (F : Facts08) (G : Facts08x) (hO : F.offsetRule = .signMagnitude) (same : Bool)
    (x : DateTime) (hx : x.valid = true) :
    dateTimeToTextC false none same false x = .ok (isoDateTime { x with tz := none }) ∧
    dateTimeFromTextC F G none (isoDateTime { x with tz := none }) = .ok { x with tz := none } := by
  have hv : DateTime.valid { x with tz := none } = true := by
    obtain ⟨hd, ht, _⟩ := (DateTime.valid_iff x).1 hx
    exact (DateTime.valid_iff _).2 ⟨hd, ht, fun m h => by cases h⟩
  constructor
  · unfold dateTimeToTextC
    cases x.tz <;> simp
  · unfold dateTimeFromTextC
    rw [dateTimeFromText_isoDateTime F hO _ hv]

end SpyneModel
