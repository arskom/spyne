/-
  Lemmas about the C09 model (SpyneModel/Faults.lean). General in `F : Facts09`.
-/
import SpyneModel.Faults
namespace SpyneModel.Faults
open SpyneModel

theorem isPrefix_eq (p s : Text) : isPrefix p s = p.isPrefixOf s := by
  induction p generalizing s <;> cases s <;> simp [isPrefix, List.isPrefixOf, *]

theorem isPrefix_iff (p s : Text) : isPrefix p s = true ↔ ∃ r, s = p ++ r := by
  rw [isPrefix_eq, List.isPrefixOf_iff_prefix]
  exact exists_congr fun _ => eq_comm

theorem splitOn_ne_nil (c : Char) (s : Text) : splitOn c s ≠ [] := by
  induction s with
  | nil => simp [splitOn]
  | cons x xs ih =>
    simp only [splitOn]
    split
    · simp
    · split <;> simp

theorem joinWith_cons_cons (c : Char) (s r : Text) (rest : List Text) :
    joinWith c (s :: r :: rest) = s ++ c :: joinWith c (r :: rest) := rfl

theorem joinWith_cons_head (c x : Char) (h : Text) (t : List Text) :
    joinWith c ((x :: h) :: t) = x :: joinWith c (h :: t) := by
  cases t <;> simp [joinWith]

/-- `c.join(s.split(c)) == s` for every string -/
theorem joinWith_splitOn (c : Char) (s : Text) : joinWith c (splitOn c s) = s := by
  induction s with
  | nil => simp [splitOn, joinWith]
  | cons x xs ih =>
    simp only [splitOn]
    split
    · next h =>
      have hne := splitOn_ne_nil c xs
      cases hs : splitOn c xs with
      | nil => exact absurd hs hne
      | cons a b => rw [hs] at ih; simp [joinWith, ih, h]
    · cases hs : splitOn c xs with
      | nil => exact absurd hs (splitOn_ne_nil c xs)
      | cons a b => rw [hs] at ih; simp [joinWith_cons_head, ih]

theorem splitOn_append_sep (c : Char) (s : Text) (hs : c ∉ s) (rest : Text) :
    splitOn c (s ++ c :: rest) = s :: splitOn c rest := by
  induction s with
  | nil => simp [splitOn]
  | cons x xs ih =>
    simp only [List.mem_cons, not_or] at hs
    simp [splitOn, Ne.symm hs.1, ih hs.2]

theorem splitOn_no_sep (c : Char) (s : Text) (hs : c ∉ s) : splitOn c s = [s] := by
  induction s with
  | nil => simp [splitOn]
  | cons x xs ih =>
    simp only [List.mem_cons, not_or] at hs
    simp [splitOn, Ne.symm hs.1, ih hs.2]

/-- `c.join(segs).split(c) == segs` for a non-empty list of segments free of `c` -/
theorem splitOn_joinWith (c : Char) (segs : List Text) (hne : segs ≠ [])
    (hfree : ∀ s ∈ segs, c ∉ s) : splitOn c (joinWith c segs) = segs := by
  induction segs with
  | nil => exact absurd rfl hne
  | cons s rest ih =>
    cases rest with
    | nil => simp [joinWith, splitOn_no_sep c s (hfree s (by simp))]
    | cons r rest' =>
      rw [joinWith_cons_cons, splitOn_append_sep c s (hfree s (by simp))]
      rw [ih (by simp) (fun x hx => hfree x (by simp [hx]))]

theorem joinWith_append_head (c : Char) (p q : Text) (rest : List Text) :
    joinWith c ((p ++ q) :: rest) = p ++ joinWith c (q :: rest) := by
  cases rest <;> simp [joinWith]

theorem splitOn_free (c : Char) (s : Text) : ∀ x ∈ splitOn c s, c ∉ x := by
  induction s with
  | nil => simp [splitOn]
  | cons a as ih =>
    simp only [splitOn]
    split
    · intro x hx
      simp only [List.mem_cons] at hx
      rcases hx with rfl | hx
      · simp
      · exact ih x hx
    · next hne =>
      cases hs : splitOn c as with
      | nil => simpa using fun e => hne e.symm
      | cons h t =>
        rw [hs] at ih
        intro x hx
        simp only [List.mem_cons] at hx
        rcases hx with rfl | hx
        · have := ih h (by simp)
          simp only [List.mem_cons, not_or]
          exact ⟨fun e => hne e.symm, this⟩
        · exact ih x (by simp [hx])

theorem afterColon_append (p : Text) (hp : ':' ∉ p) (rest : Text) :
    afterColon (p ++ ':' :: rest) = some rest := by
  induction p with
  | nil => simp [afterColon]
  | cons x xs ih =>
    simp only [List.mem_cons, not_or] at hp
    simp [afterColon, Ne.symm hp.1, ih hp.2]

theorem localPart_prefixed (p : Text) (hp : ':' ∉ p) (rest : Text) :
    localPart (p ++ ':' :: rest) = rest := by
  simp [localPart, afterColon_append p hp rest]


/-- the induction principle of the nested type `Detail`, for a value (`P`), the entries of a dict (`Q`) and the items
    of a list (`R`) at once; the recursor's fourth motive, for a pair key × value, is `P` of the value -/
theorem detail_induction {P : Detail → Prop} {Q : List (Text × Detail) → Prop} {R : List Detail → Prop}
    (null : P .null) (leaf : ∀ t, P (.leaf t)) (node : ∀ kvs, Q kvs → P (.node kvs))
    (list : ∀ is, R is → P (.list is)) (scalar : ∀ t fl, P (.scalar t fl))
    (nil : Q []) (cons : ∀ k d rest, P d → Q rest → Q ((k, d) :: rest))
    (inil : R []) (icons : ∀ i is, P i → R is → R (i :: is)) :
    (∀ d, P d) ∧ (∀ kvs, Q kvs) ∧ (∀ is, R is) := by
  have hP : ∀ d, P d :=
    Detail.rec (motive_1 := P) (motive_2 := Q) (motive_3 := R) (motive_4 := fun p => P p.2)
      null leaf node list scalar nil (fun p rest hd hr => cons p.1 p.2 rest hd hr) inil icons (fun _ _ h => h)
  refine ⟨hP, fun kvs => ?_, fun is => ?_⟩
  · induction kvs with
    | nil => exact nil
    | cons p rest ih => exact cons p.1 p.2 rest (hP p.2) ih
  · induction is with
    | nil => exact inil
    | cons i is ih => exact icons i is (hP i) ih

theorem kidsToKvs_append (a b : List Xml) : kidsToKvs (a ++ b) = kidsToKvs a ++ kidsToKvs b := by
  induction a with
  | nil => rfl
  | cons x xs ih => exact congrArg (_ :: ·) ih

theorem itemToXml_tag (k : Text) (d : Detail) : (itemToXml EmptyTest.isNone k d).tag = k := by
  cases d <;> rfl

theorem entryToXml_ne_nil (k : Text) (d : Detail) : entryToXml EmptyTest.isNone k d ≠ [] := by
  cases d with
  | list items => cases items <;> exact List.cons_ne_nil _ _
  | _ => exact List.cons_ne_nil _ _

/-- a dict written as an element reads back as the reading of its entries (an empty dict as None) -/
theorem xmlToDetail_node (k : Text) (kvs : List (Text × Detail))
    (ih : kidsToKvs (kvsToXml EmptyTest.isNone kvs) = normKvs kvs) :
    xmlToDetail (.elem k [] [] (kvsToXml EmptyTest.isNone kvs)) = normScalar (.node kvs) := by
  cases kvs with
  | nil => rfl
  | cons p rest =>
    cases h : kvsToXml EmptyTest.isNone (p :: rest) with
    | nil => exact absurd (List.append_eq_nil_iff.1 h).1 (entryToXml_ne_nil p.1 p.2)
    | cons x xs => rw [h] at ih; exact congrArg Detail.node ih

/-- what `dict_to_etree` writes reads back as the normal form: values, dict entries, the dict, list items -/
theorem detail_xml_roundtrip :
    (∀ d, (∀ k, kidsToKvs (entryToXml EmptyTest.isNone k d) = normEntry k d) ∧
          ∀ k, xmlToDetail (itemToXml EmptyTest.isNone k d) = normItem d) ∧
    (∀ kvs, kidsToKvs (kvsToXml EmptyTest.isNone kvs) = normKvs kvs) ∧
    (∀ is k, kidsToKvs (itemsToXml EmptyTest.isNone k is) = normItems k is) := by
  apply detail_induction
  · exact ⟨fun _ => rfl, fun _ => rfl⟩
  · exact fun t => ⟨fun _ => rfl, fun _ => rfl⟩
  · intro kvs ih
    refine ⟨fun k => ?_, fun k => ?_⟩
    · cases kvs <;> exact congrArg (fun d => [(k, d)]) (xmlToDetail_node k _ ih)
    · cases kvs <;> exact xmlToDetail_node k _ ih
  · intro is ih
    refine ⟨fun k => ?_, fun _ => rfl⟩
    cases is with
    | nil => rfl
    | cons i is => exact ih k
  · exact fun t fl => ⟨fun _ => rfl, fun _ => rfl⟩
  · rfl
  · intro k d rest ihd ihr
    show kidsToKvs (entryToXml _ k d ++ kvsToXml _ rest) = normEntry k d ++ normKvs rest
    rw [kidsToKvs_append, ihd.1 k, ihr]
  · exact fun _ => rfl
  · intro i is ihi ihis k
    show ((itemToXml _ k i).tag, xmlToDetail (itemToXml _ k i)) :: kidsToKvs (itemsToXml _ k is) = (k, normItem i) :: normItems k is
    rw [itemToXml_tag, ihi.2 k, ihis k]

theorem xmlToDetail_itemToXml (k : Text) : ∀ d, xmlToDetail (itemToXml EmptyTest.isNone k d) = normItem d :=
  fun d => (detail_xml_roundtrip.1 d).2 k
theorem kidsToKvs_itemsToXml (k : Text) : ∀ is, kidsToKvs (itemsToXml EmptyTest.isNone k is) = normItems k is :=
  fun is => detail_xml_roundtrip.2.2 is k
theorem kidsToKvs_entryToXml (k : Text) : ∀ d, kidsToKvs (entryToXml EmptyTest.isNone k d) = normEntry k d :=
  fun d => (detail_xml_roundtrip.1 d).1 k
theorem kidsToKvs_kvsToXml : ∀ kvs, kidsToKvs (kvsToXml EmptyTest.isNone kvs) = normKvs kvs :=
  detail_xml_roundtrip.2.1

theorem normKvs_append (a b : List (Text × Detail)) : normKvs (a ++ b) = normKvs a ++ normKvs b := by
  induction a with
  | nil => rfl
  | cons x xs ih => exact (congrArg (normEntry x.1 x.2 ++ ·) ih).trans (List.append_assoc ..).symm

theorem kvsSafe_append (a b : List (Text × Detail)) : kvsSafe (a ++ b) = (kvsSafe a && kvsSafe b) := by
  induction a with
  | nil => rfl
  | cons x xs ih => exact (congrArg (x.2.xmlSafe && ·) ih).trans (Bool.and_assoc ..).symm

/-- a value XML carries exactly is its own normal form -/
theorem norm_of_safe :
    (∀ d : Detail, d.xmlSafe = true → ∀ k, normEntry k d = [(k, d)]) ∧
    (∀ kvs, kvsSafe kvs = true → normKvs kvs = kvs) ∧ (∀ _ : List Detail, True) := by
  apply detail_induction
  · exact fun _ _ => rfl
  · intro t h k
    cases t with
    | nil => cases h
    | cons c cs => rfl
  · intro kvs ih h k
    cases kvs with
    | nil => cases h
    | cons p rest => exact congrArg (fun l => [(k, Detail.node l)]) (ih h)
  · exact fun _ _ h => nomatch h
  · exact fun _ _ h => nomatch h
  · exact fun _ => rfl
  · intro k d rest ihd ihr h
    have h := Bool.and_eq_true_iff.1 h
    show normEntry k d ++ normKvs rest = _
    rw [ihd h.1 k, ihr h.2]; rfl
  · trivial
  · exact fun _ _ _ _ => trivial

theorem normEntry_of_safe (k : Text) : ∀ d : Detail, d.xmlSafe = true → normEntry k d = [(k, d)] :=
  fun d h => norm_of_safe.1 d h k
theorem normKvs_of_safe : ∀ kvs, kvsSafe kvs = true → normKvs kvs = kvs :=
  norm_of_safe.2.1

theorem normEntry_ne_nil (k : Text) (d : Detail) : normEntry k d ≠ [] := by
  cases d with
  | node kvs => cases kvs <;> exact List.cons_ne_nil _ _
  | list items => cases items <;> exact List.cons_ne_nil _ _
  | _ => exact List.cons_ne_nil _ _

theorem xmlSafe_normNode (kvs : List (Text × Detail)) (ih : kvsSafe (normKvs kvs) = true) :
    (normScalar (.node kvs)).xmlSafe = true := by
  cases kvs with
  | nil => rfl
  | cons p rest =>
    cases h : normKvs (p :: rest) with
    | nil => exact absurd (List.append_eq_nil_iff.1 h).1 (normEntry_ne_nil p.1 p.2)
    | cons x xs => rw [h] at ih; exact (congrArg (fun l => (Detail.node l).xmlSafe) h).trans ih

/-- every reading is a value XML carries exactly -/
theorem norm_safe :
    (∀ d, (normScalar d).xmlSafe = true ∧ (normItem d).xmlSafe = true ∧ ∀ k, kvsSafe (normEntry k d) = true) ∧
    (∀ kvs, kvsSafe (normKvs kvs) = true) ∧ (∀ is k, kvsSafe (normItems k is) = true) := by
  apply detail_induction
  · exact ⟨rfl, rfl, fun _ => rfl⟩
  · intro t
    cases t <;> exact ⟨rfl, rfl, fun _ => rfl⟩
  · intro kvs ih
    have h := xmlSafe_normNode kvs ih
    refine ⟨h, ?_, fun k => ?_⟩ <;> cases kvs
    · rfl
    · exact h
    · rfl
    · exact (Bool.and_true _).trans h
  · intro is ih
    refine ⟨rfl, rfl, fun k => ?_⟩
    cases is with
    | nil => rfl
    | cons i is => exact ih k
  · intro t fl
    cases t <;> exact ⟨rfl, rfl, fun _ => rfl⟩
  · rfl
  · intro k d rest ihd ihr
    show kvsSafe (normEntry k d ++ normKvs rest) = true
    rw [kvsSafe_append, ihd.2.2 k, ihr]; rfl
  · exact fun _ => rfl
  · intro i is ihi ihis k
    show ((normItem i).xmlSafe && kvsSafe (normItems k is)) = true
    rw [ihi.2.1, ihis k]; rfl

theorem normEntry_normScalar (k : Text) : ∀ d, normEntry k (normScalar d) = [(k, normScalar d)] :=
  fun d => normEntry_of_safe k _ (norm_safe.1 d).1
theorem normEntry_normItem (k : Text) : ∀ d, normEntry k (normItem d) = [(k, normItem d)] :=
  fun d => normEntry_of_safe k _ (norm_safe.1 d).2.1
theorem normKvs_normItems (k : Text) : ∀ is, normKvs (normItems k is) = normItems k is :=
  fun is => normKvs_of_safe _ (norm_safe.2.2 is k)
theorem normKvs_normEntry (k : Text) : ∀ d, normKvs (normEntry k d) = normEntry k d :=
  fun d => normKvs_of_safe _ ((norm_safe.1 d).2.2 k)
/-- the reading is a normal form: normalising twice changes nothing -/
theorem normKvs_idem : ∀ kvs, normKvs (normKvs kvs) = normKvs kvs :=
  fun kvs => normKvs_of_safe _ (norm_safe.2.1 kvs)

theorem detail_doc_roundtrip :
    (∀ d, docToDetail (detailToDoc d) = d) ∧ (∀ kvs, docKvs (kvsToDoc kvs) = kvs) ∧
    (∀ is, docItems (itemsToDoc is) = is) := by
  apply detail_induction
  · rfl
  · exact fun _ => rfl
  · exact fun _ ih => congrArg Detail.node ih
  · exact fun _ ih => congrArg Detail.list ih
  · exact fun _ _ => rfl
  · rfl
  · intro k d rest ihd ihr
    show (k, docToDetail (detailToDoc d)) :: docKvs (kvsToDoc rest) = _
    rw [ihd, ihr]
  · rfl
  · intro i is ihi ihis
    show docToDetail (detailToDoc i) :: docItems (itemsToDoc is) = _
    rw [ihi, ihis]

theorem docToDetail_detailToDoc : ∀ d, docToDetail (detailToDoc d) = d := detail_doc_roundtrip.1
theorem docKvs_kvsToDoc : ∀ kvs, docKvs (kvsToDoc kvs) = kvs := detail_doc_roundtrip.2.1
theorem docItems_itemsToDoc : ∀ is, docItems (itemsToDoc is) = is := detail_doc_roundtrip.2.2

theorem qn_inj (ns a b : Text) : qn ns a = qn ns b ↔ a = b := by
  simp [qn]

theorem qn_ne (ns : Text) {a b : String} (h : a ≠ b) : qn ns (T a) ≠ qn ns (T b) :=
  fun e => h (String.toList_injective ((qn_inj ns _ _).1 e))

/-- the children of a SOAP 1.2 `Fault` have different names -/
theorem tCode_ne_tReason : tCode ≠ tReason := qn_ne ns12 (by simp)
theorem tCode_ne_tRole : tCode ≠ tRole := qn_ne ns12 (by simp)
theorem tCode_ne_tDetail12 : tCode ≠ tDetail12 := qn_ne ns12 (by simp)
theorem tReason_ne_tRole : tReason ≠ tRole := qn_ne ns12 (by simp)
theorem tReason_ne_tDetail12 : tReason ≠ tDetail12 := qn_ne ns12 (by simp)
theorem tRole_ne_tDetail12 : tRole ≠ tDetail12 := qn_ne ns12 (by simp)
theorem tValue_ne_tSubcode : tValue ≠ tSubcode := qn_ne ns12 (by simp)

theorem xmlText_valid (t : Text) : (xmlText t).all isXmlChar = true := by
  induction t with
  | nil => rfl
  | cons c cs ih =>
    simp only [xmlText, List.map_cons, List.all_cons, Bool.and_eq_true] at ih ⊢
    refine ⟨?_, ih⟩
    by_cases h : isXmlChar c = true
    · simp [h]
    · have h' : isXmlChar c = false := by simpa using h
      simp only [h']
      show isXmlChar (Char.ofNat 65533) = true
      decide

theorem xmlText_of_valid (t : Text) (h : t.all isXmlChar = true) : xmlText t = t := by
  induction t with
  | nil => rfl
  | cons c cs ih =>
    simp only [List.all_cons, Bool.and_eq_true] at h
    simp [xmlText, h.1] 
    exact ih h.2

/-- Projections of an explicit element as rewriting rules. They carry a proof (`by rfl`) on purpose: a step that `simp`
    takes silently under a `match` on a lookup is checked by the kernel by evaluating the lookup, which compares the
    tag names character by character. -/
theorem Xml.tag_elem (t a x k) : (Xml.elem t a x k).tag = t := by rfl
theorem Xml.kids_elem (t a x k) : (Xml.elem t a x k).kids = k := by rfl
theorem Xml.text_elem (t a x k) : (Xml.elem t a x k).text = x := by rfl
theorem Xml.attrs_elem (t a x k) : (Xml.elem t a x k).attrs = a := by rfl

/-- children are looked up by name: the first one is found, one with another name is passed over -/
theorem findTag_hit (t : Text) (a x k) (rest : List Xml) :
    findTag t (.elem t a x k :: rest) = some (.elem t a x k) := if_pos rfl
theorem findTag_skip {u t : Text} (h : u ≠ t) (a x k) (rest : List Xml) :
    findTag t (.elem u a x k :: rest) = findTag t rest := if_neg h
theorem childText_hit (t : Text) (a x k) (rest : List Xml) : childText t (.elem t a x k :: rest) = x := by
  rw [childText, findTag_hit]; rfl
theorem childText_skip {u t : Text} (h : u ≠ t) (a x k) (rest : List Xml) :
    childText t (.elem u a x k :: rest) = childText t rest := by
  rw [childText, findTag_skip h, childText]

theorem findTag_membersXml (t : Text) (ms : List (Text × Text)) (h : ∀ m ∈ ms, m.1 ≠ t) :
    findTag t (membersXml ms) = none := by
  induction ms with
  | nil => simp [membersXml, findTag]
  | cons m rest ih =>
    rcases m with ⟨k, x⟩
    have hk : k ≠ t := h (k, x) (by simp)
    simp [membersXml, findTag, leafElem, Xml.tag, hk, ih (fun m hm => h m (by simp [hm]))]

theorem xmlToFault11_faultToXml11 (F : Facts09) (hp : ':' ∉ F.env11Prefix) (he : F.emptyTest = .isNone) (f : FaultV)
    (hm : ∀ m ∈ f.members, m.1 ≠ T "detail") :
    xmlToFault11 (faultToXml11 F f) =
      some { code := f.code, str := xmlTextF F f.str, actor := xmlTextF F f.actor, detail := normTop11 f.detail, lang := T "en" } := by
  rcases f with ⟨code, str, actor, detail, lang, members⟩
  have hmem := findTag_membersXml (T "detail") members hm
  rw [xmlToFault11, faultToXml11]
  rcases detail with _ | _ | ⟨kv, rest⟩ <;>
    simp [Xml.tag_elem, Xml.kids_elem, childText_hit, childText_skip, findTag_hit, findTag_skip, leafElem, detail11,
      String.toList_inj, localPart_prefixed _ hp, normTop11, kidsToKvs_kvsToXml, hmem, he]

theorem unwrapEnvelope_envelope (ns : Text) (x : Xml) (rest : List Xml) :
    unwrapEnvelope ns (envelope ns (x :: rest)) = some x := by
  simp [unwrapEnvelope, envelope, Xml.tag, Xml.kids, findTag]

theorem client11_encode (F : Facts09) (he : F.emptyTest = .isNone) (f : FaultV) (hm : ∀ m ∈ f.members, m.1 ≠ T "detail") :
    client11 (.xml (envelope ns11 [faultToXml11 F f])) =
      some { code := F.env11Prefix ++ ':' :: f.code, str := ctorString (xmlTextF F f.str), detail := normTop11 f.detail } := by
  rcases f with ⟨code, str, actor, detail, lang, members⟩
  have hmem := findTag_membersXml (T "detail") members hm
  rw [client11, unwrapEnvelope_envelope, faultToXml11]
  rcases detail with _ | _ | ⟨kv, rest⟩ <;>
    simp [Xml.tag_elem, Xml.kids_elem, Xml.text_elem, findTag_hit, findTag_skip, leafElem, detail11,
      String.toList_inj, normTop11, kidsToKvs_kvsToXml, hmem, he]

theorem subcodesIn_value_cons (v : Text) (xs : List Xml) :
    subcodesIn (Xml.elem tValue [] v [] :: xs) = subcodesIn xs :=
  if_neg tValue_ne_tSubcode

theorem subcodesIn_chain (v : Text) (rest : List Text) :
    subcodesIn (Xml.elem tValue [] v [] :: subcodeChain rest) = rest := by
  rw [subcodesIn_value_cons]
  induction rest with
  | nil => rfl
  | cons r rest ih =>
    rw [subcodeChain, subcodesIn, Xml.tag_elem, if_pos rfl, valueText, Xml.kids_elem, leafElem, childText_hit, subcodes,
      subcodesIn_value_cons, ih]

theorem head12_sender : head12ToCode (T "Sender") = T "Client" := if_pos rfl
theorem head12_receiver : head12ToCode (T "Receiver") = T "Server" :=
  (if_neg (by simp [String.toList_inj])).trans (if_pos rfl)

/-- `Sender` / `Receiver` for the first segment of a code: read back as that segment, and free of dots -/
theorem head12_of (first : Text) (hf : first = T "Client" ∨ first = T "Server") :
    head12ToCode (if first = T "Client" then T "Sender" else T "Receiver") = first ∧
    '.' ∉ (if first = T "Client" then T "Sender" else T "Receiver") := by
  rcases hf with rfl | rfl
  · rw [if_pos rfl]; exact ⟨head12_sender, by decide⟩
  · rw [if_neg (by simp [String.toList_inj])]; exact ⟨head12_receiver, by decide⟩

theorem codeHead12_of (F : Facts09) (first : Text) (hf : first = T "Client" ∨ first = T "Server") :
    codeHead12 F first = some (F.env12Prefix ++ ':' :: (if first = T "Client" then T "Sender" else T "Receiver")) := by
  rcases hf with rfl | rfl <;> simp [codeHead12, String.toList_inj]

/-- what the reference decoder reads from a SOAP 1.2 `Fault` element, given its `Code` and `Reason`/`Text` children -/
theorem xmlToFault12_fault {kids : List Xml} {c r t : Xml} (hc : findTag tCode kids = some c)
    (hr : findTag tReason kids = some r) (ht : findTag tText r.kids = some t) (a x) :
    xmlToFault12 (.elem tFault12 a x kids) =
      some { code := joinWith '.' (head12ToCode (localPart (valueText c)) :: subcodes c), str := t.text,
             actor := childText tRole kids, detail := (findTag tDetail12 kids).map fun d => kidsToKvs d.kids,
             lang := (t.attrs.head?.map (·.2)).getD [] } := by
  rw [xmlToFault12]
  simp only [Xml.tag_elem, Xml.kids_elem, ↓reduceIte, hc, hr, ht, childText]
  cases findTag tDetail12 kids <;> rcases t.attrs with _ | ⟨⟨_, _⟩, _⟩ <;> rfl

theorem xmlToFault12_faultToXml12 (F : Facts09) (hp : ':' ∉ F.env12Prefix) (he : F.emptyTest = .isNone)
    (hd : F.soap12Detail = .children) (f : FaultV) (first : Text) (rest : List Text)
    (hs : splitOn '.' f.code = first :: rest) (hf : first = T "Client" ∨ first = T "Server")
    (hm : ∀ m ∈ f.members, m.1 ≠ tDetail12) :
    ∃ x, faultToXml12 F f = some x ∧
      xmlToFault12 x = some { code := f.code, str := xmlTextF F f.str, actor := xmlTextF F f.actor,
                              detail := f.detail.map normKvs, lang := f.lang } := by
  have hcode : joinWith '.' (first :: rest) = f.code := by rw [← hs, joinWith_splitOn]
  rcases f with ⟨code, str, actor, detail, lang, members⟩
  have hmem := findTag_membersXml tDetail12 members hm
  simp only at hs hcode
  have hv := codeHead12_of F first hf
  have hh := (head12_of first hf).1
  rcases detail with _ | kvs <;>
    simp [faultToXml12, hs, hv, detail12, hd, he, leafElem,
      xmlToFault12_fault (findTag_hit ..) ((findTag_skip tCode_ne_tReason ..).trans (findTag_hit ..)) (findTag_hit ..),
      Xml.kids_elem, Xml.text_elem, valueText, Xml.attrs_elem, findTag_hit, childText_hit, localPart_prefixed _ hp, hh,
      subcodes, subcodesIn_chain, hcode,
      findTag_skip tCode_ne_tDetail12, findTag_skip tReason_ne_tDetail12, findTag_skip tRole_ne_tDetail12,
      childText_skip tCode_ne_tRole, childText_skip tReason_ne_tRole, kidsToKvs_kvsToXml, hmem]


theorem docToFault_faultToDict (F : Facts09) (f : FaultV) :
    docToFault (faultToDict F f) = some { f with lang := T "en", members := [] } := by
  rcases f with ⟨code, str, actor, detail, lang, members⟩
  rw [faultToDict]
  -- `docText` and `docDetail` are opened once the lookups are resolved: opened on a lookup each is a `match` on it,
  -- which the kernel checks by evaluating the lookup
  split
  · rcases detail with _ | kvs <;>
      simp [docToFault, lookup, String.toList_inj] <;> simp [docText, docDetail, docKvs_kvsToDoc]
  · next h =>
    -- the `faultactor` entry is left out only when the actor is empty, which is what a missing key reads as
    obtain ⟨rfl, -⟩ : actor = [] ∧ F.ignoreEmptyActor = true := by simpa using h
    rcases detail with _ | kvs <;>
      simp [docToFault, lookup, String.toList_inj] <;> simp [docText, docDetail, docKvs_kvsToDoc]

theorem docToFault_faultToList (f : FaultV) :
    docToFault (faultToList f) = some { f with lang := T "en", members := [] } := by
  rcases f with ⟨code, str, actor, detail, lang, members⟩
  rcases detail with _ | kvs <;> simp [docToFault, faultToList, docText, docDetail, docKvs_kvsToDoc]

theorem splitBlank_httpText (code s : Text) (hc : '\n' ∉ code) :
    splitBlank (code ++ '\n' :: '\n' :: s) = some (code, s) := by
  induction code with
  | nil => simp [splitBlank]
  | cons a rest ih =>
    have ha : a ≠ '\n' := by intro h; apply hc; simp [h]
    have hr : '\n' ∉ rest := by intro h; apply hc; simp [h]
    have := ih hr
    cases rest with
    | nil => simp [splitBlank, ha]
    | cons b rest' =>
      simp only [List.cons_append] at this ⊢
      simp [splitBlank, ha, this]


theorem isClientCode_iff (code : Text) : isClientCode .eqOrDotPrefix code = true ↔ IsClient code := by
  simp [isClientCode, isPrefix_iff, IsClient, Or.comm]

theorem dedStatus_doc (c : Cls) :
    dedStatus c docTable =
      if c.tooLong then some 413 else if c.notFound then some 404
      else if c.notAllowed then some 405 else if c.invalidCred then some 401 else none := rfl

theorem baseStatus_doc (F : Facts09) (ht : F.dedTable = docTable) (c : Cls) (code : Text) :
    baseStatus F c code =
      if c.tooLong then 413 else if c.notFound then 404 else if c.notAllowed then 405
      else if c.invalidCred then 401
      else if isClientCode F.clientTest code then F.clientStatus else F.defaultStatus := by
  simp only [baseStatus, ht, dedStatus_doc]
  rcases c with ⟨a, b, c, d⟩
  cases a <;> cases b <;> cases c <;> cases d <;> simp

theorem faultString_erase (F : Facts09) (t : Text) (h : F.faultString = .constant t) (e : Exc) :
    faultString F e = t := by simp [faultString, h]

/-- with the constant fault string and the `Server` code, the generic fault is the documented one -/
theorem genericFault_internalError (F : Facts09) (h3 : F.faultString = .constant (T "Internal Error"))
    (h4 : F.genericCode = T "Server") (e : Exc) : genericFault F e = (Cls.plain, internalError) := by
  simp [genericFault, faultString, h3, h4, internalError]

/-- every protocol can write the documented generic fault -/
theorem encodeFault_internalError (F : Facts09) (p : Proto) : ∃ w, encodeFault F p internalError = some w := by
  rcases p with _ | _ | _ | b | _ | _
  case dict => cases b <;> exact ⟨_, rfl⟩
  all_goals exact ⟨_, rfl⟩

theorem funnel_erase (F : Facts09) (t : Text) (h : F.faultString = .constant t) (r : Raised) :
    funnel F r.erase = funnel F r := by
  rcases r with ⟨c, f⟩ | (_ | e) | e <;> simp [Raised.erase, funnel, genericFault, faultString, h]

theorem serializeFailed_erase (F : Facts09) (t : Text) (h : F.faultString = .constant t) (sp p : Proto)
    (preset : Option Nat) (r : Raised) :
    serializeFailed F sp p preset r.erase = serializeFailed F sp p preset r := by
  cases hs : F.serErr
  · simp [serializeFailed, hs, funnel_erase F t h]
  · rcases r with ⟨c, f⟩ | (_ | e) | e <;>
      simp [serializeFailed, hs, Raised.erase, genericFault, faultString, h]
  · rcases r with ⟨c, f⟩ | (_ | e) | e <;>
      simp [serializeFailed, hs, Raised.erase, genericFault, faultString, h]

theorem afterRaise_erase (F : Facts09) (t : Text) (h : F.faultString = .constant t) (o : OutObj) (r : Raised) :
    afterRaise F o r.erase = afterRaise F o r := by
  rcases r with ⟨c, f⟩ | (_ | e) | e <;> simp [Raised.erase, afterRaise, funnel, genericFault, faultString, h]

/-- non-interference: the response is the same whatever the non-Fault exceptions carry -/
theorem wsgiOn_erase (F : Facts09) (t : Text) (h : F.faultString = .constant t) (sp p : Proto)
    (preset : Option Nat) (u : UserCode) : wsgiOn F sp p preset u.erase = wsgiOn F sp p preset u := by
  rcases u with s | ⟨first, later⟩ | ⟨site, level, r, body⟩
  · rcases s with v | r
    · rfl
    · simp [UserCode.erase, Step.erase, wsgiOn, process, afterRaise_erase F t h]
  · rcases first with v | r
    · rcases later with _ | r
      · rfl
      · simp [UserCode.erase, Step.erase, wsgiOn, process, serializeFailed_erase F t h]
    · simp [UserCode.erase, Step.erase, wsgiOn, process, funnel_erase F t h]
  · cases site <;> rcases body with v | r' <;>
      simp [UserCode.erase, Step.erase, wsgiOn, process, afterRaise_erase F t h]

theorem wsgi_erase (F : Facts09) (t : Text) (h : F.faultString = .constant t) (p : Proto)
    (preset : Option Nat) (u : UserCode) : wsgi F p preset u.erase = wsgi F p preset u :=
  wsgiOn_erase F t h p p preset u

/-- what the SOAP 1.2 client makes of a `Fault` element, given its `Code`/`Value` and `Reason`/`Text` children -/
theorem client12_fault (F : Facts09) (hn : F.client12Ns = .byNamespace) {kids : List Xml} {c r v t : Xml}
    (hc : findTag tCode kids = some c) (hr : findTag tReason kids = some r)
    (hv : findTag tValue c.kids = some v) (ht : findTag tText r.kids = some t) (a x) :
    client12 F (.xml (envelope ns12 [.elem tFault12 a x kids])) =
      some ⟨joinWith '.' (v.text :: subcodes c), ctorString (if F.client12Strip then strip t.text else t.text),
            (findTag tDetail12 kids).map fun d => kidsToKvs d.kids⟩ := by
  rw [client12, unwrapEnvelope_envelope]
  simp only [Xml.tag_elem, Xml.kids_elem, ↓reduceIte, hn, hc, hr, hv, ht]

theorem client12_encode (F : Facts09) (he : F.emptyTest = .isNone) (hn : F.client12Ns = .byNamespace)
    (hd : F.soap12Detail = .children) (f : FaultV) (first : Text) (rest : List Text)
    (hs : splitOn '.' f.code = first :: rest) (hf : first = T "Client" ∨ first = T "Server")
    (hm : ∀ m ∈ f.members, m.1 ≠ tDetail12) :
    ∃ x, faultToXml12 F f = some x ∧
      client12 F (.xml (envelope ns12 [x])) =
        some { code := joinWith '.' ((F.env12Prefix ++ ':' :: (if first = T "Client" then T "Sender" else T "Receiver")) :: rest),
               str := ctorString (if F.client12Strip then strip (xmlTextF F f.str) else xmlTextF F f.str),
               detail := f.detail.map normKvs } := by
  rcases f with ⟨code, str, actor, detail, lang, members⟩
  have hmem := findTag_membersXml tDetail12 members hm
  simp only at hs
  rcases detail with _ | kvs <;>
    simp [faultToXml12, hs, codeHead12_of F first hf, detail12, hd, he, leafElem,
      client12_fault F hn (findTag_hit ..) ((findTag_skip tCode_ne_tReason ..).trans (findTag_hit ..)) (findTag_hit ..)
        (findTag_hit ..),
      Xml.kids_elem, Xml.text_elem, findTag_hit, subcodes, subcodesIn_chain,
      findTag_skip tCode_ne_tDetail12, findTag_skip tReason_ne_tDetail12, findTag_skip tRole_ne_tDetail12,
      kidsToKvs_kvsToXml, hmem]

/-- the code a SOAP 1.2 client holds, read in spyne's vocabulary, is the raised code -/
theorem code12ToSpyne_client (pfx : Text) (hp : ':' ∉ pfx) (code first : Text) (rest : List Text)
    (hs : splitOn '.' code = first :: rest) (hf : first = T "Client" ∨ first = T "Server") :
    code12ToSpyne (joinWith '.' ((pfx ++ ':' :: (if first = T "Client" then T "Sender" else T "Receiver")) :: rest)) = code := by
  have hfree : ∀ x ∈ rest, '.' ∉ x := fun x hx => splitOn_free '.' code x (by rw [hs]; simp [hx])
  have hcode : joinWith '.' (first :: rest) = code := by rw [← hs, joinWith_splitOn]
  obtain ⟨hh, hv⟩ := head12_of first hf
  generalize (if first = T "Client" then T "Sender" else T "Receiver") = v at hh hv ⊢
  have : pfx ++ ':' :: v = (pfx ++ [':']) ++ v := by simp
  rw [this, joinWith_append_head, List.append_assoc]
  simp only [List.singleton_append]
  rw [code12ToSpyne, localPart_prefixed _ hp,
    splitOn_joinWith '.' (v :: rest) (by simp) (by
      intro x hx; simp only [List.mem_cons] at hx; rcases hx with rfl | hx; exact hv; exact hfree x hx)]
  simp [hh, hcode]

end SpyneModel.Faults
