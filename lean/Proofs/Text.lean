/-
  Decimal digits.  `natText` writes them and `valNat` reads them (`valNat_natText`); the one arithmetic fact is `valNat`
  of an append (`valNat_append`), and `spanDigits` cuts a text at its first non-digit.  Fixed-width fields go through
  `Padded k n s`, "`s` is `n` in exactly `k` digits": the printers `pad2`, `pad4`, `pad6` produce it, the readers
  `take2`, `take4` consume it, and no proof about a reader looks inside a printer.
-/
import SpyneModel.Text
import Proofs.Radix
namespace SpyneModel

theorem dval_digitChar : ∀ d, d < 10 → dval (digitChar d) = d := by decide
theorem isDigit_digitChar : ∀ d, d < 10 → isDigit (digitChar d) = true := by decide

theorem natText_lt (n : Nat) (h : n < 10) : natText n = [digitChar n] := by rw [natText, if_pos h]

theorem natText_ge (n : Nat) (h : 10 ≤ n) : natText n = natText (n / 10) ++ [digitChar (n % 10)] := by
  rw [natText, if_neg (by omega)]

theorem natText_ne_nil (n : Nat) : natText n ≠ [] := by
  fun_induction natText n <;> simp

theorem natText_all_digits (n : Nat) : (natText n).all isDigit = true := by
  fun_induction natText n with
  | case1 n h => simp [isDigit_digitChar n h]
  | case2 n h ih => simp [ih, isDigit_digitChar (n % 10) (Nat.mod_lt _ (by omega))]

theorem valNat_nil : valNat [] = 0 := rfl

theorem foldl_val (s : Text) : ∀ acc : Nat,
    s.foldl (fun a c => a * 10 + dval c) acc = acc * 10 ^ s.length + s.foldl (fun a c => a * 10 + dval c) 0 := by
  induction s with
  | nil => intro acc; simp
  | cons c t ih =>
    intro acc
    simp only [List.foldl_cons, List.length_cons]
    rw [ih (acc * 10 + dval c), ih (0 * 10 + dval c), Nat.pow_succ]
    simp [Nat.add_mul, Nat.mul_assoc, Nat.mul_comm 10, Nat.add_assoc]

theorem valNat_cons (c : Char) (s : Text) : valNat (c :: s) = dval c * 10 ^ s.length + valNat s := by
  unfold valNat
  simp only [List.foldl_cons]
  rw [foldl_val s (0 * 10 + dval c)]
  simp

theorem valNat_append (a b : Text) : valNat (a ++ b) = valNat a * 10 ^ b.length + valNat b := by
  unfold valNat
  rw [List.foldl_append, foldl_val b]

theorem dval_le_9 (c : Char) (h : isDigit c = true) : dval c ≤ 9 := by
  simp [isDigit] at h
  unfold dval; omega

theorem valNat_lt_pow (s : Text) (h : s.all isDigit = true) : valNat s < 10 ^ s.length := by
  induction s with
  | nil => simp [valNat]
  | cons c t ih =>
    rw [List.all_cons, Bool.and_eq_true] at h
    rw [valNat_cons, List.length_cons, Nat.pow_succ, Nat.mul_comm _ 10]
    exact Radix.lt_mul_add (Nat.lt_succ_of_le (dval_le_9 c h.1)) (ih h.2)

theorem valNat_replicate_zero (k : Nat) : valNat (List.replicate k '0') = 0 := by
  induction k with
  | zero => rfl
  | succ k ih => rw [List.replicate_succ, valNat_cons, ih]; simp [dval]

theorem digitChar_dval (c : Char) (h : isDigit c = true) : digitChar (dval c) = c := by
  simp [isDigit] at h
  unfold digitChar dval
  have : 48 + (c.toNat - 48) = c.toNat := by omega
  rw [this]
  exact Char.ofNat_toNat c

theorem valNat_append_single (s : Text) (c : Char) : valNat (s ++ [c]) = valNat s * 10 + dval c := by
  rw [valNat_append]; simp [valNat]

theorem valNat_natText (n : Nat) : valNat (natText n) = n := by
  fun_induction natText n with
  | case1 n h => simp [valNat, dval_digitChar n h]
  | case2 n h ih =>
    rw [valNat_append_single, ih, dval_digitChar (n % 10) (Nat.mod_lt _ (by decide)), Nat.div_add_mod']

theorem allDigits_natText (n : Nat) : allDigits (natText n) = true := by
  simp [allDigits, natText_all_digits, natText_ne_nil]

theorem parseNat_natText (n : Nat) : parseNat? (natText n) = some n := by
  simp [parseNat?, allDigits_natText, valNat_natText]

/-- divisions by powers of ten as iterated divisions by ten: the form in which `Padded.snoc` takes off the last digit,
    and the one `omega` is quick on -/
theorem div_pow10 (n : Nat) : n / 100 = n / 10 / 10 ∧ n / 1000 = n / 10 / 10 / 10 ∧
    n / 10000 = n / 10 / 10 / 10 / 10 ∧ n / 100000 = n / 10 / 10 / 10 / 10 / 10 := by
  have e2 : n / 100 = n / 10 / 10 := (Nat.div_div_eq_div_mul n 10 10).symm
  have e3 : n / 1000 = n / 10 / 10 / 10 := by rw [← e2]; exact (Nat.div_div_eq_div_mul n 100 10).symm
  have e4 : n / 10000 = n / 10 / 10 / 10 / 10 := by rw [← e3]; exact (Nat.div_div_eq_div_mul n 1000 10).symm
  exact ⟨e2, e3, e4, by rw [← e4]; exact (Nat.div_div_eq_div_mul n 10000 10).symm⟩

theorem spanDigits_all (ds : Text) (hd : ds.all isDigit = true) (rest : Text)
    (hr : ∀ c r, rest = c :: r → isDigit c = false) : spanDigits (ds ++ rest) = (ds, rest) := by
  induction ds with
  | nil =>
    cases rest with
    | nil => simp [spanDigits]
    | cons c r => simp [spanDigits, hr c r rfl]
  | cons d ds ih =>
    rw [List.all_cons, Bool.and_eq_true] at hd
    simp [spanDigits, hd.1, ih hd.2]

theorem spanDigits_spec (s : Text) : s = (spanDigits s).1 ++ (spanDigits s).2 ∧ (spanDigits s).1.all isDigit = true ∧
    (∀ c r, (spanDigits s).2 = c :: r → isDigit c = false) := by
  induction s with
  | nil => simp [spanDigits]
  | cons c t ih =>
    unfold spanDigits
    by_cases hc : isDigit c = true
    · simp only [hc, if_true]
      obtain ⟨h1, h2, h3⟩ := ih
      refine ⟨by simp [← h1], by simp [hc, h2], h3⟩
    · simp only [hc]
      simp
      simpa using hc

theorem spanDigits_eq (s a b : Text) (h : spanDigits s = (a, b)) : s = a ++ b ∧ a.all isDigit = true ∧
    (∀ c r, b = c :: r → isDigit c = false) := by
  have := spanDigits_spec s
  rw [h] at this
  exact this

theorem spanDigits_digits (ds : Text) (hd : ds.all isDigit = true) : spanDigits ds = (ds, []) := by
  have := spanDigits_all ds hd [] (by intro c r h; cases h)
  simpa using this

/-! ### fixed-width fields -/

/-- `s` is `n` written in exactly `k` digits (`%0kd` of a number that fits): what the printers of fixed-width fields
    produce, and all that their readers (`take2`, `take4`, `strptime`'s directives, `spanDigits`) rely on -/
structure Padded (k n : Nat) (s : Text) : Prop where
  length : s.length = k
  digits : s.all isDigit = true
  value : valNat s = n

theorem Padded.one {n : Nat} (h : n < 10) : Padded 1 n [digitChar n] :=
  ⟨rfl, by simp [isDigit_digitChar n h], by simp [valNat, dval_digitChar n h]⟩

/-- writing the last digit after the others -/
theorem Padded.snoc {k m : Nat} {s : Text} (h : Padded k (m / 10) s) : Padded (k + 1) m (s ++ [digitChar (m % 10)]) := by
  have hd : m % 10 < 10 := Nat.mod_lt _ (by decide)
  refine ⟨by simp [h.length], by simp [h.digits, isDigit_digitChar _ hd], ?_⟩
  rw [valNat_append_single, h.value, dval_digitChar _ hd, Nat.div_add_mod']

theorem pad2_padded (n : Nat) (h : n < 100) : Padded 2 n (pad2 n) :=
  (Padded.one (Nat.div_lt_of_lt_mul h)).snoc

theorem pad4_padded (n : Nat) (h : n < 10000) : Padded 4 n (pad4 n) := by
  unfold pad4
  rw [(div_pow10 n).2.1, (div_pow10 n).1]
  exact (Padded.one (by omega)).snoc.snoc.snoc

theorem pad6_padded (n : Nat) (h : n < 1000000) : Padded 6 n (pad6 n) := by
  unfold pad6
  obtain ⟨e2, e3, e4, e5⟩ := div_pow10 n
  rw [e5, e4, e3, e2]
  exact (Padded.one (by omega)).snoc.snoc.snoc.snoc.snoc

theorem pad6_all_digits (n : Nat) (h : n < 1000000) : (pad6 n).all isDigit = true := (pad6_padded n h).digits

theorem Padded.head {k n : Nat} {s : Text} (h : Padded (k + 1) n s) : ∃ c t, s = c :: t ∧ isDigit c = true := by
  obtain ⟨hl, hd, _⟩ := h
  match s, hl with
  | c :: t, _ =>
    rw [List.all_cons, Bool.and_eq_true] at hd
    exact ⟨c, t, rfl, hd.1⟩

theorem Padded.isEmpty {k n : Nat} {s : Text} (h : Padded (k + 1) n s) : s.isEmpty = false := by
  obtain ⟨c, t, rfl, _⟩ := h.head
  rfl

theorem Padded.two {n : Nat} {s : Text} (h : Padded 2 n s) :
    ∃ a b, s = [a, b] ∧ isDigit a = true ∧ isDigit b = true ∧ dval a * 10 + dval b = n := by
  obtain ⟨hl, hd, hv⟩ := h
  obtain _ | ⟨a, _ | ⟨b, _ | ⟨c, t⟩⟩⟩ := s <;> try (simp at hl; done)
  simp only [List.all_cons, List.all_nil, Bool.and_true, Bool.and_eq_true] at hd
  exact ⟨a, b, rfl, hd.1, hd.2, by simpa [valNat] using hv⟩

theorem take2_padded {n : Nat} {s : Text} (h : Padded 2 n s) (rest : Text) : take2 (s ++ rest) = some (n, rest) := by
  obtain ⟨a, b, rfl, ha, hb, hv⟩ := h.two
  simp [take2, ha, hb, hv]

theorem take4_padded {n : Nat} {s : Text} (h : Padded 4 n s) (rest : Text) : take4 (s ++ rest) = some (n, rest) := by
  obtain ⟨hl, hd, hv⟩ := h
  obtain _ | ⟨a, _ | ⟨b, _ | ⟨c, _ | ⟨d, _ | ⟨e, t⟩⟩⟩⟩⟩ := s <;> try (simp at hl; done)
  simp only [List.all_cons, List.all_nil, Bool.and_true, Bool.and_eq_true] at hd
  simp [valNat] at hv
  simp [take4, hd]
  omega

theorem take2_pad2 (n : Nat) (h : n < 100) (rest : Text) : take2 (pad2 n ++ rest) = some (n, rest) :=
  take2_padded (pad2_padded n h) rest

theorem take4_pad4 (n : Nat) (h : n < 10000) (rest : Text) : take4 (pad4 n ++ rest) = some (n, rest) :=
  take4_padded (pad4_padded n h) rest

end SpyneModel
