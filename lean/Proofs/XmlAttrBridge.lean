/-
  The model with member kinds (SpyneModel/XmlAttr.lean) restricted to the element-only universe IS the
  model of SpyneModel/Xml.lean: on `TyA.ofTy t` / `IfaceA.ofIface I` the decoder and the encoder compute the same
  results, whatever the attribute switches — the decoder with the attribute loop over a child guarded
  (`childAttrGuard`), the encoder when not polymorphic (`polyTarget` has no counterpart for `TyA`). So every
  theorem of Props/C01 … C16 about `fromElement` / `toParent` under these two conditions is a statement about
  `fromElementA` / `toParentA` on these types.
-/
import Proofs.XmlAttrBasic
namespace SpyneModel
namespace Xml

theorem occ_ofTy (t : Ty) : (TyA.ofTy t).occ = t.occ := by
  cases t <;> simp [TyA.ofTy, TyA.occ, Ty.occ]

theorem ofFields_eq_map : (fs : List (Text × Ty)) → TyA.ofFields fs = fs.map fun f => (f.1, MKind.element, TyA.ofTy f.2)
  | [] => rfl
  | (k, t) :: fs => by rw [TyA.ofFields, ofFields_eq_map fs]; rfl

theorem lookupA_ofFields (fs : List (Text × Ty)) (k : Text) :
    lookupA (TyA.ofFields fs) k = (lookupField fs k).map (fun t => (MKind.element, TyA.ofTy t)) := by
  rw [ofFields_eq_map]
  exact lookup_map_val (fun _ t => (MKind.element, TyA.ofTy t)) fs

theorem initStateA_ofFields (fs : List (Text × Ty)) : initStateA (TyA.ofFields fs) = initState fs := by
  rw [ofFields_eq_map, initStateA, initState, List.map_map]; rfl

theorem noData_ofFields (fs : List (Text × Ty)) : noKind .data (TyA.ofFields fs) = true := by
  rw [ofFields_eq_map, noKind, List.all_map]; exact List.all_eq_true.mpr fun _ _ => rfl

theorem attrPass_ofFields (F : Facts08) (A : FactsAttr) (cfg : Cfg) (fs : List (Text × Ty)) :
    (attrs : List (Text × Text)) → (st : List (Text × Val)) → attrPass F A cfg (TyA.ofFields fs) attrs st = .ok st
  | [], st => by simp [attrPass]
  | (key, s) :: as, st => by
    have ih := attrPass_ofFields F A cfg fs as st
    rw [attrPass]
    · rw [lookupA_ofFields]
      cases lookupField fs key <;> simp [ih]
    all_goals (rw [lookupA_ofFields]; cases lookupField fs key <;> simp)

theorem childAttrLeak_ofFields (F : Facts08) (A : FactsAttr) (cfg : Cfg) (fs : List (Text × Ty))
    (attrs : List (Text × Text)) (st : List (Text × Val)) :
    childAttrLeak F A cfg (TyA.ofFields fs) attrs st = .ok st := by
  unfold childAttrLeak
  split
  · rfl
  · exact attrPass_ofFields F _ cfg fs attrs st

theorem freqOkA_ofFields (A : FactsAttr) (attrs : List (Text × Text)) (children : List Node) :
    (fs : List (Text × Ty)) → freqOkA A (TyA.ofFields fs) attrs children = freqOk fs children
  | [] => rfl
  | (k, t) :: fs => by
    have ih := freqOkA_ofFields A attrs children fs
    unfold freqOkA freqOk at *
    simp only [TyA.ofFields, List.all_cons]
    congr 1
    cases A.attrSoftChecked <;> simp [memberCount, occ_ofTy]


theorem hier_ofIface (I : Iface) : (IfaceA.ofIface I).hier = I.classes.hier := by
  simp [IfaceA.ofIface, IfaceA.hier, Registry.hier, List.map_map, Function.comp_def]

theorem isSub_ofIface (I : Iface) (a b : Text) : (IfaceA.ofIface I).isSub a b = I.isSub a b := by
  unfold IfaceA.isSub Iface.isSub
  rw [hier_ofIface]
  simp [Iface.fuel, IfaceA.ofIface]

theorem lookup_ofIface (I : Iface) (key : Text) : (IfaceA.ofIface I).lookup key = (I.lookup key).map TyA.ofTy := by
  unfold IfaceA.lookup Iface.lookup
  simp only [IfaceA.ofIface]
  rw [List.find?_map]
  simp only [Function.comp_def]
  cases List.find? (fun (c : ClassDef) => clark c.ns c.name = key) I.classes with
  | some c => simp [ClassDefA.toTy, ClassDef.toTy, TyA.ofTy]
  | none => simp [lookup_map_val (fun _ => TyA.ofTy)]

theorem resolveXsiA_ofIface (X : FactsXml) (I : Iface) (t : Ty) (key : Text) :
    resolveXsiA X (IfaceA.ofIface I) (TyA.ofTy t) key = (resolveXsi X I t key).map TyA.ofTy := by
  unfold resolveXsiA resolveXsi
  rw [lookup_ofIface]
  cases I.lookup key with
  | none => rfl
  | some nt =>
    cases X.xsiTypeCheck with
    | false => rfl
    | true =>
      cases t <;> cases nt <;> simp [TyA.ofTy, isSub_ofIface]
      all_goals (split <;> rfl)


mutual
  /-- `hX`: unguarded, the plain child loop raises on a child that carries an attribute named like a member
      (`childAttrCrash`); `childLoopA` has no such branch, and on element-only classes its own attribute loop over
      the child assigns nothing (`childAttrLeak_ofFields`) -/
  theorem fromElementA_ofTy (F : Facts08) (X : FactsXml) (A : FactsAttr) (hX : X.childAttrGuard = true) (cfg : Cfg)
      (I : Iface) (t : Ty) : (x : Node) →
      fromElementA F X A cfg (IfaceA.ofIface I) (TyA.ofTy t) x = fromElement F X cfg I t x
    | .elem ns name attrs text children => by
      rw [fromElementA, fromElement]
      simp only [occ_ofTy]
      split
      · rfl
      · generalize hA : (if cfg.parseXsiType = true then _ else some (TyA.ofTy t)) = rtA
        generalize hT : (if cfg.parseXsiType = true then _ else some t) = rt
        have hrt : rtA = rt.map TyA.ofTy := by
          subst hA hT
          cases cfg.parseXsiType with
          | false => rfl
          | true =>
            cases attrs.lookup xsiTypeKey with
            | none => rfl
            | some key => exact resolveXsiA_ofIface X I t key
        subst hrt
        cases rt with
        | none => rfl
        | some t' =>
          cases t' with
          | prim p o => simp [TyA.ofTy]
          | obj cname cns cb fields o =>
            simp only [Option.map, TyA.ofTy]
            rw [dataPass_nodata F A cfg text _ _ (noData_ofFields fields), initStateA_ofFields]
            simp only []
            rw [childLoopA_ofFields F X A hX cfg I fields children (initState fields)]
            cases childLoop F X cfg I fields children (initState fields) with
            | ok st => simp only [attrPass_ofFields, freqOkA_ofFields]
            | fault => rfl
            | crash e => rfl
          | arr m elem o =>
            simp only [Option.map, TyA.ofTy]
            rw [arrayLoopA_ofTy F X A hX cfg I elem children]
            cases arrayLoop F X cfg I elem children <;> rfl

  theorem childLoopA_ofFields (F : Facts08) (X : FactsXml) (A : FactsAttr) (hX : X.childAttrGuard = true) (cfg : Cfg)
      (I : Iface) (fields : List (Text × Ty)) : (cs : List Node) → (st : List (Text × Val)) →
      childLoopA F X A cfg (IfaceA.ofIface I) (TyA.ofFields fields) cs st = childLoop F X cfg I fields cs st
    | [], st => by simp [childLoopA, childLoop]
    | c :: cs, st => by
      rw [childLoopA.eq_def, childLoop]
      simp only [lookupA_ofFields]
      cases hl : lookupField fields c.name with
      | none => simp only [Option.map]; exact childLoopA_ofFields F X A hX cfg I fields cs st
      | some mt =>
        simp only [Option.map]
        rw [fromElementA_ofTy F X A hX cfg I mt c]
        cases fromElement F X cfg I mt c with
        | ok v =>
          simp only [childAttrLeak_ofFields, occ_ofTy]
          have : childAttrCrash X fields c.attrs = false := by simp [childAttrCrash, hX]
          simp only [this, Bool.false_eq_true, if_false]
          exact childLoopA_ofFields F X A hX cfg I fields cs _
        | fault => rfl
        | crash e => rfl

  theorem arrayLoopA_ofTy (F : Facts08) (X : FactsXml) (A : FactsAttr) (hX : X.childAttrGuard = true) (cfg : Cfg)
      (I : Iface) (elem : Ty) : (cs : List Node) →
      arrayLoopA F X A cfg (IfaceA.ofIface I) (TyA.ofTy elem) cs = arrayLoop F X cfg I elem cs
    | [] => by simp [arrayLoopA, arrayLoop]
    | c :: cs => by
      rw [arrayLoopA, arrayLoop, fromElementA_ofTy F X A hX cfg I elem c, arrayLoopA_ofTy F X A hX cfg I elem cs]
      cases fromElement F X cfg I elem c with
      | ok v => cases arrayLoop F X cfg I elem cs <;> rfl
      | fault => rfl
      | crash e => rfl
end

theorem decodeA_ofTy (F : Facts08) (X : FactsXml) (A : FactsAttr) (hX : X.childAttrGuard = true) (cfg : Cfg)
    (I : Iface) (t : Ty) (x : Node) :
    decodeA F X A cfg (IfaceA.ofIface I) (TyA.ofTy t) x = decode F X cfg I t x := by
  unfold decodeA decode
  exact fromElementA_ofTy F X A hX cfg I t x


theorem arrNsA_ofTy (tns ctx : Text) : (t : Ty) → arrNsA tns ctx (TyA.ofTy t) = arrNs tns ctx t
  | .prim p o => by simp [TyA.ofTy, arrNsA, arrNs]
  | .obj n ns b fs o => by simp [TyA.ofTy, arrNsA, arrNs]
  | .arr m e o => by simp only [TyA.ofTy, arrNsA, arrNs]; exact arrNsA_ofTy tns ctx e

theorem memberNsA_ofTy (tns ctx m : Text) (e : Ty) : memberNsA tns ctx m (TyA.ofTy e) = memberNs tns ctx m e := by
  unfold memberNsA memberNs
  rw [arrNsA_ofTy]
  rcases splitClark m with _ | ⟨ns, l⟩ <;> rfl

theorem attrPairsA_ofFields (F : Facts08) : (fs : List (Text × Ty)) → (vs : List (Text × Val)) →
    attrPairsA F (TyA.ofFields fs) vs = []
  | [], _ => by simp [TyA.ofFields, attrPairsA]
  | _ :: _, [] => by simp [TyA.ofFields, attrPairsA]
  | (k, t) :: fs, (k', v) :: vs => by
    simp only [TyA.ofFields, attrPairsA, attrPairsA_ofFields F fs vs]
    split <;> rfl

theorem toParentA_ofTy_leaf (F : Facts08) (cfg : Cfg) (I : Iface) (ns name : Text) (t : Ty) (v : Val)
    (hl : v.isLeaf = true) (hn : v ≠ .none) :
    toParentA F I.tns ns name (TyA.ofTy t) v = toParent F cfg I ns name t v := by
  rw [toParentA_leaf hl hn, toParent_leaf hl hn]
  cases t <;> rfl

mutual
  theorem toParentA_ofTy (F : Facts08) (cfg : Cfg) (hp : cfg.polymorphic = false) (I : Iface) (ns name : Text) (t : Ty) :
      (v : Val) → toParentA F I.tns ns name (TyA.ofTy t) v = toParent F cfg I ns name t v := by
    intro v
    cases v with
    | none => simp [toParentA, toParent]
    | obj cls vs =>
      cases t with
      | prim p o => simp [toParentA, toParent, TyA.ofTy]
      | arr m e o => simp [toParentA, toParent, TyA.ofTy]
      | obj cname cns cb fields o =>
        simp only [toParentA, toParent, TyA.ofTy, polyTarget_off hp]
        rw [membersA_attrs, membersA_children, membersA_text F I.tns cns _ vs _ (Or.inl (noData_ofFields fields)),
          dataTextA_nodata F _ vs _ (noData_ofFields fields),
          attrPairsA_ofFields, elemNodesA_ofFields F cfg hp I cns fields vs]
        rfl
    | list vs =>
      cases t with
      | prim p o => simp [toParentA, toParent, TyA.ofTy]
      | obj a b c d e => simp [toParentA, toParent, TyA.ofTy]
      | arr m e o =>
        simp only [toParentA, toParent, TyA.ofTy, memberNsA_ofTy]
        rw [itemsA_ofTy F cfg hp I _ _ e vs]
    | _ => exact toParentA_ofTy_leaf F cfg I ns name t _ rfl (by simp)

  theorem elemNodesA_ofFields (F : Facts08) (cfg : Cfg) (hp : cfg.polymorphic = false) (I : Iface) (cns : Text) :
      (fs : List (Text × Ty)) → (vs : List (Text × Val)) →
      elemNodesA F I.tns cns (TyA.ofFields fs) vs = membersToParent F cfg I cns fs vs
    | [], _ => by simp [TyA.ofFields, elemNodesA, membersToParent]
    | _ :: _, [] => by simp [TyA.ofFields, elemNodesA, membersToParent]
    | (k, t) :: fs, (k', v) :: vs => by
      by_cases hk : k = k'
      · subst hk
        rw [membersToParent_cons]
        simp only [TyA.ofFields, elemNodesA, if_true]
        rw [elemNodesA_ofFields F cfg hp I cns fs vs]
        congr 1
        simp only [memberNodesA, memberNodes, occ_ofTy]
        cases v with
        | none => rfl
        | list items =>
          simp only []
          split
          · exact itemsA_ofTy F cfg hp I cns k t items
          · cases t with
            | arr m e o =>
              simp only [TyA.ofTy, memberNsA_ofTy]
              rw [itemsA_ofTy F cfg hp I _ _ e items]
            | prim p o => simp [TyA.ofTy]
            | obj a b c d e => simp [TyA.ofTy]
        | _ => simp only []; rw [toParentA_ofTy F cfg hp I cns k t _]
      · rw [membersToParent_skip F cfg I cns t v fs vs hk]
        simp only [TyA.ofFields, elemNodesA, if_neg hk, List.nil_append]
        exact elemNodesA_ofFields F cfg hp I cns fs vs

  theorem itemsA_ofTy (F : Facts08) (cfg : Cfg) (hp : cfg.polymorphic = false) (I : Iface) (ns name : Text) (t : Ty) :
      (vs : List Val) → itemsA F I.tns ns name (TyA.ofTy t) vs = itemsToParent F cfg I ns name t vs
    | [] => by simp [itemsA, itemsToParent]
    | v :: vs => by
      simp only [itemsA, itemsToParent]
      rw [toParentA_ofTy F cfg hp I ns name t v, itemsA_ofTy F cfg hp I ns name t vs]
end

theorem encodeA_ofTy (F : Facts08) (cfg : Cfg) (hp : cfg.polymorphic = false) (I : Iface) (ns name : Text) (t : Ty)
    (v : Val) : encodeA F I.tns ns name (TyA.ofTy t) v = encode F cfg I ns name t v := by
  unfold encodeA encode
  exact toParentA_ofTy F cfg hp I ns name t v

end Xml
end SpyneModel
