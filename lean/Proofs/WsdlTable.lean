/-
  Lists of named entries, as the WSDL generator builds them. Messages, portTypes, bindings, services and the message
  elements are all made by two steps: *append an entry unless its name is taken* (`insertNew`) and *extend the entry
  called x* (`updNamed`). What such a list says, the order of its entries apart, is its list of names and its
  multiset of (name, item) pairs (`pairs`). Nothing here mentions the model.
-/
namespace SpyneModel.Wsdl

theorem foldl_preserves {α β : Type} (P : β → Prop) (f : β → α → β) (l : List α)
    (hf : ∀ a ∈ l, ∀ b, P b → P (f b a)) (b : β) (h : P b) : P (l.foldl f b) := by
  induction l generalizing b with
  | nil => exact h
  | cons a r ih => exact ih (fun a' ha' => hf a' (List.mem_cons_of_mem _ ha')) _ (hf a List.mem_cons_self b h)

theorem nodup_append_single {α : Type} (l : List α) (x : α) (h : l.Nodup) (hx : x ∉ l) : (l ++ [x]).Nodup := by
  rw [List.nodup_append]
  refine ⟨h, by simp, ?_⟩
  intro a ha b hb
  simp only [List.mem_singleton] at hb
  subst hb
  intro hab; subst hab; exact hx ha

section insertNew
variable {α : Type} (key : α → String)

/-- append `a` unless an entry with its key is there already: `_add_message_for_object`, `_get_or_create_port_type`,
    `_get_or_create_service_node`, and the loop body of `add_missing_elements_for_methods` -/
def insertNew (a : α) (l : List α) : List α := if (l.map key).contains (key a) then l else l ++ [a]

theorem mem_insertNew {a b : α} {l : List α} (h : b ∈ insertNew key a l) : b ∈ l ∨ b = a := by
  unfold insertNew at h
  split at h
  · exact Or.inl h
  · simpa using h

theorem subset_insertNew (a : α) {b : α} {l : List α} (h : b ∈ l) : b ∈ insertNew key a l := by
  unfold insertNew
  split
  · exact h
  · exact List.mem_append_left _ h

theorem keys_insertNew (a : α) (l : List α) (x : String) :
    x ∈ (insertNew key a l).map key ↔ x ∈ l.map key ∨ x = key a := by
  unfold insertNew
  split
  · rename_i h
    exact ⟨Or.inl, fun h' => h'.elim id fun e => e ▸ by simpa using h⟩
  · simp

theorem nodup_insertNew (a : α) {l : List α} (h : (l.map key).Nodup) : ((insertNew key a l).map key).Nodup := by
  unfold insertNew
  split
  · exact h
  · rename_i hc
    rw [List.map_append]
    exact nodup_append_single _ _ h (by simpa using hc)

/-- what a fold of `insertNew` leaves: distinct keys stay distinct, every entry is an old one or one of those
    offered, old entries stay, and every offered key is there -/
theorem foldl_insertNew {γ : Type} (f : γ → α) (cs : List γ) (l : List α) :
    ((l.map key).Nodup → ((cs.foldl (fun l c => insertNew key (f c) l) l).map key).Nodup) ∧
    (∀ a ∈ cs.foldl (fun l c => insertNew key (f c) l) l, a ∈ l ∨ ∃ c ∈ cs, a = f c) ∧
    (∀ a ∈ l, a ∈ cs.foldl (fun l c => insertNew key (f c) l) l) ∧
    (∀ x, x ∈ (cs.foldl (fun l c => insertNew key (f c) l) l).map key ↔ x ∈ l.map key ∨ ∃ c ∈ cs, x = key (f c)) := by
  induction cs generalizing l with
  | nil => exact ⟨id, fun a h => Or.inl h, fun a h => h, fun x => by simp⟩
  | cons c cs ih =>
    obtain ⟨n, fr, mono, keys⟩ := ih (insertNew key (f c) l)
    refine ⟨fun hl => n (nodup_insertNew key _ hl), fun a ha => ?_, fun a ha => mono a (subset_insertNew key _ ha),
      fun x => ?_⟩
    · rcases fr a ha with h | ⟨c', hc', r⟩
      · exact (mem_insertNew key h).imp id fun e => ⟨c, List.mem_cons_self, e⟩
      · exact Or.inr ⟨c', List.mem_cons_of_mem _ hc', r⟩
    · rw [List.foldl_cons, keys, keys_insertNew, or_assoc]
      simp only [List.mem_cons, exists_eq_or_imp]

end insertNew

section named
variable {α β : Type} {name : α → String} {items : α → List β}

/-- apply `f` to the first entry called `x`: `appendOp`, `appendBOps` and `addPorts` -/
def updNamed (name : α → String) (x : String) (f : α → α) : List α → List α
  | [] => []
  | a :: r => if name a = x then f a :: r else a :: updNamed name x f r

theorem map_updNamed {γ : Type} (g : α → γ) (x : String) (f : α → α) (hg : ∀ a, g (f a) = g a) (l : List α) :
    (updNamed name x f l).map g = l.map g := by
  induction l with
  | nil => rfl
  | cons a r ih =>
    simp only [updNamed]
    split
    · simp only [List.map_cons, hg]
    · simp only [List.map_cons, ih]

/-- a property of every entry that the update establishes (`R'` may be weaker than `R`) -/
theorem forall_updNamed (R R' : α → Prop) (x : String) (f : α → α) (l : List α) (hkeep : ∀ a, R a → R' a)
    (hf : ∀ a, name a = x → R a → R' (f a)) (h : ∀ a ∈ l, R a) : ∀ b ∈ updNamed name x f l, R' b := by
  induction l with
  | nil => intro b hb; cases hb
  | cons a r ih =>
    have hr := ih (fun b hb => h b (List.mem_cons_of_mem _ hb))
    have ha := h a List.mem_cons_self
    simp only [updNamed]
    split
    · rename_i hx
      intro b hb
      rcases List.mem_cons.mp hb with rfl | hb
      · exact hf a hx ha
      · exact hkeep b (h b (List.mem_cons_of_mem _ hb))
    · intro b hb
      rcases List.mem_cons.mp hb with rfl | hb
      · exact hkeep _ ha
      · exact hr b hb

variable (name items)

def pairs (l : List α) : List (String × β) := l.flatMap fun a => (items a).map fun b => (name a, b)

theorem pairs_append (l l' : List α) : pairs name items (l ++ l') = pairs name items l ++ pairs name items l' :=
  List.flatMap_append

theorem mem_pairs {l : List α} {x : String} {b : β} :
    (x, b) ∈ pairs name items l ↔ ∃ a ∈ l, name a = x ∧ b ∈ items a := by
  simp only [pairs, List.mem_flatMap, List.mem_map, Prod.mk.injEq]
  constructor
  · rintro ⟨a, ha, b', hb', hn, rfl⟩
    exact ⟨a, ha, hn, hb'⟩
  · rintro ⟨a, ha, hn, hb⟩
    exact ⟨a, ha, b, hb, hn, rfl⟩

theorem count_items (q : β → Bool) (l : List α) :
    ((l.flatMap items).filter q).length = ((pairs name items l).filter fun p => q p.2).length := by
  induction l with
  | nil => rfl
  | cons a r ih =>
    simp only [pairs, List.flatMap_cons, List.filter_append, List.length_append, List.filter_map, List.length_map] at ih ⊢
    rw [ih]
    rfl

theorem pairs_insertNew (a : α) (ha : items a = []) (l : List α) :
    pairs name items (insertNew name a l) = pairs name items l := by
  unfold insertNew
  split
  · rfl
  · simp [pairs, ha]

/-- extending the items of the entry called `x`, which exists, adds the pairs `(x, y)` -/
theorem pairs_updNamed (x : String) (f : α → α) (ys : List β) (hn : ∀ a, name (f a) = name a)
    (hi : ∀ a, items (f a) = items a ++ ys) (l : List α) (hx : x ∈ l.map name) :
    (pairs name items (updNamed name x f l)).Perm (pairs name items l ++ ys.map fun b => (x, b)) := by
  induction l with
  | nil => cases hx
  | cons a r ih =>
    simp only [updNamed]
    split
    · rename_i h
      simp only [pairs, List.flatMap_cons, hn, hi, List.map_append, h, List.append_assoc]
      exact List.Perm.append_left _ List.perm_append_comm
    · rename_i h
      rcases List.mem_cons.mp hx with hx | hx
      · exact absurd hx.symm h
      · simp only [pairs, List.flatMap_cons, List.append_assoc] at ih ⊢
        exact List.Perm.append_left _ (ih hx)

end named

/-- splitting a list by a key that ranges over `ps` loses and duplicates nothing -/
theorem partition_perm {α : Type} (key : α → Option String) (ps : List String) (hn : ps.Nodup) (ms : List α)
    (hk : ∀ m ∈ ms, ∃ p ∈ ps, key m = some p) : (ps.flatMap fun p => ms.filter fun m => key m = some p).Perm ms := by
  induction ps generalizing ms with
  | nil =>
    cases ms with
    | nil => exact List.Perm.refl _
    | cons m ms => obtain ⟨p, hp, _⟩ := hk m List.mem_cons_self; cases hp
  | cons p ps ih =>
    simp only [List.nodup_cons] at hn
    rw [List.flatMap_cons]
    refine List.Perm.trans (List.Perm.append_left _ ?_) (List.filter_append_perm (fun m => key m = some p) ms)
    have e : ∀ p' ∈ ps, (ms.filter fun m => key m = some p') =
        (ms.filter fun m => !decide (key m = some p)).filter fun m => key m = some p' := by
      intro p' hp'
      rw [List.filter_filter]
      refine List.filter_congr fun m _ => ?_
      by_cases h : key m = some p'
      · simp [h, show p' ≠ p from fun h2 => hn.1 (h2 ▸ hp')]
      · simp [h]
    rw [List.flatMap_def, List.map_congr_left e, ← List.flatMap_def]
    refine ih hn.2 _ fun m hm => ?_
    simp only [List.mem_filter] at hm
    obtain ⟨p', hp', hmp⟩ := hk m hm.1
    rcases List.mem_cons.mp hp' with rfl | hp'
    · simp [hmp] at hm
    · exact ⟨p', hp', hmp⟩

end SpyneModel.Wsdl
