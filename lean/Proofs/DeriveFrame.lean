/-
  C15 proofs: every model program walked once in `Run` (Proofs/DeriveLogic). A walk carries the frame and the variants
  discipline, and its post-condition says what the properties need of the program: that the class returned is new,
  how the record and the class that `customize` allocates are born (`Born`), what a class statement leaves behind.
  The mutually recursive programs are walked together, by induction on the fuel.
-/
import Proofs.DeriveLogic
namespace SpyneModel.Derive
variable (F : Facts15)

variable {n na : Nat} {T : List Nat} {h : Heap}

/-- post-condition of programs that return a class: it is not in the base region -/
abbrev FreshQ (n : Nat) : Nat → Heap → Prop := fun id _ => n ≤ id

theorem aliasColWrite_deep [d : DeepCopy F] (a : Nat) (kw : Kw) (h : Heap) :
    aliasColWrite F a kw h = .ok h () := by
  unfold aliasColWrite
  simp only [Bind.bind, M.bind, Derive.getHeap, d.deep, beq_self_eq_true, if_true]
  cases colH h a <;> rfl

theorem ext_registerVariant (h : Heap) (ra v : Nat) : Ext n na T h (registerVariant h ra v) := by
  unfold registerVariant
  split <;> exact ext_updCells _ _ _

/-- the heap after `type(cls_name, cls_bases, cls_dict)`: the fresh record and class, `_delayed_child_attrs` copied -/
def variantHeap (rec0 : AttrRec) (cl : Cls) (h : Heap) : Heap :=
  (copyDca h.attrs.length { h with cls := h.cls ++ [cl], attrs := h.attrs ++ [rec0] }).heap

/-- ... and `_process_variants` on it -/
theorem newVariantTail_run (rec0 : AttrRec) (sc : Cls) (src : Nat) (ext : Option Nat) (kw : Kw) (h : Heap) :
    newVariantTail rec0 sc src ext kw h
      = match (variantHeap rec0 (variantCls sc src h.attrs.length ext kw) h).cls[sc.orig.getD src]? with
        | some rc => .ok ((registerVariant (variantHeap rec0 (variantCls sc src h.attrs.length ext kw) h) rc.attrs
            h.cls.length).updCells h.attrs.length (fun r => { r with variants := some none }))
            (h.attrs.length, h.cls.length)
        | none => .err (variantHeap rec0 (variantCls sc src h.attrs.length ext kw) h) "KeyError" := by
  cases hroot : (variantHeap rec0 (variantCls sc src h.attrs.length ext kw) h).cls[sc.orig.getD src]? <;>
    simp only [newVariantTail, processVariants, Bind.bind, M.bind, Derive.allocAttrs, Derive.allocCls, copyDca,
      Derive.getHeap, Derive.updCells, Derive.getCls, Derive.modifyHeap, Res.heap, variantHeap] at hroot ⊢ <;>
    simp only [hroot] <;> rfl

theorem variantHeap_eq (rec0 : AttrRec) (cl : Cls) (h : Heap) :
    variantHeap rec0 cl h = ({ h with cls := h.cls ++ [cl], attrs := h.attrs ++ [rec0] } : Heap).updCells h.attrs.length
      (fun r => { r with dca := some (match dcaH { h with cls := h.cls ++ [cl], attrs := h.attrs ++ [rec0] } h.attrs.length with
        | some (_, d) => d
        | none => []) }) := rfl

theorem variantHeap_cls (rec0 : AttrRec) (cl : Cls) (h : Heap) : (variantHeap rec0 cl h).cls = h.cls ++ [cl] := by
  rw [variantHeap_eq, (Heap.updCells_rest _ _ _).1]

theorem ext_variantHeap (rec0 : AttrRec) (cl : Cls) (h : Heap) :
    Ext h.cls.length h.attrs.length T h (variantHeap rec0 cl h) :=
  (ext_append h [cl] [rec0]).trans (ext_updCells _ _ _)

theorem viewOf_variantHeap (rec0 : AttrRec) (cl : Cls) (h : Heap) :
    viewOf (variantHeap rec0 cl h)
      = { cls := upd (viewOf h).cls h.cls.length (some (cl.kind.isComplex, cl.attrs, cl.orig)),
          var := upd (viewOf h).var h.attrs.length (some rec0.variants) } := by
  rw [variantHeap_eq, viewOf_updCells_keep, viewOf_append]
  exact fun _ => rfl

/-- with the discipline, the original of a class of the family exists, is of the family, is itself no variant, and
    its record has an own `_variants` entry -/
theorem inv_original (h : Heap) (ih : Inv h) (src : Nat) (sc : Cls) (hsrc : h.cls[src]? = some sc)
    (hk : sc.kind.isComplex = true) :
    ∃ rc x, h.cls[sc.orig.getD src]? = some rc ∧ (viewOf h).cls (sc.orig.getD src) = some (true, rc.attrs, none)
      ∧ (viewOf h).var rc.attrs = some (some x) := by
  have hvsrc := view_cls_of h src sc hsrc
  rw [hk] at hvsrc
  obtain ⟨ar, har⟩ : ∃ ar, (viewOf h).cls (sc.orig.getD src) = some (true, ar, none) := by
    cases ho : sc.orig with
    | none => exact ⟨sc.attrs, by simpa [ho] using hvsrc⟩
    | some r => exact (ih.variant src sc.attrs r (by simpa [ho] using hvsrc)).2
  obtain ⟨rc, hrc, hkr, rfl, _⟩ := cls_of_view h _ true ar none har
  obtain ⟨x, hx, _⟩ := inv_variantsOf h ih _ rc hrc hkr
  exact ⟨rc, x, hrc, har, hx⟩

theorem updFields_ok (g : Cls → List (String × Nat)) :
    ∀ cl : Cls, ({ cl with fields := g cl } : Cls).kind = cl.kind ∧ ({ cl with fields := g cl } : Cls).attrs = cl.attrs
      ∧ ({ cl with fields := g cl } : Cls).orig = cl.orig := fun _ => ⟨rfl, rfl, rfl⟩

theorem simpleNewCls_same (hh : Heap) (sc : Cls) (src a : Nat) (kw : Kw) :
    (simpleNewCls F hh sc src a kw).attrs = a ∧ (simpleNewCls F hh sc src a kw).kind = sc.kind
      ∧ (simpleNewCls F hh sc src a kw).lo = sc.lo ∧ (simpleNewCls F hh sc src a kw).hi = sc.hi := by
  unfold simpleNewCls
  split <;> exact ⟨rfl, rfl, rfl, rfl⟩

theorem not_complex_of_guard {k : Kind} {s : String} (he : (if k.isComplex then some s else none) = none) :
    k.isComplex = false := by
  cases hc : k.isComplex with
  | true => simp [hc] at he
  | false => rfl

/-- record `a` has the public part of `r`, and class `id` sits on it with family and original as in `ko`: how
    `customize` leaves the record and the class it allocates, and all that later steps can rely on -/
def Born (a : Nat) (r : AttrRec) (id : Nat) (ko : Kind × Nat × Option Nat) (g : Heap) : Prop :=
  (g.attrs[a]?).map AttrRec.pub = some r.pub ∧ (g.cls[id]?).map Cls.core = some ko

/-- ... kept by whatever respects a frame taken in the heap where it holds -/
theorem Born.ext {a id : Nat} {r : AttrRec} {ko : Kind × Nat × Option Nat} {g g2 : Heap} {T' : List Nat}
    (b : Born a r id ko g) (e : Ext g.cls.length g.attrs.length T' g g2) : Born a r id ko g2 := by
  have ha : a < g.attrs.length := by
    cases hr : g.attrs[a]? with
    | none => simp [Born, hr] at b
    | some _ => exact lt_of_getElem? hr
  have hid : id < g.cls.length := by
    cases hr : g.cls[id]? with
    | none => simp [Born, hr] at b
    | some _ => exact lt_of_getElem? hr
  exact ⟨(e.attrs a ha).trans b.1, (e.core id hid).trans b.2⟩

theorem run_aliasColWrite [DeepCopy F] (a : Nat) (kw : Kw) :
    Run n na T (aliasColWrite F a kw) h (fun _ h1 => h1 = h) :=
  (Run.step (aliasColWrite_deep F a kw h) (fun _ _ => Ext.refl _ _ _ _) id).mono (fun _ _ e => e.1)

theorem run_protMerge [d : DeepCopy F] (prot : Option Nat) (kw : Kw) :
    Run n na T (protMerge F prot kw) h (fun _ h1 => h1 = h) := by
  unfold protMerge
  split
  · exact Run.pure _ rfl
  · refine Run.getHeap_bind ?_
    split
    · exact Run.fail _
    · split
      · exact Run.pure _ rfl
      · have hb : (F.protCopy == ProtCopy.shared) = false := by rw [d.protCopied]; rfl
        rw [hb]
        refine Run.bind (Q1 := fun _ h1 => h1 = h) (Run.pure _ rfl) ?_
        rintro _ _ rfl - -
        exact Run.pure _ rfl

theorem run_allocDerived [DeepCopy F] (a : Nat) (kw : Kw) :
    Run n na T (allocDerived F a kw) h
      (fun x h1 => h1 = { h with attrs := h.attrs ++ [newAttrRec F h a kw] } ∧ x = h.attrs.length) := by
  unfold allocDerived
  refine Run.getHeap_bind ?_
  refine Run.bind (run_aliasColWrite F a kw) ?_
  rintro _ _ rfl - -
  exact Run.allocAttrs _

theorem born_variantHeap (rec0 : AttrRec) (cl : Cls) (h : Heap) :
    Born h.attrs.length rec0 h.cls.length cl.core (variantHeap rec0 cl h) := by
  refine ⟨?_, by rw [variantHeap_cls]; simp⟩
  rw [variantHeap_eq, Heap.updCells_attrs]
  simp [AttrRec.pub]

/-- `type(cls_name, cls_bases, cls_dict)` and `_process_variants`: between the two the discipline does not hold, so
    the four steps are taken as one -/
theorem run_newVariantTail (rec0 : AttrRec) (hrec0 : rec0.variants = none) (sc : Cls) (src : Nat) (ext : Option Nat)
    (kw : Kw) (hk : sc.kind.isComplex = true) (hsrc : h.cls[src]? = some sc) :
    Run n na T (newVariantTail rec0 sc src ext kw) h (fun p hv => p = (h.attrs.length, h.cls.length)
      ∧ Born h.attrs.length rec0 h.cls.length (sc.kind, h.attrs.length, some (sc.orig.getD src)) hv) := by
  intro h1 h2
  rw [newVariantTail_run]
  have e3 := ext_variantHeap (T := T) rec0 (variantCls sc src h.attrs.length ext kw) h
  have b3 := born_variantHeap rec0 (variantCls sc src h.attrs.length ext kw) h
  have hcls := variantHeap_cls rec0 (variantCls sc src h.attrs.length ext kw) h
  have v3 := viewOf_variantHeap rec0 (variantCls sc src h.attrs.length ext kw) h
  simp only [hrec0, show (variantCls sc src h.attrs.length ext kw).kind.isComplex = true from hk] at v3
  generalize variantHeap rec0 (variantCls sc src h.attrs.length ext kw) h = vh at *
  -- with the discipline the original is there, and `vh` has the classes of `h` where `h` has them
  have horig : Inv h → ∃ rc x, vh.cls[sc.orig.getD src]? = some rc
      ∧ (viewOf h).cls (sc.orig.getD src) = some (true, rc.attrs, none) ∧ (viewOf h).var rc.attrs = some (some x) :=
    fun ih => by
      obtain ⟨rc, x, hrc, har, hx⟩ := inv_original h ih src sc hsrc hk
      exact ⟨rc, x, by rw [hcls, List.getElem?_append_left (lt_of_getElem? hrc), hrc], har, hx⟩
  cases hroot : vh.cls[sc.orig.getD src]? with
  | none =>
    refine ⟨e3.mono h1 h2, fun ih => ?_, nofun⟩
    obtain ⟨_, _, hrc, _⟩ := horig ih
    rw [hroot] at hrc
    cases hrc
  | some rc =>
    -- registering the variant and resetting its own `_variants` write cells only
    have e4 : ∀ T', Ext vh.cls.length vh.attrs.length T' vh ((registerVariant vh rc.attrs h.cls.length).updCells
        h.attrs.length (fun r => { r with variants := some none })) :=
      fun _ => (ext_registerVariant _ _ _).trans (ext_updCells _ _ _)
    refine ⟨(e3.trans ((e4 T).mono e3.clsLen e3.attrsLen)).mono h1 h2, fun ih => ?_,
      fun _ _ e => by cases e; exact ⟨rfl, b3.ext (e4 [])⟩⟩
    obtain ⟨_, x, hrc, har, hx⟩ := horig ih
    rw [hroot] at hrc
    cases hrc
    have hne : h.attrs.length ≠ rc.attrs := fun e => by simp [← e, viewOf] at hx
    have v4 := viewOf_registerVariant vh rc.attrs h.cls.length x
      (by rw [v3]; simp only [upd, if_neg (Ne.symm hne)]; exact hx)
    have v5 := viewOf_updCells_const (registerVariant vh rc.attrs h.cls.length) h.attrs.length
      (fun r => { r with variants := some none }) none (by rw [v4, v3]; simp [upd, hne]) (fun _ => rfl)
    simp only [Res.heap]
    rw [Inv, v5, v4, v3]
    exact ih.addVariant _ _ (sc.orig.getD src) rc.attrs (viewOf_cls_fresh h) (viewOf_var_fresh h) har x hx

theorem run_newVariant [DeepCopy F] (sc : Cls) (src : Nat) (ext : Option Nat) (kw : Kw)
    (hk : sc.kind.isComplex = true) (hsrc : h.cls[src]? = some sc) :
    Run n na T (newVariant F sc src ext kw) h (fun p hv => p = (h.attrs.length, h.cls.length)
      ∧ Born h.attrs.length (newAttrRec F h sc.attrs kw) h.cls.length
          (sc.kind, h.attrs.length, some (sc.orig.getD src)) hv) := by
  unfold newVariant
  refine Run.getHeap_bind ?_
  refine Run.bind (run_aliasColWrite F sc.attrs kw) ?_
  rintro _ _ rfl - -
  exact run_newVariantTail _ rfl sc src ext kw hk hsrc

/-- the keywords `SimpleModel.customize` goes through: a number adjusts `max_str_len` first -/
abbrev custKw (h : Heap) (sc : Cls) (kw : Kw) : Kw := if sc.kind == .number then numberKw F h sc.attrs kw else kw

/-- `SimpleModel.customize` leaves one more record and one more class on it -/
theorem run_simpleCustomize [DeepCopy F] (src : Nat) (kw : Kw) :
    Run n na T (simpleCustomize F src kw) h (fun id h' => ∃ sc cl, h.cls[src]? = some sc ∧ cl.attrs = h.attrs.length
      ∧ cl.kind = sc.kind ∧ cl.lo = sc.lo ∧ cl.hi = sc.hi ∧ id = h.cls.length
      ∧ h' = { h with cls := h.cls ++ [cl], attrs := h.attrs ++ [newAttrRec F h sc.attrs (custKw F h sc kw)] }) := by
  unfold simpleCustomize
  refine Run.getCls_bind _ fun sc hsc => Run.guardNone_bind _ fun he => ?_
  refine Run.getHeap_bind ?_
  refine Run.guardNone_bind _ fun _ => ?_
  refine Run.bind (run_allocDerived F _ _) ?_
  rintro a _ ⟨rfl, rfl⟩ - -
  refine Run.getHeap_bind ?_
  refine Run.mono (Run.allocCls_simple _ ?_ (fun _ => ?_)) fun id _ q => ⟨sc, _, hsc, (simpleNewCls_same ..).1,
    (simpleNewCls_same ..).2.1, (simpleNewCls_same ..).2.2.1, (simpleNewCls_same ..).2.2.2, q.2, q.1⟩
  · rw [(simpleNewCls_same ..).2.1]; exact not_complex_of_guard he
  · rw [(simpleNewCls_same ..).1]; simp [viewOf]

theorem run_xmlCustomize [DeepCopy F] (src : Nat) (kw : Kw) : Run n na T (xmlCustomize F src kw) h (FreshQ n) := by
  unfold xmlCustomize
  refine Run.sized fun hn => Run.getCls_bind _ fun sc _ => Run.guardNone_bind _ fun he => ?_
  refine Run.bind (run_allocDerived F _ _) ?_
  rintro a _ ⟨rfl, rfl⟩ - -
  exact Run.mono (Run.allocCls_simple _ (not_complex_of_guard he) (fun _ => by simp [viewOf])) fun _ _ q => by
    rw [q.2]; exact hn

theorem run_copyDca (a : Nat) : Run n na T (copyDca a) h TrQ := by
  unfold copyDca
  refine Run.getHeap_bind ?_
  exact Run.tr (Run.updCells _ _ (fun _ => rfl))

theorem keeps_copyDca (a : Nat) : Keeps Tr (copyDca a) TrQ := Run.keeps (fun _ _ => run_copyDca a)

theorem run_delayRest (c a : Nat) (rest : List (String × Kw)) : Run n na T (delayRest c a rest) h TrQ := by
  unfold delayRest
  refine Run.getHeap_bind ?_
  exact Run.tr (Run.updCells _ _ (fun _ => rfl))

/-- registering with the class extended writes that class's `_subclasses` only -/
theorem run_regSub (ext : Option Nat) (c : Nat) (hT : ∀ e, ext = some e → n ≤ e ∨ e ∈ T) :
    Run n na T (regSub ext c) h (fun _ g => ∀ (x : Nat) (cl : Cls), h.cls[x]? = some cl →
      ∃ cl' : Cls, g.cls[x]? = some cl' ∧ cl'.fields = cl.fields ∧ cl'.orig = cl.orig ∧ cl'.tn = cl.tn ∧ cl'.kind = cl.kind) := by
  cases ext with
  | some e =>
    refine Run.mono (Run.updCls _ _ (hT e rfl)) fun _ _ q x cl hx => ?_
    rw [q, Heap.updCls_cls, hx]
    split <;> exact ⟨_, rfl, rfl, rfl, rfl, rfl⟩
  | none => exact Run.pure _ fun x cl hx => ⟨cl, hx, rfl, rfl, rfl, rfl⟩

theorem run_regSubVariant [d : DeepCopy F] (ext : Option Nat) (c : Nat) :
    Run n na T (regSubVariant F ext c) h (fun _ h1 => h1 = h) := by
  unfold regSubVariant
  have hb : (F.subsRule == SubsRule.alsoVariants) = false := by rw [d.subsClasses]; rfl
  rw [hb]
  exact Run.pure _ rfl

/-- post-condition of `ComplexModelBase.customize`: the class returned is the next one, born on the next record with
    the public part the keyword loop wrote -/
abbrev CustQ (n : Nat) (h : Heap) (src : Nat) (kw : Kw) : Nat → Heap → Prop := fun id h' =>
  n ≤ id ∧ ∃ sc, h.cls[src]? = some sc ∧ id = h.cls.length
    ∧ Born h.attrs.length (newAttrRec F h sc.attrs kw) id (sc.kind, h.attrs.length, some (sc.orig.getD src)) h'

/-- the mutually recursive customisation programs, all at once, by induction on the fuel; a program that writes
    an existing class `c` may do so when `c` is outside the base region or in `T` -/
structure RunCust (F : Facts15) (n na : Nat) (T : List Nat) (fuel : Nat) : Prop where
  custComplex : ∀ h src kw ca caa, Run n na T (custComplex F fuel src kw ca caa) h (CustQ F n h src kw)
  processCaa : ∀ h c a fields ext caa, (n ≤ c ∨ c ∈ T) → Run n na T (processCaa F fuel c a fields ext caa) h TrQ
  processCa : ∀ h c a ca, (n ≤ c ∨ c ∈ T) → Run n na T (processCa F fuel c a ca) h TrQ
  custExt : ∀ h c ext ca caa, (n ≤ c ∨ c ∈ T) → Run n na T (custExt F fuel c ext ca caa) h TrQ
  customizeAny : ∀ h src kw, Run n na T (customizeAny F fuel src kw) h (FreshQ n)
  custField : ∀ h c k kw, (n ≤ c ∨ c ∈ T) → Run n na T (custField F fuel c k kw) h TrQ
  custFieldsAll : ∀ h c fields d, (n ≤ c ∨ c ∈ T) → Run n na T (custFieldsAll F fuel c fields d) h TrQ
  custFieldsSome : ∀ h c cs, (n ≤ c ∨ c ∈ T) → Run n na T (custFieldsSome F fuel c cs) h TrQ

theorem runCust [DeepCopy F] (fuel : Nat) : ∀ n na T, RunCust F n na T fuel := by
  induction fuel with
  | zero =>
    intro n na T
    constructor <;> intros <;> simp only [custComplex, processCaa, processCa, custExt, customizeAny, custField,
      custFieldsAll, custFieldsSome] <;> exact Run.fail _
  | succ fuel ih =>
    intro n na T
    constructor
    · intro h src kw ca caa
      simp only [custComplex]
      refine Run.sized fun hn => Run.getCls_bind _ fun sc hsc => Run.guardNone_bind _ fun he => ?_
      have hk : sc.kind.isComplex = true := by cases hc : sc.kind.isComplex <;> simp_all
      refine Run.getHeap_bind ?_
      refine Run.liftExcept_bind _ fun ext _ => ?_
      refine Run.bind (run_newVariant F sc src ext kw hk hsc) ?_
      rintro _ hv ⟨rfl, b0⟩ - -
      refine Run.bind (run_regSubVariant F ext _) ?_
      rintro _ _ rfl - -
      -- the child-attribute steps, taken also with the new class as the only class they may write: that frame
      -- keeps the record and the class as they were born
      refine Run.bind (((ih n na T).processCaa _ _ _ sc.fields ext caa (Or.inl hn)).also
        ((ih _ _ [h.cls.length]).processCaa _ _ _ sc.fields ext caa (Or.inr List.mem_cons_self))) ?_
      rintro _ g2 ⟨-, -, e2, -⟩ - -
      refine Run.bind (((ih n na T).processCa _ _ _ ca (Or.inl hn)).also
        ((ih _ _ [h.cls.length]).processCa _ _ _ ca (Or.inr List.mem_cons_self))) ?_
      rintro _ g3 ⟨-, -, e3, -⟩ - -
      exact Run.pure _ ⟨hn, sc, hsc, rfl, (b0.ext e2).ext e3⟩
    · intro h c a fields ext caa hc
      unfold processCaa
      split
      · exact Run.pure _ trivial
      · refine Run.seq ((ih n na T).custFieldsAll _ _ _ _ hc) fun _ _ => ?_
        refine Run.seq ((ih n na T).custExt _ _ _ _ _ hc) fun _ _ => ?_
        exact Run.tr (Run.updCells _ _ (fun _ => rfl))
    · intro h c a ca hc
      unfold processCa
      split
      · exact Run.pure _ trivial
      · refine Run.seq ((ih n na T).custFieldsSome _ _ _ hc) fun rest _ => ?_
        refine Run.getCls_bind _ fun cn _ => ?_
        refine Run.seq ((ih n na T).custExt _ _ _ _ _ hc) fun _ _ => ?_
        exact run_delayRest _ _ _
    · intro h c ext ca caa hc
      unfold custExt
      split
      · exact Run.pure _ trivial
      · exact Run.seq ((ih n na T).custComplex _ _ _ _ _) fun e' _ => Run.tr (Run.updCls _ _ hc)
    · intro h src kw
      simp only [customizeAny]
      refine Run.sized fun hn => Run.getCls_bind _ fun sc _ => ?_
      split
      · exact ((ih n na T).custComplex _ _ _ _ _).mono fun _ _ q => q.1
      · exact ((ih n na T).custComplex _ _ _ _ _).mono fun _ _ q => q.1
      · exact ((ih n na T).custComplex _ _ _ _ _).mono fun _ _ q => q.1
      · exact run_xmlCustomize _ _ _
      · exact (run_simpleCustomize F _ _).mono fun _ _ ⟨_, _, _, _, _, _, _, e, _⟩ => by rw [e]; exact hn
    · intro h c k kw hc
      simp only [custField]
      refine Run.getCls_bind _ fun cn _ => ?_
      split
      · exact Run.seq ((ih n na T).customizeAny _ _ _) fun t' _ => Run.tr (Run.updCls _ _ hc)
      · exact Run.pure _ trivial
    · intro h c fields d hc
      unfold custFieldsAll
      split
      · exact Run.pure _ trivial
      · exact Run.seq ((ih n na T).custField _ _ _ _ hc) fun _ _ => (ih n na T).custFieldsAll _ _ _ _ hc
    · intro h c cs hc
      unfold custFieldsSome
      split
      · exact Run.pure _ trivial
      · refine Run.getCls_bind _ fun cn _ => ?_
        split
        · exact Run.seq ((ih n na T).custField _ _ _ _ hc) fun _ _ => (ih n na T).custFieldsSome _ _ _ hc
        · exact Run.seq ((ih n na T).custFieldsSome _ _ _ hc) fun r _ => Run.pure _ trivial

theorem run_customizeAny [DeepCopy F] (fuel src : Nat) (kw : Kw) :
    Run n na T (customizeAny F fuel src kw) h (FreshQ n) := (runCust F fuel n na T).customizeAny h src kw

theorem run_custComplex [DeepCopy F] (fuel src : Nat) (kw : Kw) (ca : Option (List (String × Kw)))
    (caa : Option Kw) : Run n na T (custComplex F fuel src kw ca caa) h (CustQ F n h src kw) :=
  (runCust F fuel n na T).custComplex h src kw ca caa

theorem run_setSerializer [DeepCopy F] (fuel r ser : Nat) (member : Option String) (hr : n ≤ r ∨ r ∈ T) :
    Run n na T (setSerializer F fuel r ser member) h TrQ := by
  unfold setSerializer
  refine Run.getCls_bind _ fun sc _ => ?_
  refine Run.getHeap_bind ?_
  refine Run.seq (Q1 := TrQ) ?_ fun ser' _ => Run.tr (Run.updCls _ _ hr)
  unfold unboundedSer
  split
  · exact (run_customizeAny _ _ _ _).tr
  · exact Run.pure _ trivial

theorem run_arrayOp [DeepCopy F] (fuel src : Nat) (member : Option String) (kw : Kw) (flat iter : Bool) :
    Run n na T (arrayOp F fuel src member kw flat iter) h (FreshQ n) := by
  unfold arrayOp
  refine Run.getCls_bind _ fun sc _ => ?_
  refine Run.getHeap_bind ?_
  split
  · exact run_customizeAny _ _ _ _
  · refine Run.bind (run_custComplex _ _ _ _ _ _) fun r _ hr _ _ => ?_
    refine Run.seq (run_setSerializer _ _ _ _ _ (Or.inl hr.1)) fun _ _ => ?_
    exact Run.seq (Run.updCls _ _ (Or.inl hr.1)) fun _ _ => Run.pure _ hr.1

theorem run_arraySA [DeepCopy F] (fuel src : Nat) (sa kw : Kw) (ca : Option (List (String × Kw)))
    (caa : Option Kw) : Run n na T (arraySA F fuel src sa kw ca caa) h (FreshQ n) := by
  unfold arraySA
  refine Run.getCls_bind _ fun sc _ => ?_
  split
  · refine Run.seq (run_customizeAny _ _ _ _) fun m' _ => ?_
    refine Run.bind (run_custComplex _ _ _ _ _ _) fun r1 _ hr _ _ => ?_
    refine Run.seq (run_setSerializer _ _ _ _ _ (Or.inl hr.1)) fun _ _ => ?_
    exact (run_custComplex _ _ _ _ _ _).mono fun _ _ q => q.1
  · exact Run.fail _

/-- Mandatory, with the rule that gives the *new* class the mandatory member -/
structure RunMand (F : Facts15) (n na : Nat) (T : List Nat) (fuel : Nat) : Prop where
  mandatory : ∀ h src, Run n na T (mandatory F fuel src) h (FreshQ n)
  mandMember : ∀ h b target, (n ≤ target ∨ target ∈ T) → Run n na T (mandMember F fuel b target) h TrQ

theorem runMand [DeepCopy F] (hF : F.mandRule = .copies) (fuel : Nat) : RunMand F n na T fuel := by
  induction fuel with
  | zero => constructor <;> intros <;> simp only [mandatory, mandMember] <;> exact Run.fail _
  | succ fuel ih =>
    constructor
    · intro h src
      simp only [mandatory]
      refine Run.getCls_bind _ fun sc _ => ?_
      split
      · rename_i hc
        simp [hF] at hc
      · refine Run.bind (run_customizeAny _ _ _ _) fun r _ hr _ _ => ?_
        exact Run.seq (ih.mandMember _ _ _ (Or.inl hr)) fun _ _ => Run.pure _ hr
    · intro h b target ht
      unfold mandMember
      split
      · exact Run.pure _ trivial
      · refine Run.getCls_bind _ fun tc _ => ?_
        split
        · refine Run.getHeap_bind ?_
          split
          · exact Run.seq (ih.mandatory _ _) fun m _ => Run.tr (Run.updCls _ _ ht)
          · exact Run.pure _ trivial
        · exact Run.fail _

/-- the class statement once its base class and `__extends__` are known: the class it returns is the next one, a
    declared class with the fields and name of the statement -/
theorem run_subclassRest (hF : F.varRule = .ownPerClass) (hX : F.varRuleX = .ownPerClass) (b : Nat)
    (bc : Cls) (ext : Option Nat) (name : String) (ns : Option String) (fields : List (String × Nat)) (perm : List Nat)
    (attrs : Option Kw) (mixins : List Nat) (asMixin : Bool) (hT : ∀ e, ext = some e → n ≤ e ∨ e ∈ T) :
    Run n na T (subclassRest F b bc ext name ns fields perm attrs mixins asMixin) h (fun id h' => n ≤ id
      ∧ ∃ cl, h'.cls[id]? = some cl
        ∧ cl.fields = applyOrder h (prependMixins F (mixinFields h mixins) (declaredFields F perm fields))
        ∧ cl.orig = none ∧ cl.tn = some name ∧ cl.kind = .complex) := by
  unfold subclassRest
  refine Run.sized fun hn => Run.getHeap_bind ?_
  refine Run.guardNone_bind _ fun _ => ?_
  refine Run.bind (Run.allocBoth_declared _ _ (by cases attrs <;> simp [declaredVariants, hF, hX])
    (fun _ => ⟨rfl, rfl, rfl⟩)) ?_
  rintro _ _ ⟨rfl, rfl⟩ - -
  refine Run.bind (run_regSub _ _ hT) fun _ _ q _ _ => Run.pure _ ⟨hn, ?_⟩
  exact q h.cls.length _ List.getElem?_concat_length

theorem run_xmlattrOp (src : Nat) : Run n na T (xmlattrOp F src) h (FreshQ n) := by
  unfold xmlattrOp
  refine Run.sized fun hn => Run.getCls_bind _ fun sc hsc => Run.getCls_bind _ fun rc _ => ?_
  refine Run.guardNone_bind _ fun he => ?_
  exact Run.mono (Run.allocCls_simple _ (not_complex_of_guard he)
    (fun ih => ih.range src sc.kind.isComplex sc.attrs sc.orig (by simp [viewOf, hsc]))) fun _ _ q => by
      rw [q.2]; exact hn

theorem run_delayedAll [DeepCopy F] (fuel c t : Nat) : Run n na T (delayedAll F fuel c t) h TrQ := by
  unfold delayedAll
  refine Run.getCls_bind _ fun cl _ => ?_
  refine Run.getHeap_bind ?_
  split
  · exact (run_customizeAny _ _ _ _).tr
  · exact Run.pure _ trivial

theorem run_delayedOne [DeepCopy F] (fuel c : Nat) (name : String) (t : Nat) (pop : Bool) :
    Run n na T (delayedOne F fuel c name t pop) h TrQ := by
  unfold delayedOne
  refine Run.getCls_bind _ fun cl _ => ?_
  refine Run.getHeap_bind ?_
  split
  · split
    · exact Run.seq (Run.whenM _ (Run.tr (Run.updCells _ _ (fun _ => rfl))) trivial) fun _ _ => (run_customizeAny _ _ _ _).tr
    · exact Run.pure _ trivial
  · exact Run.pure _ trivial

theorem run_delayedBoth [DeepCopy F] (fuel : Nat) (order : DelayOrder) (c : Nat) (name : String) (t : Nat)
    (pop : Bool) : Run n na T (delayedBoth F fuel order c name t pop) h TrQ := by
  unfold delayedBoth
  cases order with
  | allFirst => exact Run.seq (run_delayedAll _ _ _ _) fun t1 _ => run_delayedOne _ _ _ _ _ _
  | oneFirst => exact Run.seq (run_delayedOne _ _ _ _ _ _) fun t1 _ => run_delayedAll _ _ _ _

/-- operations that only derive: all but append_field / insert_field and the class statement -/
def Op.derives : Op → Bool
  | .append .. => false
  | .insert .. => false
  | .subclass .. => false      -- (a class statement registers with the class it extends)
  | _ => true

/-- the operations that only derive write no existing class at all, and the class they return is new -/
theorem run_opProg_derive [DeepCopy F] (hF : F.mandRule = .copies) (fuel : Nat) (op : Op)
    (hop : op.derives = true) :
    Run n na T (opProg F fuel op) h (fun r _ => ∀ id, r = some id → n ≤ id) := by
  have w : ∀ (a : Nat) (g : Heap), FreshQ n a g → ∀ id, some a = some id → n ≤ id := fun a _ ha id e => by
    cases e; exact ha
  cases op with
  | customize src kw ca caa prot nx sa =>
    simp only [opProg]
    refine Run.getCls_bind _ fun sc _ => ?_
    refine Run.bind (run_protMerge F prot kw) ?_
    rintro kwE _ rfl - -
    split
    · split
      · split
        · exact Run.map _ (run_arraySA _ _ _ _ _ _ _) w
        · exact Run.map _ (run_custComplex _ _ _ _ _ _) fun a g q => w a g q.1
      · exact Run.map _ (run_custComplex _ _ _ _ _ _) fun a g q => w a g q.1
    · exact Run.map _ (run_customizeAny _ _ _ _) w
  | array src member kw flat iter => exact Run.map _ (run_arrayOp _ _ _ _ _ _ _) w
  | mandatory src => exact Run.map _ ((runMand F hF fuel).mandatory _ src) w
  | subclass base name ns fields perm attrs mixins asMixin => simp [Op.derives] at hop
  | append c name t => simp [Op.derives] at hop
  | insert c idx name t => simp [Op.derives] at hop
  | xmlattr src => exact Run.map _ (run_xmlattrOp _ _) w

end SpyneModel.Derive
