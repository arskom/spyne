/-
  From the flat signature vocabulary to the shared one (C05 for HttpRpc).
  What `ConfFields` says about the object graph built for `ofFields fields` is what the shared
  `conformsFields fields` says about the native values read off that graph (`argsOf`).
-/
import SpyneModel.FlatShared
import Proofs.FlatSound
import Proofs.Types
import Proofs.Assoc
namespace SpyneModel.Flat
open SpyneModel

theorem valueOk_ofPrim (p : PrimTy) (v : Val) : (ofPrim p).valueOk v = p.valueOk v := by
  cases p with
  | bytes e => cases e <;> cases v <;> rfl
  | _ => rfl

/-- what `conformsFields` asks of one field value -/
def fieldOk (t : SpyneModel.Ty) (v : Val) : Bool :=
  match v with
  | .none => decide (t.occ.minOccurs = 0) || (t.occ.nillable && !t.occ.repeated)
  | v => conforms t v

theorem conformsFields_cons (n : Text) (t : SpyneModel.Ty) (fs : List (Text × SpyneModel.Ty)) (v : Val)
    (vs : List (Text × Val)) :
    conformsFields ((n, t) :: fs) ((n, v) :: vs) = (fieldOk t v && conformsFields fs vs) := by
  rw [conformsFields_cons_eq, decide_eq_true rfl, Bool.true_and]
  rfl

theorem conformsOne_prim (p : PrimTy) (o : SpyneModel.Occ) (nill : Bool) (hn : o.nillable = nill) (v : Val)
    (h : LeafV nill (ofPrim p) v) : conformsOne (.prim p o) v = true := by
  rcases h with ⟨rfl, hnl⟩ | h
  · simp [conformsOne, SpyneModel.Ty.occ, hn, hnl]
  · rw [valueOk_ofPrim] at h
    rw [SpyneModel.conformsOne_prim p o v (PrimTy.valueOk_ne_none h)]
    exact h

theorem prim_items (p : PrimTy) (o : SpyneModel.Occ) (nill : Bool) (hn : o.nillable = nill) (vs : List Val)
    (h : ∀ v, v ∈ vs → LeafV nill (ofPrim p) v) :
    conformsItems (.prim p o) vs = true ∧ conformsArr (.prim p o) vs = true :=
  have hone := fun v hv => conformsOne_prim p o nill hn v (h v hv)
  ⟨(conformsItems_iff _ _).mpr hone, (conformsArr_iff _ _).mpr hone⟩

theorem obj_items (name ns : Text) (base : Option Text) (fields : List (Text × SpyneModel.Ty)) (o : SpyneModel.Occ)
    (ih : ∀ a, ConfFields (ofFields fields) a → conformsFields fields (argsOf fields a) = true)
    (items : List Node) (h : ∀ it, it ∈ items → ∃ a, it = .obj a ∧ ConfFields (ofFields fields) a) :
    conformsItems (.obj name ns base fields o) (items.map fun it =>
        match it with
        | .obj a => .obj name (argsOf fields a)
        | _ => .none) = true ∧
    conformsArr (.obj name ns base fields o) (items.map fun it =>
        match it with
        | .obj a => .obj name (argsOf fields a)
        | _ => .none) = true := by
  have hone : ∀ v, v ∈ (items.map fun it =>
      match it with
      | .obj a => Val.obj name (argsOf fields a)
      | _ => .none) → conformsOne (.obj name ns base fields o) v = true := by
    intro v hv
    obtain ⟨it, hit, rfl⟩ := List.mem_map.mp hv
    obtain ⟨a, rfl, ha⟩ := h it hit
    simp [conformsOne, ih a ha]
  exact ⟨(conformsItems_iff _ _).mpr hone, (conformsArr_iff _ _).mpr hone⟩

theorem countOk_of (o : SpyneModel.Occ) (many : Bool) (n : Nat) (h : CountOk ⟨many, o.minOccurs, o.maxOccurs, o.nillable⟩ n) :
    o.countOk n = true :=
  (Occ.countOk_iff o n).mpr h

mutual
/-- the step of the file head for one member: `ConfTy` of the node held for the flat image of `t` gives what
    `conformsFields` asks (`fieldOk`) of the native value read off the node -/
theorem bridge_ty (t : SpyneModel.Ty) (n : Node) (hf : flatTy t = true)
    (hc : ConfTy (ofTy t).2 (ofTy t).1 n) : fieldOk t (valOf t n) = true := by
  match t, hf, hc with
  | .prim p o, _, hc =>
    simp only [ofTy, ConfTy, ofOcc] at hc
    rcases hc with ⟨rfl, hmin⟩ | ⟨hm, v, rfl, hv⟩ | ⟨hm, vs, rfl, hcnt, hvs⟩
    · simp [valOf, fieldOk, SpyneModel.Ty.occ, hmin]
    · simp only [valOf]
      have h1 := conformsOne_prim p o o.nillable rfl v hv
      cases v with
      | none =>
        have : o.nillable = true := by simpa [conformsOne, SpyneModel.Ty.occ] using h1
        simp [fieldOk, SpyneModel.Ty.occ, hm, this]
      | _ => simpa [fieldOk, conforms, SpyneModel.Ty.occ, hm] using h1
    · simp only [valOf, fieldOk, conforms, SpyneModel.Ty.occ, hm, if_true, Bool.and_eq_true]
      exact ⟨countOk_of o _ _ hcnt, (prim_items p o o.nillable rfl vs hvs).1⟩
  | .obj name ns base fields o, hf, hc =>
    simp only [flatTy, Bool.and_eq_true] at hf
    have ih : ∀ a, ConfFields (ofFields fields) a → conformsFields fields (argsOf fields a) = true :=
      fun a h => bridge_fields fields a hf.2 h
    simp only [ofTy, ConfTy, ofOcc] at hc
    rcases hc with ⟨rfl, hmin⟩ | ⟨hm, a, rfl, ha⟩ | ⟨hm, m, items, rfl, hcnt, hit⟩
    · simp [valOf, fieldOk, SpyneModel.Ty.occ, hmin]
    · simp [valOf, fieldOk, conforms, conformsOne, SpyneModel.Ty.occ, hm, ih a ha]
    · simp only [valOf, fieldOk, conforms, SpyneModel.Ty.occ, hm, if_true, Bool.and_eq_true, List.length_map]
      exact ⟨countOk_of o _ _ hcnt, (obj_items name ns base fields o ih items hit).1⟩
  | .arr member elem o, hf, hc =>
    simp only [flatTy, Bool.and_eq_true, Bool.not_eq_true', Bool.or_eq_true, decide_eq_true_eq] at hf
    obtain ⟨⟨⟨⟨⟨hrep, hopt⟩, hemin⟩, herep⟩, hshape⟩, hfe⟩ := hf
    have hnone : fieldOk (.arr member elem o) .none = true := by
      rcases hopt with h0 | h0 <;> simp [fieldOk, SpyneModel.Ty.occ, hrep, h0]
    match elem, hfe, hshape, hc with
    | .prim p eo, _, _, hc =>
      simp only [ofTy, ConfTy, SpyneModel.Ty.occ] at hc
      rcases hc with ⟨rfl, _⟩ | ⟨hm, _⟩ | ⟨_, vs, rfl, _, hvs⟩
      · simpa [valOf] using hnone
      · exact absurd hm (by simp)
      · simp only [valOf, fieldOk, conforms, SpyneModel.Ty.occ, hrep, Bool.false_eq_true, if_false, conformsOne]
        exact (prim_items p eo eo.nillable rfl vs hvs).2
    | .obj name ns base fields eo, hfe, _, hc =>
      simp only [flatTy, Bool.and_eq_true] at hfe
      have ih : ∀ a, ConfFields (ofFields fields) a → conformsFields fields (argsOf fields a) = true :=
        fun a h => bridge_fields fields a hfe.2 h
      simp only [ofTy, ConfTy, SpyneModel.Ty.occ] at hc
      rcases hc with ⟨rfl, _⟩ | ⟨hm, _⟩ | ⟨_, m, items, rfl, _, hit⟩
      · simpa [valOf] using hnone
      · exact absurd hm (by simp)
      · simp only [valOf, fieldOk, conforms, SpyneModel.Ty.occ, hrep, Bool.false_eq_true, if_false, conformsOne]
        exact (obj_items name ns base fields eo ih items hit).2
    | .arr _ _ _, _, hshape, _ => simp at hshape
theorem bridge_fields (fs : List (Text × SpyneModel.Ty)) (a : Attrs) (hf : flatFields fs = true)
    (hc : ConfFields (ofFields fs) a) : conformsFields fs (argsOf fs a) = true := by
  match fs, hf, hc with
  | [], _, _ => simp [argsOf, conformsFields]
  | (n, t) :: r, hf, hc =>
    simp only [flatFields, Bool.and_eq_true] at hf
    simp only [ofFields, ConfFields] at hc
    simp only [argsOf, conformsFields_cons, Bool.and_eq_true]
    exact ⟨bridge_ty t _ hf.1 hc.1, bridge_fields r a hf.2 hc.2⟩
end

theorem namesNodup_nodup (l : List Text) : namesNodup l = true → l.Nodup :=
  (nodup_iff_of_rec rfl (fun _ _ => rfl) l).mp

theorem ofFields_names (fs : List (Text × SpyneModel.Ty)) : (ofFields fs).map Prod.fst = fs.map (·.1) := by
  induction fs with
  | nil => rfl
  | cons f r ih => obtain ⟨n, t⟩ := f; simp [ofFields, ih]

theorem namesOk_of (fs : List (Text × SpyneModel.Ty)) (h1 : namesNodup (fs.map (·.1)) = true)
    (h2 : (fs.map (·.1)).all plainName = true) : NamesOk (ofFields fs) := by
  refine ⟨by rw [ofFields_names]; exact namesNodup_nodup _ h1, ?_⟩
  intro n hn
  rw [ofFields_names] at hn
  rw [List.all_eq_true] at h2
  have := h2 n hn
  simpa [plainName] using this

theorem scalar_max (o : SpyneModel.Occ) (h : (ofOcc o).many = false) : ∃ mx, (ofOcc o).maxOcc = some mx ∧ mx ≤ 1 := by
  simp only [ofOcc, SpyneModel.Occ.repeated] at h ⊢
  cases hm : o.maxOccurs with
  | none => rw [hm] at h; simp at h
  | some m => rw [hm] at h; exact ⟨m, rfl, by simpa using h⟩

mutual
theorem wf_of_flatTy (t : SpyneModel.Ty) (hf : flatTy t = true) :
    WfTy (ofTy t).2 ∧ SigOccTy (ofTy t).2 ∧ ((ofTy t).1.many = false → ∃ mx, (ofTy t).1.maxOcc = some mx ∧ mx ≤ 1) := by
  match t, hf with
  | .prim p o, _ => exact ⟨trivial, trivial, scalar_max o⟩
  | .obj name ns base fields o, hf =>
    simp only [flatTy, Bool.and_eq_true] at hf
    obtain ⟨h1, h2⟩ := wf_of_flatFields fields hf.2
    exact ⟨⟨namesOk_of fields hf.1.1 hf.1.2, h1⟩, h2, scalar_max o⟩
  | .arr member elem o, hf =>
    simp only [flatTy, Bool.and_eq_true] at hf
    obtain ⟨h1, h2, _⟩ := wf_of_flatTy elem hf.2
    exact ⟨h1, h2, fun h => absurd h (by simp [ofTy])⟩
theorem wf_of_flatFields (fs : List (Text × SpyneModel.Ty)) (hf : flatFields fs = true) :
    WfFields (ofFields fs) ∧ SigOccFields (ofFields fs) := by
  match fs, hf with
  | [], _ => exact ⟨trivial, trivial⟩
  | (n, t) :: r, hf =>
    simp only [flatFields, Bool.and_eq_true] at hf
    obtain ⟨h1, h2, h3⟩ := wf_of_flatTy t hf.1
    obtain ⟨h4, h5⟩ := wf_of_flatFields r hf.2
    exact ⟨⟨h1, h4⟩, ⟨h3, h2, h5⟩⟩
end

mutual
theorem valOf_erase (t : SpyneModel.Ty) (n : Node) : valOf t (eraseNode n) = valOf t n := by
  match t with
  | .prim p o => cases n <;> simp [valOf, eraseNode]
  | .obj name ns base fields o =>
    cases n with
    | obj a => simp only [eraseNode, valOf, argsOf_erase fields a]
    | arr m items =>
      simp only [eraseNode, valOf, eraseItems_eq_map, List.map_map]
      congr 1
      apply List.map_congr_left
      intro it _
      cases it with
      | obj a => simp only [Function.comp, eraseNode, argsOf_erase fields a]
      | _ => simp [Function.comp, eraseNode]
    | _ => simp [valOf, eraseNode]
  | .arr member elem o => simp only [valOf]; exact valOf_erase elem n
theorem argsOf_erase (fs : List (Text × SpyneModel.Ty)) (a : Attrs) : argsOf fs (eraseAttrs a) = argsOf fs a := by
  match fs with
  | [] => rfl
  | (n, t) :: r => simp only [argsOf, getAttr_eraseAttrs, valOf_erase t, argsOf_erase r a]
end

/-- (⇒) for the flat decoder, against the shared specification: whatever document arrives, what
    soft validation lets through conforms -/
theorem decode_soft_conforms (F : Facts03) (L : LeafLaws F.leaf) (hF : F.freqScope = .perMember)
    (hT : F.freqTouch = true) (strict : Bool) (delim : Text) (fields : List (Text × SpyneModel.Ty))
    (hs : flatSig fields = true)
    (doc : Doc) (node : Node) (h : decode F ⟨strict, true, delim⟩ (ofFields fields) doc = .ok node) :
    ∃ attrs, node = .obj attrs ∧ conformsFields fields (argsOf fields attrs) = true := by
  simp only [flatSig, Bool.and_eq_true] at hs
  obtain ⟨hw, hsig⟩ := wf_of_flatFields fields hs.2
  obtain ⟨a, rfl, hc⟩ := decode_soft_conf F L hF hT strict delim _ (namesOk_of fields hs.1.1 hs.1.2) hw hsig doc node h
  exact ⟨_, rfl, by rw [argsOf_erase]; exact bridge_fields fields a hs.2 hc⟩

end SpyneModel.Flat
