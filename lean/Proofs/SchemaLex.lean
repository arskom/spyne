/-
  C06 lemmas: what spyne writes for a conformant leaf value is a valid literal of the simple
  type the schema declares for it (lexical space of the XSD built-in + every generated facet).
-/
import Proofs.SchemaDefs
import Proofs.LeafGood
namespace SpyneModel
namespace Schema
open Xml


theorem noWs_nil : noWs [] := by intro c hc; cases hc

theorem noWs_cons {c : Char} {t : Text} (hc : isXmlSpace c = false) (ht : noWs t) : noWs (c :: t) :=
  List.forall_mem_cons.mpr ⟨hc, ht⟩

theorem noWs_append {a b : Text} (ha : noWs a) (hb : noWs b) : noWs (a ++ b) :=
  List.forall_mem_append.mpr ⟨ha, hb⟩

theorem noWs_ite (c : Prop) [Decidable c] {a b : Text} (ha : noWs a) (hb : noWs b) : noWs (if c then a else b) := by
  split <;> assumption

theorem dropWhile_noWs (s : Text) (h : noWs s) : s.dropWhile isXmlSpace = s := by
  cases s with
  | nil => rfl
  | cons c t => simp [List.dropWhile, h c (by simp)]

theorem xsdTrim_noWs (s : Text) (h : noWs s) : xsdTrim s = s := by
  unfold xsdTrim
  rw [dropWhile_noWs s h, dropWhile_noWs _ (fun c hc => h c (List.mem_reverse.mp hc)), List.reverse_reverse]

theorem norm_noWs (b : Builtin) (s : Text) (h : noWs s) : b.norm s = s := by
  unfold Builtin.norm; split
  · rfl
  · exact xsdTrim_noWs s h

theorem isDigit_not_space (c : Char) (h : isDigit c = true) : isXmlSpace c = false := by
  simp only [isDigit, Bool.and_eq_true, decide_eq_true_eq] at h
  simp only [isXmlSpace, Bool.or_eq_false_iff, decide_eq_false_iff_not]
  refine ⟨⟨⟨?_, ?_⟩, ?_⟩, ?_⟩ <;> (intro e; subst e; revert h; decide)

theorem noWs_of_all_digits (s : Text) (h : s.all isDigit = true) : noWs s :=
  fun c hc => isDigit_not_space c (List.all_eq_true.mp h c hc)

theorem noWs_natText (n : Nat) : noWs (natText n) := noWs_of_all_digits _ (natText_all_digits n)

theorem noWs_padded {k n : Nat} {s : Text} (h : Padded k n s) : noWs s := noWs_of_all_digits _ h.digits

theorem noWs_pad2 (n : Nat) (h : n < 100) : noWs (pad2 n) := noWs_padded (pad2_padded n h)

theorem noWs_pad4 (n : Nat) (h : n < 10000) : noWs (pad4 n) := noWs_padded (pad4_padded n h)

theorem noWs_pad6 (n : Nat) (h : n < 1000000) : noWs (pad6 n) := noWs_padded (pad6_padded n h)


theorem xsdInteger_digits (s : Text) (h : allDigits s = true) : xsdInteger s = true ∧ xsdIntVal s = (valNat s : Int) := by
  cases s with
  | nil => simp [allDigits] at h
  | cons c t =>
    have hc : isDigit c = true := by
      simp [allDigits] at h; exact h.1
    have h1 : c ≠ '-' := by intro e; subst e; revert hc; decide
    have h2 : c ≠ '+' := by intro e; subst e; revert hc; decide
    constructor
    · unfold xsdInteger
      split
      · rename_i r e; injection e with e1 _; exact absurd e1 h1
      · rename_i r e; injection e with e1 _; exact absurd e1 h2
      · exact h
    · unfold xsdIntVal
      split
      · rename_i r e; injection e with e1 _; exact absurd e1 h1
      · rename_i r e; injection e with e1 _; exact absurd e1 h2
      · rfl

theorem xsdInteger_intText (i : Int) : xsdInteger (intText i) = true ∧ xsdIntVal (intText i) = i := by
  unfold intText
  by_cases h : i < 0
  · simp only [h, if_true]
    constructor
    · simp [xsdInteger, allDigits_natText]
    · simp only [xsdIntVal, valNat_natText]; omega
  · simp only [h, if_false]
    have := xsdInteger_digits (natText i.natAbs) (allDigits_natText _)
    refine ⟨this.1, ?_⟩
    rw [this.2, valNat_natText]; omega

theorem noWs_intText (i : Int) : noWs (intText i) := by
  unfold intText
  split
  · exact noWs_cons (by decide) (noWs_natText _)
  · exact noWs_natText _

/-! ### range facets

A bound is an `Option Int`: what a range, or a restriction step, says about its bounds is said with
`Option.all`. -/

theorem holds_eq (r : Range) (i : Int) : r.holds i =
    (r.ge.all (fun b => decide (b ≤ i)) && r.gt.all (fun b => decide (b < i)) &&
      r.le.all (fun b => decide (i ≤ b)) && r.lt.all (fun b => decide (i < b))) := by
  unfold Range.holds
  cases r.ge <;> cases r.gt <;> cases r.le <;> cases r.lt <;> rfl

theorem all_optFacet {α} (c : α → Facet) (p : Facet → Bool) (o : Option α) :
    (optFacet c o).all p = o.all (fun a => p (c a)) := by
  cases o <;> simp [optFacet]

theorem any_optFacet {α} (c : α → Facet) (p : Facet → Bool) (o : Option α) :
    (optFacet c o).any p = o.any (fun a => p (c a)) := by
  cases o <;> simp [optFacet]

theorem filterMap_optFacet {α β} (c : α → Facet) (g : Facet → Option β) (hc : ∀ a, g (c a) = none) (o : Option α) :
    (optFacet c o).filterMap g = [] := by
  cases o <;> simp [optFacet, hc]

theorem facetGet_optFacet {α} (g : Facet → Option Int) (c : α → Facet) (o : Option α) :
    facetGet g (optFacet c o) = o.bind (fun a => g (c a)) := by
  cases o <;> simp [facetGet, optFacet]

theorem facetGet_append (g : Facet → Option Int) (a b : List Facet) :
    facetGet g (a ++ b) = (facetGet g a).or (facetGet g b) := List.findSome?_append

theorem enums_intFacets (r : Range) : (intFacets r).filterMap Facet.enumVal? = [] := by
  unfold intFacets
  rw [List.filterMap_append, List.filterMap_append, List.filterMap_append,
    filterMap_optFacet .minExclusive _ (fun _ => rfl), filterMap_optFacet .minInclusive _ (fun _ => rfl),
    filterMap_optFacet .maxExclusive _ (fun _ => rfl), filterMap_optFacet .maxInclusive _ (fun _ => rfl)]
  rfl

theorem facetGet_intFacets (r : Range) :
    facetGet Facet.minExcl? (intFacets r) = r.gt ∧ facetGet Facet.minIncl? (intFacets r) = r.ge ∧
    facetGet Facet.maxExcl? (intFacets r) = r.lt ∧ facetGet Facet.maxIncl? (intFacets r) = r.le := by
  simp [intFacets, facetGet_append, facetGet_optFacet, Facet.minExcl?, Facet.minIncl?, Facet.maxExcl?, Facet.maxIncl?]

theorem no_length_facets (w : Range) : (intFacets w).any Facet.isLength = false := by
  simp [intFacets, any_optFacet, Facet.isLength]

theorem all_applies_intFacets (k : IntKind) (w : Range) :
    (intFacets w).all (facetApplies (.integer k)) =
      (w.gt.all (inKind k) && w.ge.all (inKind k) && w.lt.all (inKind k) && w.le.all (inKind k)) := by
  simp only [intFacets, List.all_append, all_optFacet, facetApplies, isIntBuiltin]

theorem facetsOk_intFacets (r : Range) (s : Text) : facetsOk (intFacets r) s = r.holds (xsdIntVal s) := by
  unfold facetsOk
  rw [enums_intFacets, holds_eq]
  simp only [List.isEmpty_nil, Bool.true_or, Bool.true_and, intFacets, List.all_append, all_optFacet, Facet.holds]
  ac_rfl

theorem all_of_sub {a b : Option Int} (h : optSub a b) {p : Int → Bool} (hb : b.all p = true) : a.all p = true := by
  rcases h with e | e <;> rw [e]
  · rfl
  · exact hb

theorem clampOpt_sub (F6 : Facts06) (k : IntKind) (o : Option Int) : optSub (clampOpt F6 k o) o := by
  unfold clampOpt optSub
  cases o with
  | none => simp
  | some i => by_cases h : (!F6.clampFacets || inKind k i) = true <;> simp [h]

theorem optSub_trans {a b c : Option Int} (h1 : optSub a b) (h2 : optSub b c) : optSub a c := by
  rcases h1 with h | h
  · exact Or.inl h
  · subst h; exact h2

/-- of the two bounds of one side (exclusive, inclusive) only the one `r` prefers is written;
    `mergeLower` and `mergeUpper` are the two orders -/
def mergeBy (r : Int → Int → Prop) [DecidableRel r] (x y : Option Int) : Option Int × Option Int :=
  match x, y with
  | some a, some b => if r a b then (some a, none) else (none, some b)
  | g, e => (g, e)

theorem mergeLower_eq : mergeLower = mergeBy (· ≥ ·) := rfl

theorem mergeUpper_eq : mergeUpper = mergeBy (· ≤ ·) := rfl

section
variable (r : Int → Int → Prop) [DecidableRel r] (x y : Option Int)

theorem mergeBy_sub : optSub (mergeBy r x y).1 x ∧ optSub (mergeBy r x y).2 y := by
  unfold mergeBy optSub
  cases x <;> cases y <;> simp
  split <;> simp

theorem mergeBy_id (h : (x.isSome && y.isSome) = false) : mergeBy r x y = (x, y) := by
  cases x <;> cases y <;> first | rfl | cases h

theorem mergeBy_not_both : ((mergeBy r x y).1.isSome && (mergeBy r x y).2.isSome) = false := by
  unfold mergeBy
  cases x <;> cases y <;> simp
  split <;> simp

/-- merging keeps what the two bounds say together, when the bound `r` prefers implies the other -/
theorem mergeBy_holds (p q : Int → Prop) [DecidablePred p] [DecidablePred q] (h1 : ∀ a b, r a b → q a → p b)
    (h2 : ∀ a b, ¬ r a b → p b → q a) :
    ((mergeBy r x y).2.all (fun b => decide (p b)) && (mergeBy r x y).1.all (fun a => decide (q a))) =
      (y.all (fun b => decide (p b)) && x.all (fun a => decide (q a))) := by
  unfold mergeBy
  cases x <;> cases y <;> try rfl
  rename_i a b
  by_cases h : r a b
  · simp only [if_pos h, Option.all_none, Option.all_some, Bool.true_and]
    by_cases hq : q a
    · rw [decide_eq_true hq, decide_eq_true (h1 a b h hq)]; rfl
    · rw [decide_eq_false hq, Bool.and_false]
  · simp only [if_neg h, Option.all_none, Option.all_some, Bool.and_true]
    by_cases hp : p b
    · rw [decide_eq_true hp, decide_eq_true (h2 a b h hp)]; rfl
    · rw [decide_eq_false hp, Bool.false_and]

end

theorem holds_mono (r r' : Range) (i : Int) (h1 : optSub r'.ge r.ge) (h2 : optSub r'.gt r.gt)
    (h3 : optSub r'.le r.le) (h4 : optSub r'.lt r.lt) (h : r.holds i = true) : r'.holds i = true := by
  rw [holds_eq] at h ⊢
  simp only [Bool.and_eq_true] at h ⊢
  exact ⟨⟨⟨all_of_sub h1 h.1.1.1, all_of_sub h2 h.1.1.2⟩, all_of_sub h3 h.1.2⟩, all_of_sub h4 h.2⟩

theorem holds_writtenRange (F6 : Facts06) (k : IntKind) (r : Range) (i : Int) (h : r.holds i = true) :
    (writtenRange F6 k r).holds i = true := by
  apply holds_mono r _ i _ _ _ _ h
  all_goals
    unfold writtenRange
    dsimp only
    split
  · exact optSub_trans (mergeBy_sub (· ≥ ·) _ _).2 (clampOpt_sub F6 k _)
  · exact clampOpt_sub F6 k _
  · exact optSub_trans (mergeBy_sub (· ≥ ·) _ _).1 (clampOpt_sub F6 k _)
  · exact clampOpt_sub F6 k _
  · exact optSub_trans (mergeBy_sub (· ≤ ·) _ _).2 (clampOpt_sub F6 k _)
  · exact clampOpt_sub F6 k _
  · exact optSub_trans (mergeBy_sub (· ≤ ·) _ _).1 (clampOpt_sub F6 k _)
  · exact clampOpt_sub F6 k _


theorem clampOpt_id (F6 : Facts06) (k : IntKind) (o : Option Int) (h : o.all (inKind k) = true) : clampOpt F6 k o = o := by
  cases o with
  | none => rfl
  | some i => simp only [clampOpt, show inKind k i = true from h, Bool.or_true, if_true]

theorem writtenRange_wf (F6 : Facts06) (k : IntKind) (r : Range) (h : primWf (.integer k r) = true) :
    writtenRange F6 k r = r := by
  obtain ⟨g1, g2, g3, g4⟩ := facetGet_intFacets r
  simp only [primWf, all_applies_intFacets, facetsConsistent, g1, g2, g3, g4, Bool.and_eq_true, Bool.not_eq_true'] at h
  obtain ⟨⟨⟨⟨h1, h2⟩, h3⟩, h4⟩, ⟨⟨⟨⟨⟨hlo, hup⟩, _⟩, _⟩, _⟩, _⟩, _⟩ := h
  unfold writtenRange
  rw [clampOpt_id F6 k _ h1, clampOpt_id F6 k _ h2, clampOpt_id F6 k _ h3, clampOpt_id F6 k _ h4]
  dsimp only
  rw [mergeLower_eq, mergeUpper_eq, mergeBy_id _ _ _ hlo, mergeBy_id _ _ _ hup]
  split <;> rfl

theorem primFacets_integer_wf (F6 : Facts06) (k : IntKind) (r : Range) (h : primWf (.integer k r) = true) :
    primFacets F6 (.integer k r) = intFacets r :=
  congrArg intFacets (writtenRange_wf F6 k r h)


theorem filterMap_enumeration (vals : List Text) : (vals.map Facet.enumeration).filterMap Facet.enumVal? = vals := by
  induction vals with
  | nil => rfl
  | cons v vs ih => simp [Facet.enumVal?, ih]

theorem all_enumeration (vals : List Text) (s : Text) : (vals.map Facet.enumeration).all (Facet.holds s) = true := by
  induction vals with
  | nil => rfl
  | cons v vs ih => simp [Facet.holds, ih]

theorem enums_lenFacets (a : Nat) (b : Option Nat) : (lenFacets a b).filterMap Facet.enumVal? = [] := by
  unfold lenFacets
  split
  · rfl
  · cases b <;> (split <;> simp [optFacet, Facet.enumVal?])

theorem all_lenFacets (a : Nat) (b : Option Nat) (s : Text) :
    (lenFacets a b).all (Facet.holds s) =
      (decide (a ≤ s.length) && (match b with | some m => decide (s.length ≤ m) | none => true)) := by
  unfold lenFacets
  split
  · rename_i h; subst h
    simp only [List.all_cons, List.all_nil, Bool.and_true, Facet.holds]
    rw [Bool.eq_iff_iff]; simp only [Bool.and_eq_true, decide_eq_true_eq]; omega
  · cases b with
    | none => by_cases h : a = 0 <;> simp [optFacet, Facet.holds, h]
    | some m => by_cases h : a = 0 <;> simp [optFacet, Facet.holds, h]

theorem primFacets_unicode (F6 : Facts06) (a : Nat) (b : Option Nat) (pat : Option Pattern) (vals : List Text) :
    primFacets F6 (.unicode a b pat vals) = vals.map .enumeration ++ lenFacets a b ++ optFacet .pattern pat := rfl

/-- enumerations form a disjunction in front of the other facets -/
theorem facetsOk_enum_prefix (lits : List Text) (fs : List Facet) (s : Text) (hfs : fs.filterMap Facet.enumVal? = []) :
    facetsOk (lits.map Facet.enumeration ++ fs) s = ((lits.isEmpty || lits.contains s) && facetsOk fs s) := by
  unfold facetsOk
  rw [List.filterMap_append, filterMap_enumeration, hfs, List.append_nil, List.all_append, all_enumeration]
  simp

theorem facetsOk_unicode (F6 : Facts06) (a : Nat) (b : Option Nat) (pat : Option Pattern) (vals : List Text) (s : Text) :
    facetsOk (primFacets F6 (.unicode a b pat vals)) s = (PrimTy.unicode a b pat vals).valueOk (.str s) := by
  have henum : (lenFacets a b ++ optFacet Facet.pattern pat).filterMap Facet.enumVal? = [] := by
    rw [List.filterMap_append, enums_lenFacets, filterMap_optFacet _ _ (fun _ => rfl)]; rfl
  rw [primFacets_unicode, List.append_assoc, facetsOk_enum_prefix _ _ _ henum]
  unfold facetsOk
  rw [henum, List.all_append, all_lenFacets, all_optFacet]
  cases pat <;> exact Bool.and_comm _ _


theorem date_bounds (d : Date) (h : d.valid = true) : d.y < 10000 ∧ d.m < 100 ∧ d.d < 100 := by
  have := (Date.valid_iff d).mp h
  have := daysInMonth_le d.y d.m
  omega

theorem xsdDate_isoDate (d : Date) (h : d.valid = true) : xsdDate (isoDate d) = true := by
  obtain ⟨h1, h2, h3⟩ := date_bounds d h
  have := parseDateFields_isoDate d h1 h2 h3 []
  rw [List.append_nil] at this
  simp [xsdDate, this, h, xsdZone]

theorem noWs_isoDate (d : Date) (h : d.valid = true) : noWs (isoDate d) := by
  obtain ⟨h1, h2, h3⟩ := date_bounds d h
  unfold isoDate
  exact noWs_append (noWs_pad4 _ h1) (noWs_cons (by decide) (noWs_append (noWs_pad2 _ h2) (noWs_cons (by decide) (noWs_pad2 _ h3))))

theorem time_bounds (t : Time) (h : t.valid = true) : t.h < 100 ∧ t.mi < 100 ∧ t.s < 100 ∧ t.us < 1000000 := by
  have := (Time.valid_iff t).mp h
  omega

theorem xsdTime_isoTime (t : Time) (h : t.valid = true) : xsdTime (isoTime t) = true := by
  have := parseTimeFields_isoTime t h [] zoneStart_nil
  rw [List.append_nil] at this
  simp [xsdTime, this, xsdTimeOk, h, xsdZone]

theorem noWs_isoTime (t : Time) (h : t.valid = true) : noWs (isoTime t) := by
  obtain ⟨h1, h2, h3, h4⟩ := time_bounds t h
  unfold isoTime
  refine noWs_append (noWs_pad2 _ h1) (noWs_cons (by decide) (noWs_append (noWs_pad2 _ h2) (noWs_cons (by decide)
    (noWs_append (noWs_pad2 _ h3) ?_))))
  split
  · exact noWs_nil
  · exact noWs_cons (by decide) (noWs_pad6 _ h4)

theorem noWs_fmtOffset (m : Int) (h : m.natAbs < 6000) : noWs (fmtOffset m) := by
  unfold fmtOffset
  refine noWs_cons ?_ (noWs_append (noWs_pad2 _ (by omega)) (noWs_cons (by decide) (noWs_pad2 _ (by omega))))
  split <;> decide

theorem xsdZone_fmtOffset (m : Int) (h1 : -840 ≤ m) (h2 : m ≤ 840) : xsdZone (fmtOffset m) = true := by
  have hp := parseOffsetFields_fmtOffset m (by omega) []
  rw [List.append_nil] at hp
  unfold xsdZone
  split
  · rename_i e; simp [fmtOffset] at e
  · rename_i e; simp [fmtOffset, pad2] at e
  · rw [hp]
    simp only [Bool.or_eq_true, Bool.and_eq_true, decide_eq_true_eq]
    omega

theorem xsdDateTime_isoDateTime (x : DateTime) (h : x.valid = true)
    (htz : match x.tz with | some m => -840 ≤ m ∧ m ≤ 840 | none => True) : xsdDateTime (isoDateTime x) = true := by
  obtain ⟨hd, ht, _⟩ := (DateTime.valid_iff x).mp h
  obtain ⟨h1, h2, h3⟩ := date_bounds x.date hd
  have key : ∀ tz : Text, zoneStart tz → xsdZone tz = true →
      xsdDateTime (isoDate x.date ++ 'T' :: (isoTime x.time ++ tz)) = true := by
    intro tz hz1 hz2
    unfold xsdDateTime
    simp only [parseDateFields_isoDate x.date h1 h2 h3, parseTimeFields_isoTime x.time ht tz hz1, hd, xsdTimeOk, ht, hz2,
      Bool.true_or, Bool.and_self]
  unfold isoDateTime
  cases htzv : x.tz with
  | none => exact key [] zoneStart_nil rfl
  | some m =>
    rw [htzv] at htz
    exact key (fmtOffset m) (zoneStart_fmtOffset m) (xsdZone_fmtOffset m htz.1 htz.2)

theorem noWs_isoDateTime (x : DateTime) (h : x.valid = true) : noWs (isoDateTime x) := by
  obtain ⟨hd, ht, hz⟩ := (DateTime.valid_iff x).mp h
  unfold isoDateTime
  refine noWs_append (noWs_isoDate _ hd) (noWs_cons (by decide) (noWs_append (noWs_isoTime _ ht) ?_))
  cases htz : x.tz with
  | none => exact noWs_nil
  | some m => exact noWs_fmtOffset m (by have := hz m htz; omega)


theorem noWs_unit (n : Nat) (c : Char) (hc : isXmlSpace c = false) : noWs (natText n ++ [c]) :=
  noWs_append (noWs_natText n) (noWs_cons hc noWs_nil)

theorem noWs_durTimeText (F : Facts08) (h m s u : Nat) (hu : u < 1000000) : noWs (durTimeText F h m s u) := by
  have hfrac : noWs (match F.durFracFmt with | .pad6 => pad6 u | _ => natText u) := by
    cases F.durFracFmt <;> first | exact noWs_pad6 u hu | exact noWs_natText u
  unfold durTimeText
  exact noWs_append (noWs_ite _ (noWs_unit h _ (by decide)) noWs_nil)
    (noWs_append (noWs_ite _ (noWs_unit m _ (by decide)) noWs_nil)
      (noWs_ite _ (noWs_append (noWs_natText s)
        (noWs_append (noWs_ite _ (noWs_cons (by decide) hfrac) noWs_nil) (noWs_cons (by decide) noWs_nil))) noWs_nil))

theorem noWs_durToText (F : Facts08) (us : Int) : noWs (durToText F us) := by
  unfold durToText
  dsimp only
  have hhead : noWs ((if us < 0 then ['-', 'P'] else ['P']) ++
      (if us.natAbs / usPerDay ≠ 0 then natText (us.natAbs / usPerDay) ++ ['D'] else [])) :=
    noWs_append (noWs_ite _ (by decide) (by decide)) (noWs_ite _ (noWs_unit _ _ (by decide)) noWs_nil)
  split
  · exact hhead
  · split
    · exact noWs_append hhead (by decide)
    · exact noWs_append hhead (noWs_cons (by decide) (noWs_durTimeText F _ _ _ _ (Nat.mod_lt _ (by decide))))

theorem endsIn_append_right (a : Text) {b : Text} {l : List Char} (h : endsIn b l) : endsIn (a ++ b) l := by
  obtain ⟨t, c, e, hc⟩ := h
  exact ⟨a ++ t, c, by rw [e, List.append_assoc], hc⟩

theorem endsIn_mono {s : Text} {l l' : List Char} (h : endsIn s l) (hl : ∀ c ∈ l, c ∈ l') : endsIn s l' := by
  obtain ⟨t, c, e, hc⟩ := h
  exact ⟨t, c, e, hl c hc⟩

theorem getLast_of_endsIn {s : Text} {l : List Char} (h : endsIn s l) : ∃ c, s.getLast? = some c ∧ c ∈ l := by
  obtain ⟨t, c, e, hc⟩ := h
  exact ⟨c, by rw [e]; simp, hc⟩

/-- the last component written is the smallest non-zero one -/
theorem endsIn_durTimeText (F : Facts08) (h m s u : Nat) (hne : h ≠ 0 ∨ m ≠ 0 ∨ s ≠ 0 ∨ u ≠ 0) :
    endsIn (durTimeText F h m s u) ['H', 'M', 'S'] := by
  unfold durTimeText
  by_cases hs : (decide (s > 0) || decide (u > 0)) = true
  · rw [if_pos hs]
    exact endsIn_append_right _ (endsIn_append_right _ (endsIn_append_right _ (endsIn_append_right _ ⟨[], 'S', rfl, by simp⟩)))
  · rw [if_neg hs]
    simp only [Bool.or_eq_true, decide_eq_true_eq, not_or] at hs
    by_cases hm : m > 0
    · rw [if_pos hm]
      exact endsIn_append_right _ ⟨natText m, 'M', by simp, by simp⟩
    · rw [if_neg hm, if_pos (by omega : h > 0)]
      exact ⟨natText h, 'H', by simp, by simp⟩

theorem endsIn_durToText (F : Facts08) (us : Int) : endsIn (durToText F us) ['D', 'H', 'M', 'S'] := by
  have hS : usPerSec = 1000000 := rfl
  have hD : usPerDay = 86400000000 := rfl
  unfold durToText
  dsimp only
  rw [hS, hD]
  generalize us.natAbs = v
  split
  · -- a whole number of days: the day component is the last one
    rename_i h
    simp only [Bool.and_eq_true, decide_eq_true_eq] at h
    have hd : v / 86400000000 ≠ 0 := by omega
    rw [if_pos hd]
    exact endsIn_append_right _ ⟨_, 'D', rfl, by simp⟩
  · rename_i h
    simp only [Bool.and_eq_true, decide_eq_true_eq] at h
    split
    · exact endsIn_append_right _ ⟨['T', '0'], 'S', rfl, by simp⟩
    · refine endsIn_append_right _ (endsIn_append_right ['T'] (endsIn_mono (endsIn_durTimeText F _ _ _ _ ?_) (by simp)))
      have := Nat.div_add_mod v 1000000
      generalize v / 1000000 = q at *
      generalize q % 86400 = s at *
      omega

theorem xsdDuration_durToText (F : Facts08) (hF : F.durFracFmt = .pad6) (us : Int) :
    xsdDuration (durToText F us) = true := by
  obtain ⟨c, hc, hmem⟩ := getLast_of_endsIn (endsIn_durToText F us)
  unfold xsdDuration
  rw [parseDurLit_durToText F hF us, hc, Option.isSome_some, Bool.true_and]
  simp only [List.mem_cons, List.not_mem_nil, or_false] at hmem
  rcases hmem with h | h | h | h <;> (subst h; decide)


theorem hexVal_not_space (c : Char) (h : (hexVal? c).isSome = true) : isXmlSpace c = false := by
  simp only [isXmlSpace, Bool.or_eq_false_iff, decide_eq_false_iff_not]
  refine ⟨⟨⟨?_, ?_⟩, ?_⟩, ?_⟩ <;> (intro e; subst e; revert h; decide)

theorem noWs_of_xsdHexBinary (s : Text) (h : xsdHexBinary s = true) : noWs s := by
  fun_induction xsdHexBinary s with
  | case1 => exact noWs_nil
  | case2 => cases h
  | case3 a b r ih =>
    simp only [Bool.and_eq_true] at h
    exact noWs_cons (hexVal_not_space a h.1.1) (noWs_cons (hexVal_not_space b h.1.2) (ih h.2))

theorem b64Val_not_space (c : Char) (h : (b64Val? false c).isSome = true) : isXmlSpace c = false := by
  simp only [isXmlSpace, Bool.or_eq_false_iff, decide_eq_false_iff_not]
  refine ⟨⟨⟨?_, ?_⟩, ?_⟩, ?_⟩ <;> (intro e; subst e; revert h; decide)

theorem b64Val_match_not_space (c : Char) (k : Nat)
    (h : (match b64Val? false c with | some v => decide (v % k = 0) | none => false) = true) : isXmlSpace c = false := by
  apply b64Val_not_space
  cases hv : b64Val? false c with
  | none => rw [hv] at h; cases h
  | some v => rfl

theorem noWs_of_xsdBase64Binary (s : Text) (h : xsdBase64Binary s = true) : noWs s := by
  fun_induction xsdBase64Binary s with
  | case1 => exact noWs_nil
  | case2 c1 c2 =>
    simp only [Bool.and_eq_true] at h
    exact noWs_cons (b64Val_not_space c1 h.1) (noWs_cons (b64Val_match_not_space c2 16 h.2)
      (noWs_cons (by decide) (noWs_cons (by decide) noWs_nil)))
  | case3 c1 c2 c3 =>
    simp only [Bool.and_eq_true] at h
    exact noWs_cons (b64Val_not_space c1 h.1.1) (noWs_cons (b64Val_not_space c2 h.1.2)
      (noWs_cons (b64Val_match_not_space c3 4 h.2) (noWs_cons (by decide) noWs_nil)))
  | case4 c1 c2 c3 c4 r _ _ ih =>
    simp only [Bool.and_eq_true] at h
    exact noWs_cons (b64Val_not_space c1 h.1.1.1.1) (noWs_cons (b64Val_not_space c2 h.1.1.1.2)
      (noWs_cons (b64Val_not_space c3 h.1.1.2) (noWs_cons (b64Val_not_space c4 h.1.2) (ih h.2))))
  | case5 => cases h


theorem inKind_iff (k : IntKind) (i : Int) :
    inKind k i = true ↔ (∀ l, k.lo = some l → l ≤ i) ∧ (∀ h, k.hi = some h → i ≤ h) := by
  unfold inKind
  cases k.lo <;> cases k.hi <;> simp

theorem facetsOk_nil (s : Text) : facetsOk [] s = true := rfl

/-- what spyne writes for a conformant leaf value that has an XSD literal: whitespace normalisation
    leaves the literal alone, it lies in the lexical and value space of the built-in, and it passes
    the facets generated from the declaration -/
theorem leaf_literal (F : Facts08) (G : F.Good) (F6 : Facts06) (p : PrimTy) (v : Val)
    (hv : p.valueOk v = true) (hr : xsdRepresentable v = true) :
    ∃ s, leafToText F p v = some s ∧ (builtinOf p).norm s = s ∧ (builtinOf p).lexOk s = true ∧
      facetsOk (primFacets F6 p) s = true := by
  induction p, v, hv using PrimTy.valueOk_cases with
  | int k r i hlo hhi hi _ =>
    have hx := xsdInteger_intText i
    refine ⟨intText i, rfl, norm_noWs _ _ (noWs_intText i), ?_, ?_⟩
    · simp only [builtinOf, Builtin.lexOk, hx.1, hx.2, (inKind_iff k i).mpr ⟨hlo, hhi⟩, Bool.true_and]
    · show facetsOk (intFacets (writtenRange F6 k r)) (intText i) = true
      rw [facetsOk_intFacets, hx.2]
      exact holds_writtenRange F6 k r i hi
  | bool b _ => exact ⟨boolToText b, rfl, by cases b <;> decide, by cases b <;> decide, rfl⟩
  | str a b c d s hs => exact ⟨s, rfl, rfl, rfl, by rw [facetsOk_unicode]; exact hs⟩
  | date d hd => exact ⟨isoDate d, rfl, norm_noWs _ _ (noWs_isoDate d hd), xsdDate_isoDate d hd, rfl⟩
  | time t ht => exact ⟨isoTime t, rfl, norm_noWs _ _ (noWs_isoTime t ht), xsdTime_isoTime t ht, rfl⟩
  | dt x hx =>
    refine ⟨isoDateTime x, rfl, norm_noWs _ _ (noWs_isoDateTime x hx), xsdDateTime_isoDateTime x hx ?_, rfl⟩
    simp only [xsdRepresentable] at hr
    cases htz : x.tz with
    | none => trivial
    | some m => rw [htz] at hr; simpa using hr
  | dur us _ _ _ =>
    exact ⟨durToText F us, rfl, norm_noWs _ _ (noWs_durToText F us), xsdDuration_durToText F G.frac us, rfl⟩
  | bytes enc bs hb _ =>
    cases enc with
    | base64 =>
      have h := xsdBase64Binary_b64enc bs hb
      exact ⟨_, rfl, norm_noWs _ _ (noWs_of_xsdBase64Binary _ h), h, rfl⟩
    | hex =>
      have h := xsdHexBinary_hexenc bs hb
      exact ⟨_, rfl, norm_noWs _ _ (noWs_of_xsdHexBinary _ h), h, rfl⟩
    | urlsafe => exact ⟨_, rfl, rfl, rfl, rfl⟩
  | enum names n hn =>
    refine ⟨n, rfl, rfl, rfl, ?_⟩
    simp only [primFacets, facetsOk, filterMap_enumeration, all_enumeration, hn, Bool.or_true, Bool.and_self]


theorem leafEq_eq (v w : Val) (h : leafEq v w = true) : v = w := by
  unfold leafEq at h
  split at h <;> first | cases h | rw [of_decide_eq_true h]

theorem enums_primFacets (F6 : Facts06) (p : PrimTy) (h : ∀ a b c d, p ≠ .unicode a b c d) (h' : ∀ n, p ≠ .enum n) :
    (primFacets F6 p).filterMap Facet.enumVal? = [] := by
  cases p with
  | integer k r => exact enums_intFacets _
  | unicode a b c d => exact absurd rfl (h a b c d)
  | enum n => exact absurd rfl (h' n)
  | _ => rfl

theorem extraVals_nonstring (A : App) (p : PrimTy) (h : (A.extraVals p).isEmpty = false) :
    (∀ a b c d, p ≠ .unicode a b c d) ∧ (∀ n, p ≠ .enum n) := by
  constructor
  · intro a b c d e; subst e; cases h
  · intro n e; subst e; cases h

theorem rep_of_leaf (p : PrimTy) (v : Val) (hv : p.valueOk v = true) (ht : tzOk v = true) : xsdRepresentable v = true := by
  induction p, v, hv using PrimTy.valueOk_cases <;> first | exact ht | rfl

/-- a conformant leaf that is one of the declared `values` is written as a literal that passes the
    restriction generated for its member, enumeration facets included -/
theorem leaf_simpleOkA (A : App) (G : A.leaf.Good) (p : PrimTy) (v : Val)
    (hv : p.valueOk v = true) (hc : leafCond A p v = true) :
    ∃ s, leafToText A.leaf p v = some s ∧ simpleOk (builtinOf p) (primFacetsA A p) s = true := by
  simp only [leafCond, Bool.and_eq_true, Bool.or_eq_true] at hc
  obtain ⟨htz, hin⟩ := hc
  obtain ⟨s, hs, hn, hl, hf⟩ := leaf_literal A.leaf G A.facts p v hv (rep_of_leaf p v hv htz)
  refine ⟨s, hs, ?_⟩
  simp only [simpleOk, hn, hl, Bool.true_and, primFacetsA, App.enumLits]
  cases he : (A.extraVals p).isEmpty with
  | true => rw [List.isEmpty_iff.mp he]; exact hf
  | false =>
    rw [he] at hin
    obtain ⟨w, hw, heq⟩ := List.any_eq_true.mp (hin.resolve_left Bool.false_ne_true)
    obtain rfl := leafEq_eq v w heq
    obtain ⟨h1, h2⟩ := extraVals_nonstring A p he
    rw [facetsOk_enum_prefix _ _ _ (enums_primFacets A.facts p h1 h2), hf, Bool.and_true, Bool.or_eq_true]
    exact Or.inr (List.contains_iff_mem.mpr (List.mem_filterMap.mpr ⟨v, hw, hs⟩))

end Schema
end SpyneModel
