/-
  C05 for classes with attribute / data members, "only if": whatever document arrives, a value that
  `from_element` delivers under soft validation satisfies every declared constraint — for attribute members
  the facets of the attribute's type and `use="required"`, for the data member the facets of its type —
  at every nesting depth. (xsi:type switched off: `okA` speaks about the declared classes.)
-/
import Proofs.XmlAccept
import Proofs.XmlAttrBasic
import Proofs.XmlAttrRules
namespace SpyneModel
namespace Xml


/-- soft validation of an attribute value / the text of an XmlData member: accepted iff the text is in
    the lexical space of the type and the value satisfies every declared facet -/
theorem soft_modifier_exact {F : Facts08} (L : LeafLaws F) {A : FactsAttr} (hA : A.attrSoftChecked = true) (cfg : Cfg)
    (hs : cfg.soft = true) (p : PrimTy) (s : Text) : modifierValue F A cfg p s = leafSpec F p s := by
  rw [modifierValue_eq L, hs, hA]
  rfl

theorem modifier_acc {F : Facts08} (L : LeafLaws F) {A : FactsAttr} (hA : A.attrSoftChecked = true) (cfg : Cfg)
    (hs : cfg.soft = true) (p : PrimTy) (s : Text) (v : Val) (h : modifierValue F A cfg p s = .ok v) :
    p.valueOk v = true := by
  rw [soft_modifier_exact L hA cfg hs] at h
  exact leafSpec_ok h


/-- what is known about element member `k` after the children `pre` -/
def memberAccA (pre : List Node) (k : Text) (t : TyA) (w : Val) : Prop :=
  if t.occ.repeated then
    (w = .none ∧ pre.countP (fun c => c.name = k) = 0) ∨
    (∃ l, w = .list l ∧ l.length = pre.countP (fun c => c.name = k) ∧ okItemsA false t l = true)
  else
    (pre.countP (fun c => c.name = k) = 0 ∧ w = .none) ∨
    (pre.countP (fun c => c.name = k) > 0 ∧ okOneA false t w = true)

/-- what is known about a slot after the children `pre` and the attributes `seen` -/
def slotAcc (pre : List Node) (seen : List (Text × Text)) (k : Text) (kind : MKind) (t : TyA) (w : Val) : Prop :=
  match kind with
  | .element => memberAccA pre k t w
  | .attribute => (w = .none ∧ seen.lookup k = none) ∨ (modOk t w = true ∧ (seen.lookup k).isSome = true)
  | .data => w = .none ∨ modOk t w = true

def AccInvA (pre : List Node) (seen : List (Text × Text)) : List (Text × MKind × TyA) → List (Text × Val) → Prop
  | [], [] => True
  | (k, kind, t) :: fs, (k', w) :: st => k = k' ∧ slotAcc pre seen k kind t w ∧ AccInvA pre seen fs st
  | _, _ => False

theorem memberAccA_eq (pre : List Node) (k : Text) (t : TyA) (w : Val) :
    memberAccA pre k t w =
      occAcc t.occ (okOneA false t) (okItemsA false t) (pre.countP (fun c => c.name = k)) w := rfl

theorem accInvA_iff {pre : List Node} {seen : List (Text × Text)} :
    (fs : List (Text × MKind × TyA)) → (st : List (Text × Val)) →
    (AccInvA pre seen fs st ↔ Slots (fun k x w => slotAcc pre seen k x.1 x.2 w) fs st)
  | [], [] => Iff.rfl
  | [], _ :: _ => Iff.rfl
  | _ :: _, [] => Iff.rfl
  | (k, kind, t) :: fs, (k', w) :: st => by
    simp only [AccInvA, Slots, accInvA_iff fs st]

theorem accInvA_init (fields : List (Text × MKind × TyA)) : AccInvA [] [] fields (initStateA fields) := by
  refine (accInvA_iff fields _).mpr (Slots.init fields (fun f _ => ?_))
  obtain ⟨k, kind, t⟩ := f
  cases kind
  · exact occAcc_init _ _ _
  · exact Or.inl ⟨rfl, rfl⟩
  · exact Or.inl rfl

theorem accInvA_mono {pre pre' : List Node} {seen seen' : List (Text × Text)}
    (fs : List (Text × MKind × TyA)) (st : List (Text × Val))
    (hmono : ∀ k kind t w, (k, kind, t) ∈ fs → slotAcc pre seen k kind t w → slotAcc pre' seen' k kind t w)
    (h : AccInvA pre seen fs st) : AccInvA pre' seen' fs st :=
  (accInvA_iff fs st).mpr (Slots.mono fs st (fun f hf w => hmono f.1 f.2.1 f.2.2 w hf) ((accInvA_iff fs st).mp h))

/-- `setattr(inst, key, v)`: the slot of `key` takes the new value, every other slot is carried over -/
theorem accInvA_set {pre pre' : List Node} {seen seen' : List (Text × Text)} {key : Text} {kind : MKind} {t : TyA} (v : Val)
    (fs : List (Text × MKind × TyA)) (st : List (Text × Val)) (hnd : namesNodupA fs = true)
    (hl : lookupA fs key = some (kind, t))
    (hother : ∀ k kind t w, (k, kind, t) ∈ fs → k ≠ key → slotAcc pre seen k kind t w → slotAcc pre' seen' k kind t w)
    (hkey : slotAcc pre seen key kind t (stGet st key) → slotAcc pre' seen' key kind t v)
    (h : AccInvA pre seen fs st) : AccInvA pre' seen' fs (stSet st key v) :=
  (accInvA_iff fs _).mpr (Slots.set (R := fun k x w => slotAcc pre seen k x.1 x.2 w) v fs st
    (nodup_of_namesNodupA fs hnd) hl (fun f hf hne w => hother f.1 f.2.1 f.2.2 w hf hne) hkey ((accInvA_iff fs st).mp h))

theorem okItemsA_append {s : Bool} {t : TyA} (l : List Val) (v : Val)
    (hl : okItemsA s t l = true) (hv : okOneA s t v = true) : okItemsA s t (l ++ [v]) = true :=
  all_snoc (g := okItemsA s t) rfl (fun _ _ => rfl) l v hl hv

/-- slots of members whose kind does not depend on what grew are carried over -/
theorem slotAcc_child_ne {pre : List Node} {seen : List (Text × Text)} (c : Node) {k : Text} {kind : MKind} {t : TyA} {w : Val}
    (h : kind = .element → k ≠ c.name) (hs : slotAcc pre seen k kind t w) : slotAcc (pre ++ [c]) seen k kind t w := by
  cases kind
  · have hkc : c.name ≠ k := fun e => h rfl e.symm
    simp only [slotAcc, memberAccA] at hs ⊢
    rw [countP_snoc_ne pre c k hkc]
    exact hs
  · exact hs
  · exact hs

theorem slotAcc_attr_ne {pre : List Node} {seen : List (Text × Text)} (key s : Text) {k : Text} {kind : MKind} {t : TyA} {w : Val}
    (h : kind = .attribute → k ≠ key) (hs : slotAcc pre seen k kind t w) :
    slotAcc pre (seen ++ [(key, s)]) k kind t w := by
  cases kind
  · exact hs
  · simp only [slotAcc] at hs ⊢
    rw [lookup_snoc_ne k key s (h rfl) seen]
    exact hs
  · exact hs


/-- what "only if" needs from the environment -/
structure AccCtxA (F : Facts08) (X : FactsXml) (A : FactsAttr) (cfg : Cfg) : Prop where
  L : LeafLaws F
  /-- `unicode_from_element` validates `''` for an empty element (otherwise `validate_string` never sees the empty string
      of a nillable member) -/
  hE : X.emptyStringText = true
  hs : cfg.soft = true
  /-- with `xsi:type` read, the value may be of a descendant class, and `okOneA` speaks about the declared one -/
  hP : cfg.parseXsiType = false
  /-- attribute values and the data text are validated, and the frequency check counts an attribute member
      among the element's attributes -/
  hA : A.attrSoftChecked = true
  /-- what the attribute loop over a child assigned to the parent's members was never validated -/
  hLeak : A.childAttrsIgnored = true

theorem dataPass_acc {F : Facts08} {X : FactsXml} {A : FactsAttr} {cfg : Cfg} (C : AccCtxA F X A cfg) (text : Option Text)
    (fields : List (Text × MKind × TyA)) (hnd : namesNodupA fields = true) (fs : List (Text × MKind × TyA))
    (hsub : ∀ f ∈ fs, lookupA fields f.1 = some f.2) (st st' : List (Text × Val))
    (hst : AccInvA [] [] fields st) (h : dataPass F A cfg text fs st = .ok st') : AccInvA [] [] fields st' :=
  dataPass_ind F A cfg text fs st st' (fun _ p _ s v st hm hv hst =>
    accInvA_set v fields st hnd (hsub _ hm) (fun _ _ _ _ _ _ hs => hs)
      (fun _ => Or.inr (modifier_acc C.L C.hA cfg C.hs p s v hv)) hst) hst h

theorem attrPass_acc {F : Facts08} {X : FactsXml} {A : FactsAttr} {cfg : Cfg} (C : AccCtxA F X A cfg) (pre : List Node)
    (fields : List (Text × MKind × TyA)) (hnd : namesNodupA fields = true)
    (hprim : ∀ f ∈ fields, f.2.1 = .attribute → isPrimA f.2.2 = true)
    (as seen : List (Text × Text)) (st st' : List (Text × Val)) (hst : AccInvA pre seen fields st)
    (h : attrPass F A cfg fields as st = .ok st') : AccInvA pre (seen ++ as) fields st' := by
  refine attrPass_ind F A cfg fields (P := fun seen st => AccInvA pre seen fields st) ?_ ?_ as seen st st' hst h
  · intro seen key s p o v st hlk hv hst
    exact accInvA_set v fields st hnd hlk (fun _ _ _ _ _ hne hs => slotAcc_attr_ne key s (fun _ => hne) hs)
      (fun _ => Or.inr ⟨modifier_acc C.L C.hA cfg C.hs p s v hv, lookup_snoc_self key s seen⟩) hst
  · intro seen key s st hnot hst
    apply accInvA_mono fields st _ hst
    intro k kind t w hm hs
    apply slotAcc_attr_ne key s _ hs
    intro hkind e
    subst hkind; subst e
    have hl := lookupA_of_memA fields hnd (k, .attribute, t) hm
    obtain ⟨p, o, rfl⟩ := isPrimA_eq (hprim (k, .attribute, t) hm rfl)
    exact hnot p o hl

/-- a primitive never consults the registry: the leaf lemmas of the element-only codec (`leaf_acc`, stated for
    `okOneX I`) are used here at the empty `Iface` and brought over by this equation -/
theorem okOne_prim (I : Iface) (poly s : Bool) (p : PrimTy) (o : Occ) (w : Val) :
    okOneX I poly s (.prim p o) w = okOneA s (.prim p o) w := by
  cases w <;> simp [okOneX, okOneA, Ty.occ, TyA.occ]

/-- at the end of the element: what the invariant knows about a slot after all children and attributes, and the
    member's conjunct of the frequency check, give the member's conjunct of `okFieldsA`. `hd`: the slot of a data
    member may still hold None, which conforms because `kindsWf` makes a data member optional. -/
theorem slotAcc_final {A : FactsAttr} (hA : A.attrSoftChecked = true) {children : List Node} {attrs : List (Text × Text)}
    {k : Text} {kind : MKind} {t : TyA} {w : Val} (hd : kind = .data → t.occ.minOccurs = 0)
    (hm : slotAcc children attrs k kind t w) (hcnt : freqSlot A attrs children (k, kind, t) = true) :
    fieldOkA false kind t w = true := by
  have hmod : ∀ {kind' : MKind}, kind' ≠ .element → modOk t w = true → fieldOkA false kind' t w = true := by
    intro kind' hk hw
    cases t with
    | prim p o => rw [fieldOkA_mod_some hk (PrimTy.valueOk_ne_none hw)]; exact hw
    | obj a b c d e => cases hw
    | arr a b c => cases hw
  cases kind
  · have hcnt' : t.occ.countOk (children.countP (fun c => c.name = k)) = true := by
      simpa [freqSlot, hA, memberCount] using hcnt
    rcases occAcc_final hm hcnt' with ⟨hw, hmin⟩ | ⟨l, hrep, hw, hc, hok⟩ | ⟨hrep, hok⟩
    · subst hw; simp [fieldOkA, hmin]
    · subst hw; simp [fieldOkA, okA, hrep, hc, hok]
    · by_cases hw : w = .none
      · subst hw
        simp only [okOneA] at hok
        simp [fieldOkA, hok, hrep]
      · rw [fieldOkA_elem_some hw, okA_nonrep hrep]
        exact hok
  · rcases hm with ⟨hw, hl⟩ | ⟨hw, _⟩
    · subst hw
      simp only [freqSlot, hA, memberCount, hl, Option.isSome_none, Bool.false_eq_true, if_false, Occ.countOk,
        Bool.and_eq_true, decide_eq_true_eq] at hcnt
      simp only [fieldOkA, decide_eq_true_eq]
      omega
    · exact hmod (by simp) hw
  · rcases hm with hw | hw
    · subst hw; simp [fieldOkA, hd rfl]
    · exact hmod (by simp) hw

theorem accInvA_final (A : FactsAttr) (hA : A.attrSoftChecked = true) (children : List Node) (attrs : List (Text × Text)) :
    (fields : List (Text × MKind × TyA)) → (st : List (Text × Val)) →
    (∀ f ∈ fields, f.2.1 = .data → f.2.2.occ.minOccurs = 0) →
    AccInvA children attrs fields st → fields.all (freqSlot A attrs children) = true →
    okFieldsA false fields st = true
  | [], [], _, _, _ => by simp [okFieldsA]
  | [], _ :: _, _, h, _ => by simp [AccInvA] at h
  | _ :: _, [], _, h, _ => by simp [AccInvA] at h
  | (k, kind, t) :: fs, (k', w) :: st, hdata, h, hf => by
    obtain ⟨hk, hm, hr⟩ := h
    subst hk
    simp only [List.all_cons, Bool.and_eq_true] at hf
    rw [okFieldsA_cons, accInvA_final A hA children attrs fs st (fun f hf => hdata f (List.mem_cons_of_mem _ hf)) hr hf.2,
      slotAcc_final hA (hdata (k, kind, t) List.mem_cons_self) hm hf.1]
    simp


mutual
  theorem fromElementA_acc {F : Facts08} {X : FactsXml} {A : FactsAttr} {cfg : Cfg} (C : AccCtxA F X A cfg) (I : IfaceA)
      (t : TyA) (ht : tyWfA t = true) :
      (x : Node) → (w : Val) → fromElementA F X A cfg I t x = .ok w → okOneA false t w = true
    | .elem ns name attrs text children, w, h => by
      rcases fromElementA_ok h with ⟨_, hn, hv⟩ | ⟨p, o, hr, hl⟩ |
        ⟨cname, cns, cb, fields, o, st1, st2, st3, hr, h1, h2, h3, hfq, hv⟩ | ⟨m, elem, o, vs, hr, hal, hv⟩
      · rw [hv]
        simpa [okOneA, C.hs] using hn
      · cases (resolvedA_off C.hP I t attrs).symm.trans hr
        rw [← okOne_prim ⟨[], [], []⟩ true]
        exact leaf_acc C.L C.hE cfg C.hs ⟨[], [], []⟩ p o text w hl
      · cases (resolvedA_off C.hP I t attrs).symm.trans hr
        simp only [tyWfA, Bool.and_eq_true] at ht
        obtain ⟨⟨⟨⟨hnd, _⟩, hkw⟩, hwf⟩, _⟩ := ht
        have hs1 := dataPass_acc C text fields hnd fields (lookupA_of_memA fields hnd) _ st1 (accInvA_init fields) h1
        have hs2 := childLoopA_acc C I fields hnd hwf children [] st1 st2 hs1 h2
        have hs3 := attrPass_acc C children fields hnd (fun f hf hk => (kindsWf_mod hkw f hf (by rw [hk]; simp)).1)
          attrs [] st2 st3 hs2 h3
        rw [hv]
        simp [okOneA, accInvA_final A C.hA children attrs fields st3 (kindsWf_data_optional hkw) hs3
          (by simpa [C.hs, freqOkA_eq] using hfq)]
      · cases (resolvedA_off C.hP I t attrs).symm.trans hr
        simp only [tyWfA, Bool.and_eq_true] at ht
        rw [hv]
        simpa [okOneA] using arrayLoopA_acc C I elem ht.1 children vs hal

  theorem childLoopA_acc {F : Facts08} {X : FactsXml} {A : FactsAttr} {cfg : Cfg} (C : AccCtxA F X A cfg) (I : IfaceA)
      (fields : List (Text × MKind × TyA)) (hnd : namesNodupA fields = true) (hwf : wfFieldsA fields = true) :
      (cs : List Node) → (pre : List Node) → (st st' : List (Text × Val)) → AccInvA pre [] fields st →
      childLoopA F X A cfg I fields cs st = .ok st' → AccInvA (pre ++ cs) [] fields st'
    | [], pre, st, st', hinv, h => by
      simp only [childLoopA] at h; cases h; simpa using hinv
    | c :: cs, pre, st, st', hinv, h => by
      rw [show pre ++ c :: cs = (pre ++ [c]) ++ cs by simp]
      rcases childLoopA_ok h with ⟨hno, h⟩ | ⟨mt, v, st1, hl, hv, h1, h⟩
      · -- no element member is named like the child: only element slots count children
        refine childLoopA_acc C I fields hnd hwf cs (pre ++ [c]) st st' (accInvA_mono fields st ?_ hinv) h
        intro k kind t w hm hs
        refine slotAcc_child_ne c (fun hkind e => ?_) hs
        subst hkind; subst e
        exact hno t (lookupA_of_memA fields hnd (c.name, .element, t) hm)
      · have hv' := fromElementA_acc C I mt (wf_of_lookupA fields hwf c.name .element mt hl) c v hv
        simp only [childAttrLeak, C.hLeak, if_true] at h1
        cases h1
        refine childLoopA_acc C I fields hnd hwf cs (pre ++ [c]) _ st' ?_ h
        rw [store_eq]
        refine accInvA_set _ fields st hnd hl (fun _ _ _ _ _ hne hs => slotAcc_child_ne c (fun _ => hne) hs) ?_ hinv
        intro hs
        simp only [slotAcc, memberAccA_eq] at hs ⊢
        rw [countP_snoc_eq pre c c.name rfl]
        exact occAcc_step hv' (by simp [okItemsA, hv']) (fun l hl => okItemsA_append l v hl hv') hs

  theorem arrayLoopA_acc {F : Facts08} {X : FactsXml} {A : FactsAttr} {cfg : Cfg} (C : AccCtxA F X A cfg) (I : IfaceA)
      (elem : TyA) (ht : tyWfA elem = true) :
      (cs : List Node) → (vs : List Val) → arrayLoopA F X A cfg I elem cs = .ok vs → okItemsA false elem vs = true
    | [], vs, h => by
      simp only [arrayLoopA] at h; cases h; rfl
    | c :: cs, vs, h => by
      obtain ⟨v, ws, hv, hws, hvs⟩ := arrayLoopA_ok h
      rw [hvs, okItemsA, fromElementA_acc C I elem ht c v hv, arrayLoopA_acc C I elem ht cs ws hws]
      rfl
end

end Xml
end SpyneModel
