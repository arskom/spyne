/-
  C06: the words of the statements that are not words of the model. The theorems of Props/C06.lean and the
  lemmas of the Proofs/Schema* modules are stated with these.
-/
import SpyneModel.SchemaSpec
namespace SpyneModel
namespace Schema
open Xml

@[reducible] def noWs (s : Text) : Prop := ∀ c ∈ s, isXmlSpace c = false

def endsIn (s : Text) (l : List Char) : Prop := ∃ t c, s = t ++ [c] ∧ c ∈ l

/-- a written bound is one of the declared bounds -/
def optSub (a b : Option Int) : Prop := a = none ∨ a = b

/-- the length facets `primFacets` writes for a string type (`primFacets_unicode`), as `unicode_get_restriction_tag`
    does: `length` when the two bounds coincide, else `minLength` unless it is 0 and `maxLength` if there is one -/
def lenFacets (minLen : Nat) (maxLen : Option Nat) : List Facet :=
  if maxLen = some minLen then [.length minLen]
  else (if minLen ≠ 0 then [.minLength minLen] else []) ++ optFacet .maxLength maxLen

/-- the checks of `Decimal._s_customize` that raise ValueError: a bound that excludes the whole base type -/
def rangeSane (k : IntKind) (r : Range) : Bool :=
  (match r.ge, k.hi with | some a, some h => decide (a ≤ h) | _, _ => true) &&
  (match r.gt, k.hi with | some a, some h => decide (a < h) | _, _ => true) &&
  (match r.le, k.lo with | some a, some l => decide (l ≤ a) | _, _ => true) &&
  (match r.lt, k.lo with | some a, some l => decide (l < a) | _, _ => true)

/-- the namespace context only matters for a direct array of a customised primitive -/
def ctxFree : Ty → Bool
  | .arr _ (.prim p _) _ => isEnum p || primIsDefault p
  | .arr _ (.obj _ _ _ _ _) _ => true
  | .arr _ (.arr _ _ _) _ => false
  | _ => true

/-- the flattened members of a class, each with the class that declares it (base chain walked, root first) -/
def declFields (A : App) : Nat → ClassDef → List (ClassDef × (Text × Ty))
  | 0, _ => []
  | f + 1, D =>
    (match parentOf A.iface D with
     | some P => declFields A f P
     | none => []) ++ (ownFields A.iface D).map (fun fl => (D, fl))

/-- `App.noClash`, conjunct by conjunct -/
structure NoClash (A : App) : Prop where
  fs : functional (rawSimple A) = true
  fc : functional (rawComplex A) = true
  disj : ∀ e ∈ rawSimple A, (rawComplex A).lookup e.1 = none

/-- the facts `App.wf` provides, in usable form -/
structure Closed (A : App) : Prop where
  cplx : ∀ D ∈ A.allClasses, (gen A).complex.lookup (D.ns, D.name) = some (classComplex A D).2
  simp : ∀ D ∈ A.allClasses, (gen A).simple.lookup (D.ns, D.name) = none
  pos : ∀ D ∈ A.allClasses, ∀ f ∈ ownFields A.iface D, posOk A (gen A) D.ns D.name f.1 f.2 = true
  chain : ∀ D ∈ A.allClasses, chainOk A.iface (A.iface.classes.length + 1) D = true
  nodup : ∀ D ∈ A.allClasses, namesNodup D.fields = true
  fwf : ∀ D ∈ A.allClasses, fieldsWf D.fields = true
  arrNs : ∀ D ∈ A.allClasses, ∀ f ∈ ownFields A.iface D, arrNsOk A D.ns D.name f.1 f.2 = true
  noClash : NoClash A
  valuesWf : A.valuesWf = true

/-- `complexDefOk`, conjunct by conjunct -/
structure ComplexOk (S : Schema) (e : Key × ComplexDef) : Prop where
  base : ∀ b, e.2.base = some b → S.visible e.1.1 b = true ∧ S.hasComplex b = true
  chain : chainEnds S.complex S.chainBound e.1 = true
  parts : ∀ p ∈ e.2.particles, S.refOk e.1.1 p.type = true ∧ ∀ m, p.occ.maxOccurs = some m → p.occ.minOccurs ≤ m
  distinct : namesDistinct (effParticles S.complex S.chainBound e.1) = true

/-- `Schema.compiles`, conjunct by conjunct -/
structure Compiles (S : Schema) : Prop where
  simple : nodupKeys S.simple = true
  complex : nodupKeys S.complex = true
  elements : nodupKeys S.elements = true
  disjoint : ∀ e ∈ S.simple, S.hasComplex e.1 = false
  simpleOk : ∀ e ∈ S.simple, simpleDefOk e.2 = true
  complexOk : ∀ e ∈ S.complex, complexDefOk S e = true
  elemOk : ∀ e ∈ S.elements, S.visible e.1.1 e.2 = true ∧ (S.hasComplex e.2 || S.hasSimple e.2) = true
  imports : ∀ i ∈ S.imports, i.2 ∈ S.docNs

/-- `A.sameNsChains` beside the `chainOk` of `A.wf`: every class has all its ancestors in its own namespace -/
structure SameNs (A : App) : Prop where
  ok : ∀ D ∈ A.allClasses, chainOk A.iface (A.iface.classes.length + 1) D = true ∧
    chainSameNs A.iface (A.iface.classes.length + 1) D = true

/-- on `x`, the reference validator on the generated schema and validity for the denoted type agree at every
    type position the schema is closed at -/
def GenAgrees (A : App) (x : Node) : Prop :=
  ∀ (cns cname k : Text) (t : Ty) (nillable : Bool),
    posOk A (gen A) cns cname k t = true → (∀ D ∈ nested t, D ∈ A.allClasses) →
    validElem (gen A) (refOf A cns cname k t) nillable x = validS (denoteG A cns t) nillable x

def isOk {α} : Outcome α → Bool
  | .ok _ => true
  | _ => false

def softCfg : Cfg := { validator := .soft }

/-- on `x`, soft validation and validity for the denoted schema type agree for every type `x` is in common form of -/
def SoftAgrees (F : Facts08) (X : FactsXml) (F6 : Facts06) (I : Iface) (x : Node) : Prop :=
  ∀ (t : Ty) (ctx : Text), tyWf t = true → commonForm F X I.tns ctx t x = true →
    isOk (fromElement F X softCfg I t x) = validS (denote (primFacets F6) I.tns ctx t) t.occ.nillable x

end Schema
end SpyneModel
