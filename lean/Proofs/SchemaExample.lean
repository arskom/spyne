import SpyneModel.SchemaAttr
import SpyneModel.SchemaMethods
import SpyneModel.Generated.Facts01
import SpyneModel.Generated.Facts06
import SpyneModel.Generated.Facts08
/-! C06: the three concrete universes of the non-vacuity examples of Props/C06.lean (`Example`, `ExampleX` with a
    cross-namespace inheritance chain, `ExampleA` with attribute and data members); `Example.iface_checks` and
    `ExampleA.iface_checks` evaluate a universe once, the examples quote a conjunct. -/
namespace SpyneModel
namespace Schema
open Xml

namespace Example

def T (s : String) : Text := s.toList
def itemOcc : Occ := { nillable := true, minOccurs := 0, maxOccurs := none }
def baseFields : List (Text × Ty) := [(T "x", .prim (.integer .i8 { ge := some 3 }) {})]
def derFields : List (Text × Ty) :=
  baseFields ++ [(T "ys", .arr (T "{urn:t}string") (.prim (.unicode 0 none none []) itemOcc) {}),
                 (T "u", .prim (.unicode 1 (some 3) none []) { nillable := false, minOccurs := 1 })]
def cBase : ClassDef := { name := T "Base", ns := T "urn:a", base := none, fields := baseFields }
def cDer : ClassDef := { name := T "Derived", ns := T "urn:a", base := some (T "Base"), fields := derFields }
def msgFields : List (Text × Ty) := [(T "d", .obj (T "Derived") (T "urn:a") (some (T "Base")) derFields {})]
def cMsg : ClassDef := { name := T "m", ns := T "urn:t", base := none, fields := msgFields }
/-- Base ⊂ Derived (inheritance, array of strings, restricted string) in `urn:a`; message `m` in `urn:t` -/
def iface : Iface := { classes := [cBase, cDer, cMsg], tns := T "urn:t" }
/-- `m(d = Derived(x = 5, ys = ['a', None], u = 'ab'))` -/
def value : List (Text × Val) :=
  [(T "d", .obj (T "Derived") [(T "x", .int 5), (T "ys", .list [.str (T "a"), .none]), (T "u", .str (T "ab"))])]
/-- the same request with `x = 2` (violates `ge = 3`) -/
def badDoc : Node :=
  .elem (T "urn:t") (T "m") [] none
    [.elem (T "urn:t") (T "d") [] none
      [.elem (T "urn:a") (T "x") [] (some (T "2")) [], .elem (T "urn:a") (T "u") [] (some (T "ab")) []]]
def goodDoc : Node :=
  .elem (T "urn:t") (T "m") [] none
    [.elem (T "urn:t") (T "d") [] none
      [.elem (T "urn:a") (T "x") [] (some (T "3")) [], .elem (T "urn:a") (T "u") [] (some (T "ab")) []]]

/-- `values = [5, 7]` on the `Integer8(ge=3)` member -/
def exVals : List (PrimTy × List Val) := [(.integer .i8 { ge := some 3 }, [.int 5, .int 7])]

theorem value_conforms : conformsOne (ClassDef.toTy cMsg) (.obj cMsg.name value) = true := by
  simp [ClassDef.toTy, cMsg, msgFields, value, derFields, baseFields, conformsOne, conformsFields, conforms, conformsArr,
    Ty.occ, Occ.repeated, PrimTy.valueOk, T, itemOcc, Range.holds, IntKind.lo, IntKind.hi]

open Generated in
/-- The universe under the measured facts, without and with `exVals`, checked in one evaluation. What an evaluation
    costs here is mostly the kernel turning the model's string constants into lists of characters (the 41 of `xsiNs`
    alone cost more than validating `goodDoc`), and it does that once per declaration. -/
theorem iface_checks :
    let A : App := { facts := facts06, leaf := facts08, iface := iface }
    let Av : App := { facts := facts06, leaf := facts08, iface := iface, values := exVals }
    let enc := encode facts08 {} iface cMsg.ns cMsg.name (ClassDef.toTy cMsg) (.obj cMsg.name value)
    let S := (gen A).withMethods { elems := [(T "x0", (T "urn:a", T "Derived"))] }
    (A.wf = true ∧ (gen A).compiles = true ∧ A.sameNsChains = true)
    ∧ enc.map (fun x => (gen A).valid x) = [true]
    ∧ (commonForm facts08 factsXml iface.tns cMsg.ns (ClassDef.toTy cMsg) goodDoc = true ∧
      commonForm facts08 factsXml iface.tns cMsg.ns (ClassDef.toTy cMsg) badDoc = true ∧
      (gen A).valid goodDoc = true ∧ (gen A).valid badDoc = false)
    ∧ (Av.wf = true ∧ (gen Av).compiles = true ∧ (gen Av).valid goodDoc = false ∧
      enc.map (fun x => (gen Av).valid x) = [true])
    ∧ (S.compiles = true ∧ S.elements.lookup (T "urn:t", T "x0") = some (T "urn:a", T "Derived") ∧
      ({ S with imports := S.imports.filter (fun i => i.1 ≠ T "urn:t") } : Schema).compiles = false) := by
  intros
  decide +kernel

end Example

/-! ### a universe with a cross-namespace inheritance chain, for the examples of Props/C06.lean -/
namespace ExampleX
open Example Xml

/-- `urn:b`:Base ⊂ `urn:a`:Derived; message `m` in `urn:t` -/
def cBase : ClassDef := { name := T "Base", ns := T "urn:b", base := none, fields := baseFields }
def cDer : ClassDef := { name := T "Derived", ns := T "urn:a", base := some (T "Base"), fields := derFields }
def cMsg : ClassDef := { name := T "m", ns := T "urn:t", base := none, fields := msgFields }
def iface : Iface := { classes := [cBase, cDer, cMsg], tns := T "urn:t" }
def pm : PrefMap := [(T "urn:t", T "tns"), (T "urn:a", T "s0"), (T "urn:b", T "s1"),
  (T "http://www.w3.org/2001/XMLSchema", T "xs")]
/-- `<tns:m><tns:d><s1:x>3</s1:x><s0:u>ab</s0:u></tns:d></tns:m>`: the inherited member is in the
    namespace of the class that declares it -/
def goodDoc : Node :=
  .elem (T "urn:t") (T "m") [] none
    [.elem (T "urn:t") (T "d") [] none
      [.elem (T "urn:b") (T "x") [] (some (T "3")) [], .elem (T "urn:a") (T "u") [] (some (T "ab")) []]]
/-- the same with the inherited member in the subclass's namespace -/
def wrongNsDoc : Node :=
  .elem (T "urn:t") (T "m") [] none
    [.elem (T "urn:t") (T "d") [] none
      [.elem (T "urn:a") (T "x") [] (some (T "3")) [], .elem (T "urn:a") (T "u") [] (some (T "ab")) []]]

end ExampleX

/-! ### a universe with attributes, simple content and a choice group, for the examples of Props/C06.lean -/
namespace ExampleA
open Example

def optOcc : Occ := {}
def reqOcc : Occ := { minOccurs := 1 }
def str : PrimTy := .unicode 0 none none []
def moneyFields : List (Text × MKind × TyA) :=
  [(T "value", .data, .prim (.integer .i8 {}) optOcc), (T "cur", .attribute, .prim str reqOcc)]
def baseFields : List (Text × MKind × TyA) :=
  [(T "x", .element, .prim (.integer .i8 { ge := some 3 }) optOcc), (T "id", .attribute, .prim (.integer .unbounded {}) optOcc)]
def derFields : List (Text × MKind × TyA) :=
  baseFields ++ [(T "u", .element, .prim str optOcc), (T "ver", .attribute, .prim (.unicode 0 (some 3) none []) optOcc),
                 (T "c1", .element, .prim str optOcc), (T "c2", .element, .prim str optOcc)]
def cMoney : ClassDefA := { name := T "Money", ns := T "urn:a", base := none, fields := moneyFields }
def cBase : ClassDefA := { name := T "Base", ns := T "urn:a", base := none, fields := baseFields }
def cDer : ClassDefA := { name := T "Der", ns := T "urn:a", base := some (T "Base"), fields := derFields }
def msgFields : List (Text × MKind × TyA) :=
  [(T "d", .element, .obj (T "Der") (T "urn:a") (some (T "Base")) derFields optOcc),
   (T "mo", .element, .obj (T "Money") (T "urn:a") none moneyFields optOcc)]
def cMsg : ClassDefA := { name := T "m", ns := T "urn:t", base := none, fields := msgFields }
/-- Money (simple content + required attribute), Base ⊂ Der (inherited attribute, a customised
    attribute, a choice between c1 and c2), message `m` -/
def iface : IfaceA := { classes := [cMoney, cBase, cDer, cMsg], tns := T "urn:t" }
def modNs : List (Text × Text) := [(T "str", T "spyne.model.primitive.string")]
def choice : List ((Key × Text) × Text) :=
  [(((T "urn:a", T "Der"), T "c1"), T "g"), (((T "urn:a", T "Der"), T "c2"), T "g")]

def doc (dattrs : List (Text × Text)) (dkids : List Node) (mattrs : List (Text × Text)) (mtext : Option Text) : Node :=
  .elem (T "urn:t") (T "m") [] none
    [.elem (T "urn:t") (T "d") dattrs none dkids, .elem (T "urn:t") (T "mo") mattrs mtext []]
def x3 : Node := .elem (T "urn:a") (T "x") [] (some (T "3")) []
def el (k v : String) : Node := .elem (T "urn:a") (T k) [] (some (T v)) []
/-- `<m><d id="7" ver="ab"><x>3</x><u>q</u><c1>z</c1></d><mo cur="EUR">5</mo></m>` -/
def good : Node := doc [(T "id", T "7"), (T "ver", T "ab")] [x3, el "u" "q", el "c1" "z"] [(T "cur", T "EUR")] (some (T "5"))
/-- the required attribute `cur` left out -/
def noCur : Node := doc [(T "id", T "7")] [x3] [] (some (T "5"))
/-- both alternatives of the choice -/
def both : Node := doc [] [x3, el "c1" "z", el "c2" "z"] [(T "cur", T "EUR")] (some (T "5"))
/-- `ver` longer than its `max_len = 3` -/
def longVer : Node := doc [(T "ver", T "abcd")] [x3] [(T "cur", T "EUR")] (some (T "5"))
/-- simple content that is not an `xs:byte` -/
def badData : Node := doc [] [x3] [(T "cur", T "EUR")] (some (T "500"))
/-- an attribute nobody declares -/
def undeclared : Node := doc [(T "zz", T "1")] [x3] [(T "cur", T "EUR")] (some (T "5"))

open Generated in
/-- the universe under the measured facts: the generated set, and the verdicts on the six documents, in one evaluation -/
theorem iface_checks :
    let A : AppA := { facts := facts06, leaf := facts08, iface := iface, modNs := modNs, choice := choice }
    (A.wf = true ∧ (genA A).compiles = true ∧
      (genA A).ximports = [(T "urn:a", T "spyne.model.primitive.string")])
    ∧ ((genA A).valid good = true ∧ (genA A).valid noCur = false ∧ (genA A).valid both = false ∧
      (genA A).valid longVer = false ∧ (genA A).valid badData = false ∧ (genA A).valid undeclared = false) := by
  intros
  decide +kernel

end ExampleA

end Schema
end SpyneModel
