/-
  Lemmas about the C18 model (SpyneModel/Null.lean), general in `F : Facts18`, the protocol configuration `P`
  and the value transfer `τ`. `NullServer` and the wire agree because they agree at each of three steps: the
  arguments the function receives (`recv_agree`), the call (`call_agree`), the delivery of its result against
  serialise → transmit → decode (`deliver_agree`); `null_eq_wire` composes them. Behind it: keyword against
  positional invocation (`packArgs_kw_eq_pos`), then faults, `Ignored` and generator results.
-/
import Proofs.Assoc
import SpyneModel.Null
namespace SpyneModel.Null

/-- `overlay` and `clientOverlay` slot by slot: what `_FunctionCall.__call__`, and what Python's binding of arguments,
    leaves in the slot of key `q.1` that holds `q.2` -/
def kwPick (F : Facts18) (kw : List (String × Val)) (q : String × Val) : Val :=
  match lookup q.1 kw with
  | some w => if w.isNone && F.kwNoneSkipped then q.2 else w
  | none => q.2

def kwBind (kw : List (String × Val)) (q : String × Val) : Val :=
  match lookup q.1 kw with
  | some w => w
  | none => q.2

theorem overlay_eq_map (F : Facts18) (kw : List (String × Val)) :
    ∀ (keys : List String) (base : List Val), overlay F keys base kw = (keys.zip base).map (kwPick F kw)
  | [], _ => by simp [overlay]
  | _ :: _, [] => by simp [overlay]
  | k :: ks, v :: vs => congrArg (_ :: ·) (overlay_eq_map F kw ks vs)

theorem clientOverlay_eq_map (kw : List (String × Val)) :
    ∀ (keys : List String) (base : List Val), clientOverlay keys base kw = (keys.zip base).map (kwBind kw)
  | [], _ => by simp [clientOverlay]
  | _ :: _, [] => by simp [clientOverlay]
  | k :: ks, v :: vs => congrArg (_ :: ·) (clientOverlay_eq_map kw ks vs)

theorem overlay_length (F : Facts18) : ∀ (keys : List String) (base : List Val) (kw : List (String × Val)),
    keys.length = base.length → (overlay F keys base kw).length = keys.length := by
  intro keys base kw h
  simp [overlay_eq_map, h]

theorem fillPos_length (n : Nat) (pos : List Val) (h : pos.length ≤ n) : (fillPos n pos).length = n := by
  simp [fillPos]; omega

theorem lookup_eq (k : String) : ∀ kw : List (String × Val), lookup k kw = kw.lookup k
  | [] => rfl
  | (k', v) :: kw => by
    rw [lookup, List.lookup_cons, lookup_eq k kw]
    by_cases h : k' = k
    · subst h; simp
    · rw [if_neg h, beq_false_of_ne (Ne.symm h)]

theorem lookup_mem {k : String} {kw : List (String × Val)} {v : Val} (h : lookup k kw = some v) : (k, v) ∈ kw :=
  mem_of_lookup (lookup_eq k kw ▸ h)

/-- under `KwOk`, NullServer's overlay is Python's binding of keyword arguments -/
theorem overlay_eq_clientOverlay (F : Facts18) (kw : List (String × Val)) (hkw : KwOk F kw)
    (keys : List String) (base : List Val) : overlay F keys base kw = clientOverlay keys base kw := by
  rw [overlay_eq_map, clientOverlay_eq_map]
  refine List.map_congr_left fun q _ => ?_
  unfold kwPick kwBind
  cases hl : lookup q.1 kw with
  | none => rfl
  | some w =>
    cases hkw with
    | inl h => simp [h]
    | inr h => simp [show w.isNone = false from h _ (lookup_mem hl)]

theorem mem_clientOverlay {kw : List (String × Val)} {x : Val} {keys : List String} {base : List Val}
    (h : x ∈ clientOverlay keys base kw) : x ∈ base ∨ ∃ k, (k, x) ∈ kw := by
  rw [clientOverlay_eq_map] at h
  obtain ⟨q, hq, rfl⟩ := List.mem_map.1 h
  unfold kwBind
  cases hl : lookup q.1 kw with
  | none => exact Or.inl (List.of_mem_zip hq).2
  | some w => exact Or.inr ⟨_, lookup_mem hl⟩

theorem mem_fillPos {n : Nat} {pos : List Val} {x : Val} (h : x ∈ fillPos n pos) : x ∈ pos ∨ x = .none := by
  simp only [fillPos, List.mem_append, List.mem_replicate] at h
  rcases h with h | h
  · left; exact h
  · right; exact h.2

theorem xfer_none (τ : Val → Val) : xfer τ .none = .none := rfl

theorem map_xfer_id (τ : Val → Val) (xs : List Val) (h : ∀ v ∈ xs, Survives τ v) : xs.map (xfer τ) = xs :=
  (List.map_congr_left h).trans (List.map_id' xs)

theorem packed_survive (τ : Val → Val) (keys : List String) (pos : List Val) (kw : List (String × Val))
    (hpos : ∀ v ∈ pos, Survives τ v) (hkw : ∀ p ∈ kw, Survives τ p.2) :
    ∀ v ∈ clientOverlay keys (fillPos keys.length pos) kw, Survives τ v := by
  intro v hv
  rcases mem_clientOverlay hv with h | ⟨k, h⟩
  · rcases mem_fillPos h with h | h
    · exact hpos v h
    · subst h; rfl
  · exact hkw (k, v) h

/-- argument packing agreement: the user function is called with the same arguments -/
theorem recv_agree (F : Facts18) (P : ProtoCfg) (hP : P.Good) (τ : Val → Val) (s : Sig)
    (pos : List Val) (kw : List (String × Val)) (hkw : KwOk F kw) (hcall : CallOk τ s pos kw) :
    nullRecv F s pos kw = wireRecvOf P τ s pos kw := by
  unfold nullRecv wireRecvOf
  cases hk : s.inKeys with
  | none => rfl
  | some keys =>
    have hlen := hcall.1 keys hk
    have hnl : ¬ keys.length < pos.length := by omega
    simp only [packArgs, clientPack, hnl, if_false, Res.bind]
    rw [overlay_eq_clientOverlay F kw hkw]
    have hsv := packed_survive τ keys pos kw hcall.2.1 hcall.2.2
    simp only [shapeArgs, wireRecv, hP.2.1, map_xfer_id τ _ hsv]

theorem bodyStyle_wrapped_iff (s : Sig) : s.bodyStyle = .wrapped ↔ s.style = .wrapped := by
  unfold Sig.bodyStyle
  cases s.style <;> simp <;> split <;> (try split) <;> simp

theorem bodyStyle_of_wrapped {s : Sig} (h : s.style = .wrapped) : s.bodyStyle = .wrapped :=
  (bodyStyle_wrapped_iff s).2 h

namespace Facts18.Good
variable {F : Facts18} (h : F.Good)
include h
theorem isOutBare : ∀ b, F.isOutBare b = decide (b ≠ .wrapped)
  | .wrapped => h.1
  | .empty => h.2.1
  | .bare => h.2.2.1
  | .outBare => h.2.2.2.1
  | .emptyOutBare => h.2.2.2.2.1
theorem wrapUpTo : F.wrapUpTo = 1 := h.2.2.2.2.2.1
theorem cbOrder : F.cbOrder = .noReturnFirst := h.2.2.2.2.2.2.1
theorem ignMany : F.ignMany = .nones := h.2.2.2.2.2.2.2.1
theorem ewWrapper : F.ewWrapper = true := h.2.2.2.2.2.2.2.2.1
theorem ewMembers : F.ewMembers = true := h.2.2.2.2.2.2.2.2.2
end Facts18.Good

/-- `is_out_bare()` is exactly "the decorator was given a body style other than wrapped" -/
theorem isOutBare_iff (F : Facts18) (hF : F.Good) (s : Sig) :
    F.isOutBare s.bodyStyle = true ↔ s.style ≠ .wrapped := by
  rw [hF.isOutBare, decide_eq_true_iff, Ne, bodyStyle_wrapped_iff]

theorem takeOut_exact (P : ProtoCfg) : ∀ (n : Nat) (vs : List Val), vs.length = n → takeOut P n vs = .ok vs
  | 0, [], _ => rfl
  | 0, _ :: _, h => by simp at h
  | n + 1, [], h => by simp at h
  | n + 1, x :: xs, h => by
    simp only [takeOut]
    rw [takeOut_exact P n xs (by simpa using h)]
    rfl

theorem map_xfer_replicate_none (τ : Val → Val) (n : Nat) :
    (List.replicate n Val.none).map (xfer τ) = List.replicate n Val.none := by
  simp [List.map_replicate, xfer]

theorem singleAs_good (P : ProtoCfg) (hP : P.noneSingle = .nil) (s : Sig) (v : Val) : singleAs P s v = v := by
  simp [singleAs, hP]

theorem unwrapWrapped_many (P : ProtoCfg) (s : Sig) : ∀ (n : Nat) (l : List Val), 2 ≤ n →
    unwrapWrapped P s n l = .seq l
  | n + 2, _, _ => by simp [unwrapWrapped]
  | 0, _, h => by omega
  | 1, _, h => by omega

/-- with both tests in place `_is_empty_wrapper` says exactly "nothing is declared to come back" -/
theorem isEmptyWrapper_good (F : Facts18) (h1 : F.ewWrapper = true) (h2 : F.ewMembers = true) (s : Sig) :
    isEmptyWrapper F s = s.noReturn := by
  unfold isEmptyWrapper Sig.outMembers Sig.outIsWrapper Sig.noReturn Sig.outLen Returns.truthy
  cases s.style <;> cases s.returns <;> simp [h1, h2]
  all_goals (first | (rename_i n; cases n <;> simp; done) | (rename_i k; cases k.complexFields <;> simp))

/-- for a wrapped method "nothing is declared to come back" is "no return value" -/
theorem noReturn_wrapped {s : Sig} (h : s.style = .wrapped) : s.noReturn = decide (s.outLen = 0) := by
  unfold Sig.noReturn Sig.outLen Returns.truthy
  rw [h]
  cases s.returns with
  | many n => cases n <;> rfl
  | _ => rfl

/-- `process_request` wraps the result in a list unless two or more return values are declared -/
theorem wrapOut_single (F : Facts18) (hw : F.wrapUpTo = 1) (s : Sig) (h : ¬ (s.style = .wrapped ∧ 2 ≤ s.outLen))
    (r : Val) : wrapOut F s r = .seq [r] := by
  by_cases hst : s.style = .wrapped
  · have : s.outLen ≤ 1 := Nat.le_of_not_lt fun h2 => h ⟨hst, h2⟩
    simp [wrapOut, hw, this]
  · simp [wrapOut, bodyStyle_wrapped_iff, hst]

theorem wrapOut_many (F : Facts18) (hw : F.wrapUpTo = 1) (s : Sig) (h : s.style = .wrapped ∧ 2 ≤ s.outLen)
    (r : Val) : wrapOut F s r = r := by
  have : ¬ s.outLen ≤ 1 := by omega
  simp [wrapOut, hw, bodyStyle_of_wrapped h.1, this]

theorem outLen_le_one {s : Sig} (hm : ¬ (s.style = .wrapped ∧ 2 ≤ s.outLen)) (hst : s.style = .wrapped) :
    s.outLen = 0 ∨ s.outLen = 1 := by
  have : ¬ 2 ≤ s.outLen := fun h => hm ⟨hst, h⟩
  omega

theorem bareNoneAs_of_ne_none (P : ProtoCfg) (s : Sig) (v : Val) (h : v.isNone = false) :
    bareNoneAs P s v = v := by
  unfold bareNoneAs
  split
  · cases h
  · rfl

theorem viewVal_of_ne_none (P : ProtoCfg) (s : Sig) (v : Val) (h : v.isNone = false) :
    viewVal P s v = v := by
  unfold viewVal; split
  · rfl
  · exact bareNoneAs_of_ne_none P s v h

/-- the effect of `_bare_response`, whichever way the protocol goes: a `None` returned where a
    member-less class is declared arrives as `None` or as an empty instance of that class, and
    everything else is untouched -/
theorem viewVal_cases (P : ProtoCfg) (s : Sig) (v : Val) :
    viewVal P s v = v ∨
    (∃ cls, P.bareNone = .emptyInstance ∧ s.style ≠ .wrapped ∧ s.returns = .one (.complex cls []) ∧
      v = .none ∧ viewVal P s v = .obj cls []) := by
  unfold viewVal bareNoneAs
  split
  · exact Or.inl rfl
  · next hst =>
    split
    · next cls hb hr => exact Or.inr ⟨cls, hb, hst, hr, rfl, rfl⟩
    · exact Or.inl rfl

theorem viewVal_nil (P : ProtoCfg) (h : P.bareNone = .nil) (s : Sig) (v : Val) : viewVal P s v = v := by
  simp [viewVal, bareNoneAs, h]

/-- an `Ignored` result is handed to the direct caller as it is -/
theorem cbSync_ignored (F : Facts18) (hF : F.Good) (s : Sig) (x : Val) :
    cbSync F s (wrapOut F s (.ignored x)) = .ok (.ignored x) := by
  by_cases hm : s.style = .wrapped ∧ 2 ≤ s.outLen
  · have h0 : s.outLen ≠ 0 := by omega
    have h1 : s.outLen ≠ 1 := by omega
    rw [wrapOut_many F hF.wrapUpTo s hm]
    simp [cbSync, hF.cbOrder, isEmptyWrapper_good F hF.ewWrapper hF.ewMembers s, noReturn_wrapped hm.1,
      bodyStyle_of_wrapped hm.1, hF.isOutBare, h0, h1]
  · rw [wrapOut_single F hF.wrapUpTo s hm]; rfl

/-- the reply to a method with two or more declared return values: the members of `ctx.out_object`, each transmitted -/
theorem respondCore_many (P : ProtoCfg) (τ : Val → Val) (s : Sig) (hm : s.style = .wrapped ∧ 2 ≤ s.outLen)
    (vs : List Val) (hlen : vs.length = s.outLen) :
    respondCore P τ s (.seq vs) = .ok (.seq (vs.map (xfer τ))) := by
  simp only [respondCore, bodyStyle_of_wrapped hm.1, if_true, takeOut_exact P _ _ hlen, Res.bind,
    unwrapWrapped_many P s _ _ hm.2]

/-- the reply to any other method: the only member of `ctx.out_object`, transmitted; `None` when nothing is declared -/
theorem respondCore_one (P : ProtoCfg) (hP : P.Good) (τ : Val → Val) (s : Sig)
    (h1 : ¬ (s.style = .wrapped ∧ 2 ≤ s.outLen)) (v : Val) :
    respondCore P τ s (.seq [v]) = .ok (if s.noReturn then .none else xfer τ v) := by
  obtain ⟨hb, _, hns⟩ := hP
  by_cases hst : s.style = .wrapped
  · simp only [respondCore, bodyStyle_of_wrapped hst, if_true]
    rcases outLen_le_one h1 hst with h | h <;>
      simp [noReturn_wrapped hst, h, takeOut, Res.bind, unwrapWrapped, singleAs_good P hns]
  · have hbs : s.bodyStyle ≠ .wrapped := fun h => hst ((bodyStyle_wrapped_iff s).1 h)
    simp only [respondCore, hbs, if_false, hb, first]
    cases s.noReturn <;> rfl

/-- … and sent as the empty reply -/
theorem respondCore_ignored (F : Facts18) (hF : F.Good) (P : ProtoCfg) (hP : P.Good) (τ : Val → Val)
    (s : Sig) (x : Val) :
    respondCore P τ s (ignoredOnWire F s (wrapOut F s (.ignored x))) = .ok (emptyReply s) := by
  by_cases hm : s.style = .wrapped ∧ 2 ≤ s.outLen
  · rw [wrapOut_many F hF.wrapUpTo s hm]
    simp only [ignoredOnWire, hF.ignMany]
    rw [respondCore_many P τ s hm _ (List.length_replicate ..), map_xfer_replicate_none]
    simp [emptyReply, bodyStyle_of_wrapped hm.1, hm.2]
  · rw [wrapOut_single F hF.wrapUpTo s hm]
    show respondCore P τ s (.seq [.none]) = _
    rw [respondCore_one P hP τ s hm]
    cases s.noReturn <;> simp [emptyReply, bodyStyle_wrapped_iff, hm, xfer]

theorem wireView_plain (s : Sig) (r : Val) (h : r.isIgnored = false) :
    wireView s (.ok r) = .ok (norm r) := by
  cases r with
  | ignored x => cases h
  | _ => rfl

/-- `cbSync` past its first `match`, which only looks for an `Ignored` at the head of the sequence: the chain of tests
    of its second arm, as a rewriting rule for a head that is known not to be `Ignored` but not known otherwise -/
theorem cbSync_seq_plain (F : Facts18) (s : Sig) (r : Val) (rest : List Val) (h : r.isIgnored = false) :
    cbSync F s (.seq (r :: rest)) =
      (if F.cbOrder = .noReturnFirst && isEmptyWrapper F s then .ok .none
       else if F.isOutBare s.bodyStyle then first (.seq (r :: rest))
       else if s.bodyStyle = .empty then .ok .none
       else if s.outLen = 0 then .ok .none
       else if s.outLen = 1 then first (.seq (r :: rest))
       else .ok (.seq (r :: rest))) := by
  cases r with
  | ignored x => cases h
  | _ => rfl

theorem ignoredOnWire_seq_plain (F : Facts18) (s : Sig) (r : Val) (rest : List Val) (h : r.isIgnored = false) :
    ignoredOnWire F s (.seq (r :: rest)) = .seq (r :: rest) := by
  cases r with
  | ignored x => cases h
  | _ => rfl

/-- two or more declared return values: a conformant result is a non-empty sequence -/
theorem ResultOk.many {τ : Val → Val} {s : Sig} {r : Val} (hok : ResultOk τ s r) (hr : r.isIgnored = false)
    (hm : s.style = .wrapped ∧ 2 ≤ s.outLen) : ∃ v rest, r = .seq (v :: rest) ∧ v.isIgnored = false := by
  rcases hok with hok | ⟨_, hok⟩
  · simp [hr] at hok
  rw [if_pos hm] at hok
  obtain ⟨vs, rfl, hlen, hall⟩ := hok
  match vs, hlen, hall with
  | [], hlen, _ => simp at hlen; omega
  | v :: rest, _, hall => exact ⟨v, rest, rfl, (hall v (by simp)).1⟩

/-- `_cb_sync` on a result that is not `Ignored`: the result itself, `None` when nothing is declared -/
theorem cbSync_plain (F : Facts18) (hF : F.Good) (s : Sig) (r : Val) (hr : r.isIgnored = false)
    (hmany : s.style = .wrapped ∧ 2 ≤ s.outLen → ∃ v rest, r = .seq (v :: rest) ∧ v.isIgnored = false) :
    cbSync F s (wrapOut F s r) = .ok (if s.noReturn then .none else r) := by
  have hc := hF.cbOrder
  have hew := isEmptyWrapper_good F hF.ewWrapper hF.ewMembers s
  by_cases hm : s.style = .wrapped ∧ 2 ≤ s.outLen
  · obtain ⟨v, rest, rfl, hv⟩ := hmany hm
    have h0 : s.outLen ≠ 0 := by omega
    have h1 : s.outLen ≠ 1 := by omega
    rw [wrapOut_many F hF.wrapUpTo s hm, cbSync_seq_plain F s v rest hv]
    simp [hc, hew, noReturn_wrapped hm.1, bodyStyle_of_wrapped hm.1, hF.isOutBare, h0, h1]
  · rw [wrapOut_single F hF.wrapUpTo s hm, cbSync_seq_plain F s r [] hr]
    by_cases hst : s.style = .wrapped
    · have := outLen_le_one hm hst
      rcases this with h | h <;> simp [hc, hew, noReturn_wrapped hst, bodyStyle_of_wrapped hst, hF.isOutBare, h, first]
    · cases hnr : s.noReturn <;> simp [hc, hew, hnr, (isOutBare_iff F hF s).2 hst, first]

/-- the wire client's reply for a conformant result that is not `Ignored`: the result as transmitted,
    `None` when nothing is declared -/
theorem respondCore_plain (F : Facts18) (hF : F.Good) (P : ProtoCfg) (hP : P.Good) (τ : Val → Val)
    (s : Sig) (r : Val) (hr : r.isIgnored = false) (hok : ResultOk τ s r) :
    respondCore P τ s (ignoredOnWire F s (wrapOut F s r)) = .ok (if s.noReturn then .none else norm r) := by
  have hw := hF.wrapUpTo
  rcases hok with hok | ⟨_, hok⟩
  · simp [hr] at hok
  by_cases hm : s.style = .wrapped ∧ 2 ≤ s.outLen
  · rw [if_pos hm] at hok
    obtain ⟨vs, rfl, hlen, hall⟩ := hok
    have hnr : s.noReturn = false := by simp [noReturn_wrapped hm.1]; omega
    match vs, hlen, hall with
    | [], hlen, _ => simp at hlen; omega
    | v :: rest, hlen, hall =>
      rw [wrapOut_many F hw s hm, ignoredOnWire_seq_plain F s v rest (hall v (by simp)).1,
        respondCore_many P τ s hm _ hlen, map_xfer_id τ _ fun w hw => (hall w hw).2, hnr]
      rfl
  · rw [if_neg hm] at hok
    rw [wrapOut_single F hw s hm, ignoredOnWire_seq_plain F s r [] hr, respondCore_one P hP τ s hm]
    cases hnr : s.noReturn
    · simp [show xfer τ r = norm r by simpa [hnr] using hok]
    · rfl

/-- the result of a conformant program is delivered alike: what `_cb_sync` hands to the direct caller, seen from the
    wire, is what the protocol sends and the client decodes -/
theorem deliver_agree (F : Facts18) (hF : F.Good) (P : ProtoCfg) (hP : P.Good) (τ : Val → Val)
    (s : Sig) (r : Val) (hok : ResultOk τ s r) :
    wireViewP P s (cbSync F s (wrapOut F s r)) = respond P τ s (ignoredOnWire F s (wrapOut F s r)) := by
  unfold respond wireViewP
  cases hr : r.isIgnored with
  | true =>
    match r, hr with
    | .ignored x, _ => rw [cbSync_ignored F hF s x, respondCore_ignored F hF P hP τ s x]; rfl
  | false =>
    rw [cbSync_plain F hF s r hr (hok.many hr), respondCore_plain F hF P hP τ s r hr hok]
    cases s.noReturn
    · exact congrArg _ (wireView_plain s r hr)
    · rfl

theorem wireView_fault (s : Sig) (c : Flt) : wireView s (.fault c : Res Val) = .fault c := rfl

/-- the wire call: the arguments the function receives, the call, the reply -/
theorem wireCall_eq_bind (F : Facts18) (P : ProtoCfg) (τ : Val → Val) (s : Sig) (impl : List Val → Result)
    (pos : List Val) (kw : List (String × Val)) :
    wireCall F P τ s impl pos kw = (wireRecvOf P τ s pos kw).bind fun recv =>
      (process F s impl recv).bind fun out => respond P τ s (ignoredOnWire F s out) := by
  unfold wireCall wireRecvOf
  cases s.inKeys with
  | none => rfl
  | some keys =>
    dsimp only
    cases clientPack keys pos kw <;> rfl

/-- two ways of delivering the result of the same call agree (up to `g`, which leaves errors alone) when they
    agree on every result the program gives on the received arguments -/
theorem call_agree (F : Facts18) (s : Sig) (impl : List Val → Result) (g : Res Val → Res Val)
    (hf : ∀ c, g (.fault c) = .fault c) (he : ∀ e, g (.exc e) = .exc e) (k₁ k₂ : Val → Res Val)
    (recv : Res (List Val))
    (h : ∀ args r, recv = .ok args → impl args = .value r → g (k₁ (wrapOut F s r)) = k₂ (wrapOut F s r)) :
    g (recv.bind fun args => (process F s impl args).bind k₁) =
      recv.bind fun args => (process F s impl args).bind k₂ := by
  cases recv with
  | fault c => exact hf c
  | exc e => exact he e
  | ok args =>
    simp only [Res.bind, process]
    cases hi : impl args with
    | fault c => exact hf c
    | error => exact hf _
    | value r => exact h args r rfl hi

/-- `NullServer` agrees with the wire for every signature, every program and every conformant call -/
theorem null_eq_wire (F : Facts18) (hF : F.Good) (P : ProtoCfg) (hP : P.Good) (τ : Val → Val)
    (s : Sig) (impl : List Val → Result) (pos : List Val) (kw : List (String × Val))
    (hprog : ProgramOkOn τ s impl (nullRecv F s pos kw)) (hkw : KwOk F kw) (hcall : CallOk τ s pos kw) :
    wireViewP P s (nullCall F s impl pos kw) = wireCall F P τ s impl pos kw := by
  rw [wireCall_eq_bind, ← recv_agree F P hP τ s pos kw hkw hcall]
  exact call_agree F s impl _ (fun _ => rfl) (fun _ => rfl) _ _ _ fun args r hr hi =>
    deliver_agree F hF P hP τ s r (hprog args r hr hi)

theorem ProgramOk.on {τ : Val → Val} {s : Sig} {impl : List Val → Result} (h : ProgramOk τ s impl)
    (recv : Res (List Val)) : ProgramOkOn τ s impl recv :=
  fun args r _ hi => h args r hi

theorem ProtoCfg.Good.of_mem {F : Facts18} (h : F.xml.Good ∧ F.soap.Good ∧ F.json.Good) {P : ProtoCfg}
    (hP : P = F.xml ∨ P = F.soap ∨ P = F.json) : P.Good := by
  rcases hP with rfl | rfl | rfl
  · exact h.1
  · exact h.2.1
  · exact h.2.2

theorem lookup_none_of_not_mem {k : String} {kw : List (String × Val)} (h : ∀ p ∈ kw, p.1 ≠ k) : lookup k kw = none :=
  (lookup_eq k kw).trans (lookup_eq_none.2 h)

theorem overlay_congr (F : Facts18) (kw kw' : List (String × Val)) (keys : List String) (base : List Val)
    (h : ∀ k ∈ keys, lookup k kw = lookup k kw') : overlay F keys base kw = overlay F keys base kw' := by
  rw [overlay_eq_map, overlay_eq_map]
  refine List.map_congr_left fun q hq => ?_
  simp only [kwPick, h _ (List.of_mem_zip hq).1]

theorem overlay_append (F : Facts18) (kw : List (String × Val)) (K1 : List String) (B1 : List Val)
    (K2 : List String) (B2 : List Val) (h : K1.length = B1.length) :
    overlay F (K1 ++ K2) (B1 ++ B2) kw = overlay F K1 B1 kw ++ overlay F K2 B2 kw := by
  simp only [overlay_eq_map, List.zip_append h, List.map_append]

theorem overlay_no_kw (F : Facts18) (kw : List (String × Val)) (keys : List String) (base : List Val)
    (h : keys.length = base.length) (hn : ∀ k ∈ keys, lookup k kw = none) : overlay F keys base kw = base := by
  rw [overlay_eq_map]
  refine (List.map_congr_left fun q hq => ?_).trans (List.map_snd_zip (Nat.le_of_eq h.symm))
  simp only [kwPick, hn _ (List.of_mem_zip hq).1]

theorem packArgs_pos (F : Facts18) (keys : List String) (args : List Val) (h : args.length ≤ keys.length) :
    packArgs F keys args [] = .ok (fillPos keys.length args) := by
  have hnl : ¬ keys.length < args.length := by omega
  simp only [packArgs, hnl, if_false]
  rw [overlay_no_kw F [] keys _ (by rw [fillPos_length _ _ h]) (fun _ _ => rfl)]

theorem eq_none_of_isNone {v : Val} (h : v.isNone = true) : v = .none := by
  cases v with
  | none => rfl
  | _ => cases h

/-- among distinct keys, a keyword list made of some of the pairs finds a key's own pair or nothing -/
theorem lookup_filter_zip (p : String × Val → Bool) (ks : List String) (vs : List Val) (hlen : ks.length ≤ vs.length)
    (hnd : ks.Nodup) (q : String × Val) (hq : q ∈ ks.zip vs) :
    lookup q.1 ((ks.zip vs).filter p) = if p q then some q.2 else none := by
  have hz : ((ks.zip vs).map (·.1)).Nodup := by rwa [List.map_fst_zip hlen]
  rw [lookup_eq]
  split
  · next hp => exact lookup_of_mem_nodup (((List.filter_sublist).map _).nodup hz) (List.mem_filter.2 ⟨hq, hp⟩)
  · next hp =>
    refine lookup_eq_none.2 fun e he hk => hp ?_
    have := eq_of_nodup_map (·.1) hz (List.mem_filter.1 he).1 hq hk
    exact this ▸ (List.mem_filter.1 he).2

/-- keyword values for a block of keys, on a base of `None`s: every key gets its value
    (a `None` value is either skipped or written over a `None`) -/
theorem overlay_zip_filter (F : Facts18) (p : String × Val → Bool)
    (hp : ∀ q, p q = false → q.2.isNone = true) (ks : List String) (vs : List Val) (hnd : ks.Nodup)
    (hlen : vs.length = ks.length) :
    overlay F ks (List.replicate ks.length Val.none) ((ks.zip vs).filter p) = vs := by
  rw [overlay_eq_map, ← hlen, ← List.map_const', List.zip_map_right, List.map_map]
  refine (List.map_congr_left fun q hq => ?_).trans (List.map_snd_zip (Nat.le_of_eq hlen))
  show kwPick F _ (q.1, Val.none) = q.2
  unfold kwPick
  rw [lookup_filter_zip p ks vs (Nat.le_of_eq hlen.symm) hnd q hq]
  cases hpq : p q
  · exact (eq_none_of_isNone (hp q hpq)).symm
  · show (if q.2.isNone && F.kwNoneSkipped then Val.none else q.2) = q.2
    split
    · next h => exact (eq_none_of_isNone (Bool.and_eq_true_iff.1 h).1).symm
    · rfl

/-- Passing the first arguments positionally and any of the remaining ones by keyword (those
    that are `None` may be left out, `p` selects which are passed) is the same as passing all
    of them positionally. -/
theorem packArgs_kw_eq_pos (F : Facts18) (K1 K2 : List String) (A1 A2 : List Val)
    (p : String × Val → Bool) (hp : ∀ q, p q = false → q.2.isNone = true)
    (hnd : (K1 ++ K2).Nodup) (h1 : A1.length = K1.length) (h2 : A2.length = K2.length) :
    packArgs F (K1 ++ K2) A1 ((K2.zip A2).filter p) = packArgs F (K1 ++ K2) (A1 ++ A2) [] := by
  rw [packArgs_pos F _ _ (by simp [h1, h2])]
  have hnl : ¬ (K1 ++ K2).length < A1.length := by simp [h1]
  simp only [packArgs, hnl, if_false]
  congr 1
  have hf1 : fillPos (K1 ++ K2).length A1 = A1 ++ List.replicate K2.length Val.none := by
    simp [fillPos, h1]
  have hf2 : fillPos (K1 ++ K2).length (A1 ++ A2) = A1 ++ A2 := by
    simp [fillPos, h1, h2]
  rw [hf1, hf2, overlay_append F _ K1 A1 K2 _ h1.symm]
  have hdis : ∀ k ∈ K1, k ∉ K2 := fun k hk hk2 => (List.nodup_append.1 hnd).2.2 k hk k hk2 rfl
  rw [overlay_no_kw F _ K1 A1 h1.symm]
  · rw [overlay_zip_filter F p hp K2 A2 (List.nodup_append.1 hnd).2.1 h2]
  · intro k hk
    apply lookup_none_of_not_mem
    intro q hq h
    have := (List.of_mem_zip (List.mem_filter.1 hq).1).1
    rw [h] at this
    exact hdis k hk this

/-- a keyword that is not an argument name is ignored by `NullServer` -/
theorem packArgs_unknown_kw (F : Facts18) (keys : List String) (pos : List Val) (kw : List (String × Val))
    (k : String) (v : Val) (hk : k ∉ keys) :
    packArgs F keys pos ((k, v) :: kw) = packArgs F keys pos kw := by
  simp only [packArgs]
  split
  · rfl
  · congr 1
    apply overlay_congr
    intro k' hk'
    have : k ≠ k' := fun h => hk (h ▸ hk')
    simp [lookup, this]

theorem overlay_kw_none (F : Facts18) (hF : F.kwNoneSkipped = true) (kw : List (String × Val)) (k : String)
    (hk : ∀ q ∈ kw, q.1 ≠ k) (keys : List String) (base : List Val) :
    overlay F keys base ((k, .none) :: kw) = overlay F keys base kw := by
  rw [overlay_eq_map, overlay_eq_map]
  refine List.map_congr_left fun q _ => ?_
  unfold kwPick
  by_cases h : k = q.1
  · subst h; simp [lookup, lookup_none_of_not_mem hk, Val.isNone, hF]
  · simp [lookup, h]

/-- the stated asymmetry: a keyword argument that is `None` leaves the positional value -/
theorem packArgs_kw_none (F : Facts18) (hF : F.kwNoneSkipped = true) (keys : List String)
    (pos : List Val) (kw : List (String × Val)) (k : String) (hk : ∀ q ∈ kw, q.1 ≠ k) :
    packArgs F keys pos ((k, .none) :: kw) = packArgs F keys pos kw := by
  simp only [packArgs, overlay_kw_none F hF kw k hk]

theorem nullCall_congr_pack (F : Facts18) (s : Sig) (impl : List Val → Result) (keys : List String)
    (hk : s.inKeys = some keys) (pos pos' : List Val) (kw kw' : List (String × Val))
    (h : packArgs F keys pos kw = packArgs F keys pos' kw') :
    nullCall F s impl pos kw = nullCall F s impl pos' kw' := by
  simp only [nullCall, nullRecv, hk, h]

/-- keyword and positional invocation through `NullServer` are equivalent -/
theorem nullCall_kw_eq_pos (F : Facts18) (s : Sig) (impl : List Val → Result) (K1 K2 : List String)
    (hk : s.inKeys = some (K1 ++ K2)) (hnd : (K1 ++ K2).Nodup) (A1 A2 : List Val)
    (p : String × Val → Bool) (hp : ∀ q, p q = false → q.2.isNone = true)
    (h1 : A1.length = K1.length) (h2 : A2.length = K2.length) :
    nullCall F s impl A1 ((K2.zip A2).filter p) = nullCall F s impl (A1 ++ A2) [] :=
  nullCall_congr_pack F s impl _ hk _ _ _ _ (packArgs_kw_eq_pos F K1 K2 A1 A2 p hp hnd h1 h2)

theorem nullRecv_ok (F : Facts18) (s : Sig) (keys : List String) (hk : s.inKeys = some keys)
    (pos : List Val) (kw : List (String × Val)) (hlen : pos.length ≤ keys.length) :
    ∃ recv, nullRecv F s pos kw = .ok recv := by
  have hnl : ¬ keys.length < pos.length := by omega
  simp [nullRecv, hk, packArgs, hnl]

/-- a raised `Fault` reaches the direct caller and the wire client with its fault code; any other
    exception reaches both as a `Server` fault -/
theorem fault_both (F : Facts18) (P : ProtoCfg) (τ : Val → Val) (s : Sig) (impl : List Val → Result)
    (keys : List String) (hk : s.inKeys = some keys) (pos : List Val) (kw : List (String × Val))
    (hlen : pos.length ≤ keys.length) (c : Flt)
    (himpl : ∀ recv, impl recv = .fault c ∨ (impl recv = .error ∧ c = "Server")) :
    nullCall F s impl pos kw = .fault c ∧ wireCall F P τ s impl pos kw = .fault c := by
  have hnl : ¬ keys.length < pos.length := by omega
  constructor
  · simp only [nullCall, nullRecv, hk, packArgs, hnl, if_false, Res.bind, process]
    rcases himpl (shapeArgs s keys (overlay F keys (fillPos keys.length pos) kw)) with h | ⟨h, hc⟩
    · rw [h]
    · rw [h, hc]
  · simp only [wireCall, hk, clientPack, hnl, if_false, Res.bind, process]
    rcases himpl (wireRecv P τ s keys (clientOverlay keys (fillPos keys.length pos) kw)) with h | ⟨h, hc⟩
    · rw [h]
    · rw [h, hc]

/-- an `Ignored` return is delivered to the direct caller and sent as empty over the wire -/
theorem ignored_direct_vs_wire (F : Facts18) (hF : F.Good) (P : ProtoCfg) (hP : P.Good) (τ : Val → Val)
    (s : Sig) (impl : List Val → Result) (keys : List String) (hk : s.inKeys = some keys)
    (pos : List Val) (kw : List (String × Val)) (hlen : pos.length ≤ keys.length) (x : Val)
    (himpl : ∀ recv, impl recv = .value (.ignored x)) :
    nullCall F s impl pos kw = .ok (.ignored x) ∧
    wireCall F P τ s impl pos kw = .ok (viewVal P s (emptyReply s)) := by
  have hnl : ¬ keys.length < pos.length := by omega
  constructor
  · simp only [nullCall, nullRecv, hk, packArgs, hnl, if_false, Res.bind, process, himpl, cbSync_ignored F hF s x]
  · simp only [wireCall, hk, clientPack, hnl, if_false, Res.bind, process, himpl]
    rw [← deliver_agree F hF P hP τ s _ (Or.inl rfl), cbSync_ignored F hF s x]
    rfl

/-- when nothing is declared to come back the direct caller gets `None`, whatever the function
    returns (as the wire client does) -/
theorem no_return_is_none (F : Facts18) (hF : F.Good) (s : Sig) (hnr : s.noReturn = true)
    (impl : List Val → Result) (pos : List Val) (kw : List (String × Val)) (v : Val)
    (h : nullCall F s impl pos kw = .ok v) : v = .none ∨ v.isIgnored = true := by
  simp only [nullCall] at h
  cases hr : nullRecv F s pos kw with
  | fault c => simp [hr, Res.bind] at h
  | exc e => simp [hr, Res.bind] at h
  | ok recv =>
    simp only [hr, Res.bind, process] at h
    cases hi : impl recv with
    | fault c => simp [hi] at h
    | error => simp [hi] at h
    | value r =>
      simp only [hi] at h
      cases hig : r.isIgnored with
      | true =>
        match r, hig with
        | .ignored x, _ =>
          rw [cbSync_ignored F hF s x] at h
          cases h; exact Or.inr rfl
      | false =>
        have hone : ¬ (s.style = .wrapped ∧ 2 ≤ s.outLen) := fun hm => by
          have := (noReturn_wrapped hm.1).symm.trans hnr
          have := of_decide_eq_true this
          omega
        rw [cbSync_plain F hF s r hig (fun hm => absurd hm hone), hnr] at h
        cases h; exact Or.inl rfl

/-- a conformant result is always extracted -/
theorem cbSync_ok_of_resultOk (F : Facts18) (hF : F.Good) (τ : Val → Val) (s : Sig) (r : Val)
    (hok : ResultOk τ s r) : ∃ v, cbSync F s (wrapOut F s r) = .ok v := by
  cases hig : r.isIgnored with
  | true =>
    match r, hig with
    | .ignored x, _ => exact ⟨_, cbSync_ignored F hF s x⟩
  | false => exact ⟨_, cbSync_plain F hF s r hig (hok.many hig)⟩

/-- a conformant call through `NullServer` ends in a value or a `Fault`, never in another
    exception class -/
theorem null_total (F : Facts18) (hF : F.Good) (s : Sig) (impl : List Val → Result) (keys : List String)
    (hk : s.inKeys = some keys) (pos : List Val) (kw : List (String × Val))
    (hlen : pos.length ≤ keys.length) (τ : Val → Val) (hprog : ProgramOk τ s impl) :
    ∀ e, nullCall F s impl pos kw ≠ .exc e := by
  intro e h
  obtain ⟨recv, hr⟩ := nullRecv_ok F s keys hk pos kw hlen
  simp only [nullCall, hr, Res.bind, process] at h
  cases hi : impl recv with
  | fault c => simp [hi] at h
  | error => simp [hi] at h
  | value r =>
    obtain ⟨v, hv⟩ := cbSync_ok_of_resultOk F hF τ s r (hprog _ _ hi)
    simp [hi, hv] at h

/-- a single declared return value is handed to the direct caller as it is -/
theorem cbSync_single (F : Facts18) (hF : F.Good) (s : Sig) (r : Val) (hr : r.isIgnored = false)
    (hnr : s.noReturn = false) (h1 : ¬ (s.style = .wrapped ∧ 2 ≤ s.outLen)) :
    cbSync F s (wrapOut F s r) = .ok r := by
  rw [cbSync_plain F hF s r hr (fun hm => absurd hm h1), hnr]; rfl

/-- a generator result: the direct caller gets the generator, the wire client the sequence of
    its items -/
theorem generator_result (F : Facts18) (hF : F.Good) (P : ProtoCfg) (hP : P.Good) (τ : Val → Val)
    (s : Sig) (impl : List Val → Result) (keys : List String) (hk : s.inKeys = some keys)
    (pos : List Val) (kw : List (String × Val)) (hlen : pos.length ≤ keys.length) (xs : List Val)
    (hnr : s.noReturn = false) (h1 : ¬ (s.style = .wrapped ∧ 2 ≤ s.outLen))
    (himpl : ∀ recv, impl recv = .value (.gen xs)) (hτ : τ (.seq xs) = .seq xs) :
    nullCall F s impl pos kw = .ok (.gen xs) ∧ wireCall F P τ s impl pos kw = .ok (.seq xs) := by
  have hnl : ¬ keys.length < pos.length := by omega
  have hcb := cbSync_single F hF s (.gen xs) rfl hnr h1
  have hok : ResultOk τ s (.gen xs) := by
    right
    refine ⟨rfl, ?_⟩
    rw [if_neg h1]
    right
    simp [xfer, norm, hτ]
  constructor
  · simp only [nullCall, nullRecv, hk, packArgs, hnl, if_false, Res.bind, process, himpl, hcb]
  · simp only [wireCall, hk, clientPack, hnl, if_false, Res.bind, process, himpl]
    rw [← deliver_agree F hF P hP τ s _ hok, hcb]
    exact congrArg Res.ok (viewVal_of_ne_none P s _ rfl)

/-- a declared return type is handed over as it is, also when it is a class without members -/
theorem cbSync_declared_one (F : Facts18) (hF : F.Good) (s : Sig) (k : RetKind) (hk : s.returns = .one k)
    (r : Val) (hr : r.isIgnored = false) : cbSync F s (wrapOut F s r) = .ok r := by
  apply cbSync_single F hF s r hr
  · unfold Sig.noReturn Returns.truthy
    cases s.style <;> simp [hk]
  · intro h
    have : s.outLen = 1 := by simp [Sig.outLen, hk]
    omega

end SpyneModel.Null
