/-
  Lemmas about the C13 model (SpyneModel/Wsgi.lean), general in `F : Facts13`; the property
  theorems in Props/C13.lean instantiate them with the regenerated facts.

  One decomposition of the trace of a request carries everything, `handle_parts` (any facts): body reads,
  the user function at most once, the user-set headers, then `finish (response …) abort`, none of whose
  events is of these three kinds (`finish_late`). With the good facts the last part is `answer o abort`
  (`handle_answered`), and the response clauses are lemmas about traces of that shape (`Answered.*`).
  What `process` comes to is described once, by the invariant `Result.Spec` that every building block of
  the response keeps.
-/
import SpyneModel.Wsgi
namespace SpyneModel.Wsgi
open SpyneModel


theorem noneBefore_append {p q : Ev → Bool} {l₁ l₂ : List Ev} (h₁ : ∀ e ∈ l₁, p e = false)
    (h₂ : noneBefore p q l₂ = true) : noneBefore p q (l₁ ++ l₂) = true := by
  induction l₁ with
  | nil => exact h₂
  | cons e t ih =>
    have ⟨he, ht⟩ := List.forall_mem_cons.1 h₁
    simp [noneBefore, he, ih ht]

theorem noneBefore_cons {p q : Ev → Bool} {e : Ev} {l : List Ev} (h : noneBefore p q l = true)
    (he : p e = false := by rfl) : noneBefore p q (e :: l) = true :=
  noneBefore_append (l₁ := [e]) (List.forall_mem_singleton.2 he) h

theorem noneAfter_blind {p q : Ev → Bool} {l : List Ev} (h : ∀ e ∈ l, p e = false) :
    noneAfter p q l = true := by
  induction l with
  | nil => rfl
  | cons e t ih =>
    have ⟨_, ht⟩ := List.forall_mem_cons.1 h
    simp only [noneAfter, ih ht]
    split
    · simpa using ht
    · rfl

theorem noneAfter_append {p q : Ev → Bool} {l₁ l₂ : List Ev} (h₁ : ∀ e ∈ l₁, q e = false)
    (h₂ : noneAfter p q l₂ = true) : noneAfter p q (l₁ ++ l₂) = true := by
  induction l₁ with
  | nil => exact h₂
  | cons e t ih =>
    have ⟨he, ht⟩ := List.forall_mem_cons.1 h₁
    simp [noneAfter, he, ih ht]

theorem noneAfter_cons {p q : Ev → Bool} {e : Ev} {l : List Ev} (h : noneAfter p q l = true)
    (he : q e = false := by rfl) : noneAfter p q (e :: l) = true :=
  noneAfter_append (l₁ := [e]) (List.forall_mem_singleton.2 he) h

theorem countP_blind {p : Ev → Bool} {l : List Ev} (h : ∀ e ∈ l, p e = false) : List.countP p l = 0 :=
  List.countP_eq_zero.2 fun e he => by simp [h e he]

theorem bytesGot_append (l₁ l₂ : List Ev) : bytesGot (l₁ ++ l₂) = bytesGot l₁ + bytesGot l₂ := by
  induction l₁ with
  | nil => simp [bytesGot]
  | cons e t ih => cases e <;> simp only [List.cons_append, bytesGot, ih, Nat.add_assoc]

theorem bytesGot_blind {l : List Ev} (h : ∀ e ∈ l, isRead e = false) : bytesGot l = 0 := by
  induction l with
  | nil => rfl
  | cons e t ih =>
    have ⟨he, ht⟩ := List.forall_mem_cons.1 h
    cases e with
    | read a g => cases he
    | _ => exact ih ht

theorem bodyBytes_append (l₁ l₂ : List Ev) : bodyBytes (l₁ ++ l₂) = bodyBytes l₁ + bodyBytes l₂ := by
  induction l₁ with
  | nil => simp [bodyBytes]
  | cons e t ih => cases e <;> simp only [List.cons_append, bodyBytes, ih, Nat.add_assoc]

theorem bodyBytes_blind {l : List Ev} (h : ∀ e ∈ l, isChunk e = false) : bodyBytes l = 0 := by
  induction l with
  | nil => rfl
  | cons e t ih =>
    have ⟨he, ht⟩ := List.forall_mem_cons.1 h
    cases e with
    | chunk n b => cases he
    | _ => exact ih ht


/-- an event that precedes the response: a read, the user function, a user-set header -/
def isPre (e : Ev) : Bool := isRead e || isUser e || isHdr e

/- The `blind_*` lemmas: an observer that is false on the constructors a segment is made of is false
   on the segment. For the observers of the model these side conditions hold by `rfl`, which is their
   default proof. -/

theorem blind_pre {p : Ev → Bool} {l : List Ev} (hl : ∀ e ∈ l, isPre e = true)
    (hr : ∀ a g, p (.read a g) = false := by exact fun _ _ => rfl) (hu : p .user = false := by rfl)
    (hh : ∀ k b, p (.hdr k b) = false := by exact fun _ _ => rfl) : ∀ e ∈ l, p e = false := by
  intro e he
  have h := hl e he
  cases e with
  | read a g => exact hr a g
  | user => exact hu
  | hdr k b => exact hh k b
  | _ => cases h

theorem not_isPre {e : Ev} (h : isPre e = false) : isRead e = false ∧ isUser e = false ∧ isHdr e = false := by
  simpa [isPre, Bool.or_eq_false_iff, and_assoc] using h

theorem mem_chunkEvs {cs : List (Nat × Bool)} {e : Ev} (h : e ∈ chunkEvs cs) :
    ∃ n b, e = .chunk n b ∧ (n, b) ∈ cs := by
  obtain ⟨c, hc, rfl⟩ := List.mem_map.1 h
  exact ⟨c.1, c.2, rfl, hc⟩

theorem blind_chunks {p : Ev → Bool} (cs : List (Nat × Bool))
    (hp : ∀ n b, p (.chunk n b) = false := by exact fun _ _ => rfl) : ∀ e ∈ chunkEvs cs, p e = false := by
  intro e he
  obtain ⟨n, b, rfl, _⟩ := mem_chunkEvs he
  exact hp n b

theorem blind_aux {p : Ev → Bool} (o : Out) (hp : p .aux = false := by rfl) : ∀ e ∈ auxEvs o, p e = false := by
  intro e he
  unfold auxEvs at he
  split at he
  · rwa [List.mem_singleton.1 he]
  · cases he

theorem finalOnce_sub (o : Out) : ∀ e ∈ finalOnce o, e ∈ [Ev.ctxClosed, .wsgiClose, .lraise] := by
  unfold finalOnce
  cases o.closes <;> cases o.onClose <;> decide

theorem finalOnce_counts (o : Out) :
    List.countP isLraise (finalOnce o) ≤ 1 ∧ (o.closes ≠ .never → List.countP isClosed (finalOnce o) = 1) ∧
    (o.closes = .rpc → List.countP isWsgiClose (finalOnce o) = if o.onClose = .ctxClosedRaises then 0 else 1) := by
  unfold finalOnce
  cases o.closes <;> cases o.onClose <;> decide

theorem finalAgain_sub (o : Out) : ∀ e ∈ finalAgain o, e ∈ [Ev.ctxClosed, .wsgiClose, .lraise] := by
  unfold finalAgain
  cases o.closes <;> decide

theorem blind_final {p : Ev → Bool} {l : List Ev} (hl : ∀ e ∈ l, e ∈ [Ev.ctxClosed, .wsgiClose, .lraise])
    (h₁ : p .ctxClosed = false := by rfl) (h₂ : p .wsgiClose = false := by rfl)
    (h₃ : p .lraise = false := by rfl) : ∀ e ∈ l, p e = false := by
  intro e he
  have := hl e he
  simp only [List.mem_cons, List.not_mem_nil, or_false] at this
  rcases this with rfl | rfl | rfl <;> assumption

theorem sum_map_fst_map (l : List Nat) : sum ((l.map (fun n => (n, true))).map (·.1)) = sum l := by
  simp [List.map_map, Function.comp_def]

theorem bodyBytes_chunkEvs (cs : List (Nat × Bool)) : bodyBytes (chunkEvs cs) = sum (cs.map (·.1)) := by
  induction cs with
  | nil => rfl
  | cons c t ih => simp only [chunkEvs, List.map_cons, bodyBytes, sum, List.foldr_cons] at ih ⊢; rw [ih]

theorem taken_sizes_le (abort : Option Nat) (cs : List (Nat × Bool)) :
    sum ((taken abort cs).map (·.1)) ≤ sum (cs.map (·.1)) := by
  cases abort with
  | none => exact Nat.le_refl _
  | some k =>
    simp only [taken]
    induction cs generalizing k with
    | nil => simp
    | cons a t ih =>
      cases k with
      | zero => simp [sum]
      | succ k => have := ih k; simp only [sum, List.take_succ_cons, List.map_cons, List.foldr_cons] at this ⊢; omega

theorem taken_sub (abort : Option Nat) (cs : List (Nat × Bool)) : ∀ c ∈ taken abort cs, c ∈ cs := by
  cases abort with
  | none => exact fun _ h => h
  | some k => exact fun _ h => List.mem_of_mem_take h


/-- a `read` event a well-behaved reader may produce: never asks for more than a block,
    never gets more than it asked for -/
def okRead (cfg : Cfg) : Ev → Prop
  | .read a g => a ≤ cfg.blockLen ∧ g ≤ a
  | _ => False

/-- what a run of the loop that starts with `br` bytes counted leaves behind: block-wise reads, one per
    stream element plus at most one that sees the end; the counter it reports is what it obtained;
    `bytes_read ≤ length` is invariant, so the bytes obtained stay within what was declared; and the guard
    inside the loop (`bytes_to_read + bytes_read > max_content_length`) is dead code once the declared
    length passed the check in front of the loop -/
structure Reads (cfg : Cfg) (length br : Nat) (stream : List Nat) (r : List Ev × ReadRes) : Prop where
  ok : ∀ e ∈ r.1, okRead cfg e
  count : r.1.length ≤ stream.length + 1
  done : ∀ n, r.2 = .done n → n = br + bytesGot r.1
  within : br ≤ length → br + bytesGot r.1 ≤ length
  notTooLong : br ≤ length → length ≤ cfg.maxLen → r.2 ≠ .tooLong

theorem readLoop_spec (cfg : Cfg) (length br : Nat) (stream : List Nat) :
    Reads cfg length br stream (readLoop cfg length br stream) := by
  fun_induction readLoop cfg length br stream
  -- the one recursive case: a non-empty answer to a read within the limit
  case case6 br a rest _ ask _ got _ r ih =>
    have ih : Reads cfg length (br + got) rest r := ih
    refine ⟨List.forall_mem_cons.2 ⟨⟨Nat.min_le_left .., Nat.min_le_left ..⟩, ih.ok⟩, ?_, fun n hn => ?_,
      fun h => ?_, fun h => ih.notTooLong (by omega)⟩
    · have := ih.count
      simp only [List.length_cons]; omega
    · have := ih.done n hn
      simp only [bytesGot]; omega
    · have := ih.within (by omega)
      simp only [bytesGot]; omega
  all_goals constructor <;> simp [okRead, bytesGot] <;> omega

/-- what the reader guarantees whatever the CONTENT_LENGTH says and whatever the stream does: at most
    `max_content_length` bytes are obtained, never more than the declared length, and the request-too-long
    fault can only come from the check in front of the loop -/
structure BodyRead (cfg : Cfg) (cl : Option Text) (stream : List Nat) (r : List Ev × ReadRes) : Prop where
  ok : ∀ e ∈ r.1, okRead cfg e
  count : r.1.length ≤ stream.length + 1
  done : ∀ n, r.2 = .done n → n = bytesGot r.1
  bounded : bytesGot r.1 ≤ cfg.maxLen
  declared : ∀ d, declaredLength cfg cl = some d → bytesGot r.1 ≤ d.toNat
  tooLong : r.2 = .tooLong ↔ ∃ d, declaredLength cfg cl = some d ∧ d > (cfg.maxLen : Int)

theorem readBody_spec (cfg : Cfg) (cl : Option Text) (stream : List Nat) :
    BodyRead cfg cl stream (readBody cfg cl stream) := by
  unfold readBody
  split
  · next hd => constructor <;> simp [hd, bytesGot]
  · next d hd =>
    split
    · next h => constructor <;> simp [hd, h, bytesGot]
    · next h =>
      have s := readLoop_spec cfg d.toNat 0 stream
      have hw := s.within (Nat.zero_le _)
      refine ⟨s.ok, s.count, fun n hn => by simpa using s.done n hn, by omega, fun d' hd' => ?_, ?_⟩
      · cases hd.symm.trans hd'; omega
      · simpa [hd, h] using s.notTooLong (Nat.zero_le _) (by omega)

theorem readBody_declared_over {cfg : Cfg} {cl : Option Text} {d : Int} (stream : List Nat)
    (hd : declaredLength cfg cl = some d) (h : d > (cfg.maxLen : Int)) :
    readBody cfg cl stream = ([], .tooLong) := by
  simp [readBody, hd, h]


/-- a response as the property wants it: finalised after the body by the rpc finalizer, bytes only, a
    Content-Length (when there is one) that is the size of the whole body, no exception out of the
    auxiliary run -/
structure Out.WF (o : Out) : Prop where
  timing : o.timing = .afterBody
  bytes : ∀ c ∈ o.chunks, c.2 = true
  cl : ∀ n, o.cl = some n → n = sum (o.chunks.map (·.1))
  noEscape : o.auxEscapes = false
  closes : o.closes = .rpc


namespace Facts13.Good
variable {F : Facts13} (h : F.Good)
include h
theorem closeTiming : F.closeTiming = .afterBody := h.1
theorem wsdlCloseTiming : F.wsdlCloseTiming = .afterBody := h.2.1
theorem joinKind : F.joinKind = .bytes := h.2.2.1
theorem clParse : F.clParse = .fault := h.2.2.2.1
theorem genGuard : F.genGuard = true := h.2.2.2.2.1
theorem soapEmptyBodyFault : F.soapEmptyBodyFault = true := h.2.2.2.2.2.1
theorem returnEventBeforeLength : F.returnEventBeforeLength = true := h.2.2.2.2.2.2.1
theorem errorEventBeforeLength : F.errorEventBeforeLength = true := h.2.2.2.2.2.2.2.1
theorem auxGuardOk : F.auxGuardOk = true := h.2.2.2.2.2.2.2.2.1
theorem auxGuardError : F.auxGuardError = true := h.2.2.2.2.2.2.2.2.2.1
theorem finalizeClearedFirst : F.finalizeClearedFirst = true := h.2.2.2.2.2.2.2.2.2.2.1
theorem lateJoinGuard : F.lateJoinGuard = .all := h.2.2.2.2.2.2.2.2.2.2.2.2.2
theorem errMat : ∀ k, errMaterialised F k = true
  | .list => rfl
  | .generator => h.2.2.2.2.2.2.2.2.2.2.2.1
  | .iterator => h.2.2.2.2.2.2.2.2.2.2.2.2.1
end Facts13.Good

theorem errBody_eq_measured (F : Facts13) (req : Req) (hm : ∀ k, errMaterialised F k = true) :
    errBody F req = errMeasured req := by
  unfold errBody errMeasured
  cases req.onException with
  | some w => rfl
  | none => simp [hm]

theorem errorOut_cl (F : Facts13) (req : Req) (p : Option Nat) (fc : FaultClass) :
    ∃ o, errorOut F req p fc = .out o ∧ o.cl = some (errLen F req) := ⟨_, rfl, rfl⟩


theorem StatusSource.fault (F : Facts13) (req : Req) (fc : FaultClass) :
    StatusSource F req (faultStatus F req fc) := by
  unfold faultStatus
  split
  · exact .inr (.inl ⟨fc, rfl⟩)
  · exact .inl ⟨fc, rfl⟩

theorem StatusSource.preset {F : Facts13} {req : Req} {x : Nat} (h : x ∈ req.presets) : StatusSource F req x :=
  .inr (.inr (.inr (.inr h)))

theorem StatusSource.getD {F : Facts13} {req : Req} {p : Option Nat} {d : Nat}
    (hp : ∀ x, p = some x → StatusSource F req x) (hd : StatusSource F req d) : StatusSource F req (p.getD d) := by
  cases p with
  | none => exact hd
  | some x => exact hp x rfl


/-- what every response `process` builds satisfies, whatever the facts: a status that comes from the
    tables or from the user function, a Content-Length when the body is joined — and the shape `Out.WF`
    under the good facts -/
structure Out.Spec (F : Facts13) (cfg : Cfg) (req : Req) (o : Out) : Prop where
  status : StatusSource F req o.status
  hasCl : cfg.chunked = false → ∃ n, o.cl = some n
  wf : F.Good → o.WF

/-- what `process` comes to: a response as above, or an exception that only facts that are not good let
    through -/
def Result.Spec (F : Facts13) (cfg : Cfg) (req : Req) : Result → Prop
  | .crash _ => ¬ F.Good
  | .out o => o.Spec F cfg req

variable {F : Facts13} {cfg : Cfg} {req : Req}

/-- with the good facts every request is answered: no exception escapes, and the answer is finalised
    after its body -/
theorem Result.Spec.answered {r : Result} (h : r.Spec F cfg req) (hF : F.Good) :
    ∃ o, r = .out o ∧ o.Spec F cfg req ∧ o.WF := by
  cases r with
  | crash c => exact absurd hF h
  | out o => exact ⟨o, rfl, h, Out.Spec.wf h hF⟩

theorem errorOut_spec (p : Option Nat) (fc : FaultClass) (hp : ∀ x, p = some x → StatusSource F req x) :
    (errorOut F req p fc).Spec F cfg req :=
  ⟨.getD hp (.fault F req fc), fun _ => ⟨_, rfl⟩, fun hF => by
    refine ⟨hF.closeTiming, fun c hc => ?_, fun n hn => ?_, rfl, rfl⟩
    · obtain ⟨a, _, rfl⟩ := List.mem_map.1 hc
      rfl
    · cases hn
      simp only [errLen, hF.errorEventBeforeLength, if_true, errBody_eq_measured F req hF.errMat, sum_map_fst_map]⟩

theorem successOut_spec (r : Resp) (hr : ∀ x, r.preset = some x → StatusSource F req x) :
    (successOut F cfg r).Spec F cfg req := by
  have hs : StatusSource F req (r.preset.getD F.okStatus) := .getD hr (.inr (.inr (.inr (.inl rfl))))
  unfold successOut
  split
  · next hc =>
    refine ⟨hs, fun h => by simp [hc] at h, fun hF => ⟨hF.closeTiming, fun c hc => ?_, fun n hn => ?_, rfl, rfl⟩⟩
    · obtain ⟨a, _, rfl⟩ := List.mem_map.1 hc
      rfl
    · split at hn
      · cases hn; exact (sum_map_fst_map _).symm
      · cases hn
  · split
    · refine ⟨hs, fun _ => ⟨_, rfl⟩, fun hF => ⟨hF.closeTiming, fun c hc => ?_, fun n hn => ?_, rfl, rfl⟩⟩
      · cases List.mem_singleton.1 hc
        rfl
      · cases hn
        simp [sum]
    · next hj =>
      -- `''.join`: an answer of one `str` chunk or a TypeError, neither under the good facts
      have hb : ¬ F.Good := fun hF => by simp [hF.joinKind] at hj
      split
      · exact ⟨hs, fun _ => ⟨_, rfl⟩, fun hF => absurd hF hb⟩
      · exact hb

theorem withReturnListener_spec (r : Resp) (hr : ∀ x, r.preset = some x → StatusSource F req x) :
    (withReturnListener F cfg req r).Spec F cfg req := by
  unfold withReturnListener
  split
  · exact successOut_spec r hr
  · split
    · exact successOut_spec _ hr
    · next hb =>
      -- the event fired after the length was taken: status and header are those of the original stream
      have hbad : ¬ F.Good := fun hF => hb hF.returnEventBeforeLength
      have := successOut_spec (F := F) (cfg := cfg) r hr
      split
      · exact hbad
      · next o ho =>
        rw [ho] at this
        exact ⟨this.status, this.hasCl, fun hF => absurd hF hbad⟩

/-- a guard that catches everything keeps the auxiliary run from disturbing the answer -/
theorem withAux_spec (runs g : Bool) {r : Result} (hg : F.Good → g = true) (h : r.Spec F cfg req) :
    (withAux req runs g r).Spec F cfg req := by
  cases r with
  | crash c => exact h
  | out o =>
    have h : o.Spec F cfg req := h
    refine ⟨h.status, h.hasCl, fun hF => ?_⟩
    obtain ⟨h1, h2, h3, _, h5⟩ := h.wf hF
    exact ⟨h1, h2, h3, by simp [hg hF], h5⟩

theorem lateError_spec {r : Resp} (hr : ∀ x, r.preset = some x → StatusSource F req x) (fc : FaultClass) :
    (lateError F req r fc).Spec F cfg req := by
  refine withAux_spec _ _ (·.auxGuardError) (errorOut_spec _ _ fun x hx => ?_)
  split at hx
  · cases hx; exact .getD hr (.inr (.inr (.inr (.inl rfl))))
  · cases hx

theorem respond_spec {r : Resp} (hr : ∀ x, r.preset = some x → StatusSource F req x) :
    (respond F cfg req r).Spec F cfg req := by
  unfold respond
  split
  · exact lateError_spec hr _
  · split
    · split
      · exact lateError_spec hr _
      · next hj => exact fun hF => hj (by simp [joinGuarded, hF.lateJoinGuard])
    · exact withAux_spec _ _ (·.auxGuardOk) (withReturnListener_spec r hr)

theorem afterUser_spec {r : Resp} (hr : ∀ x, r.preset = some x → StatusSource F req x) :
    (afterUser F cfg req r).Spec F cfg req := by
  unfold afterUser
  split
  · exact respond_spec hr
  · exact respond_spec hr
  · split
    · exact respond_spec hr
    · next hg => exact fun hF => hg hF.genGuard
  · split
    · exact withAux_spec _ _ (·.auxGuardError) (errorOut_spec _ _ hr)
    · next hg => exact fun hF => hg hF.genGuard

/-- the document calls the user function -/
def CallsUser (req : Req) : Prop := (∃ fc p, req.intended = .userFault fc p) ∨ (∃ r, req.intended = .success r)

theorem intendedResult_spec (F : Facts13) (cfg : Cfg) (req : Req) :
    (intendedResult F cfg req).2.Spec F cfg req ∧
    ((intendedResult F cfg req).1 = [] ∨ (intendedResult F cfg req).1 = [.user] ∧ CallsUser req) := by
  unfold intendedResult
  split
  iterate 4 exact ⟨errorOut_spec _ _ nofun, .inl rfl⟩
  · next fc p hi =>
    exact ⟨withAux_spec _ _ (·.auxGuardError) (errorOut_spec _ _ fun x hx => .preset (by simp [Req.presets, hi, hx])),
      .inr ⟨rfl, .inl ⟨_, _, hi⟩⟩⟩
  · next r hi =>
    exact ⟨afterUser_spec fun x hx => .preset (by simp [Req.presets, hi, hx]), .inr ⟨rfl, .inr ⟨r, hi⟩⟩⟩

/-- the reads of a request: those of the body reader when the in-protocol gets as far as reading -/
def bodyReads (cfg : Cfg) (req : Req) (stream : List Nat) : List Ev :=
  if req.wsdl.isSome || req.preReject || !req.readsBody then [] else (readBody cfg req.contentLength stream).1

/-- what entering the user function presupposes: a document that calls it and, when the protocol reads
    a body, the complete document arrived within the limit -/
def UserRuns (cfg : Cfg) (req : Req) (stream : List Nat) : Prop :=
  CallsUser req ∧ req.preReject = false ∧
  (req.readsBody = true →
    0 < bytesGot (readBody cfg req.contentLength stream).1 ∧
    req.docLen ≤ bytesGot (readBody cfg req.contentLength stream).1 ∧
    ∀ d, declaredLength cfg req.contentLength = some d → d ≤ (cfg.maxLen : Int))

/-- events and result of `handle_rpc` up to the response: the reads, then the user function at most once -/
def ProcessOk (F : Facts13) (cfg : Cfg) (req : Req) (stream : List Nat) (x : List Ev × Result) : Prop :=
  x.2.Spec F cfg req ∧
  ∃ us, x.1 = bodyReads cfg req stream ++ us ∧ (us = [] ∨ us = [.user] ∧ UserRuns cfg req stream)

theorem process_spec (F : Facts13) (cfg : Cfg) {req : Req} (stream : List Nat) (hw : req.wsdl = none) :
    ProcessOk F cfg req stream (process F cfg req stream) := by
  obtain ⟨hB, hU⟩ := intendedResult_spec F cfg req
  unfold process
  -- the two outer tests are rewritten: `split` would abstract the whole body of `process` twice
  cases hp : req.preReject with
  | true =>
    rw [if_pos rfl]
    exact ⟨errorOut_spec _ _ fun x hx => by cases hx; exact .inr (.inr (.inl rfl)), [], by simp [bodyReads, hp], .inl rfl⟩
  | false =>
    rw [if_neg Bool.false_ne_true]
    cases hb : req.readsBody with
    | false =>
      rw [if_pos (show (!false) = true from rfl)]
      exact ⟨hB, _, by simp [bodyReads, hb], hU.imp_right fun h => ⟨h.1, h.2, hp, fun h => by simp [hb] at h⟩⟩
    | true =>
      rw [if_neg (show ¬(!true) = true by decide)]
      have hrs : bodyReads cfg req stream = (readBody cfg req.contentLength stream).1 := by
        simp [bodyReads, hw, hp, hb]
      have s := readBody_spec cfg req.contentLength stream
      have leaf : ∀ {r : Result}, r.Spec F cfg req →
          ProcessOk F cfg req stream ((readBody cfg req.contentLength stream).1, r) :=
        fun h => ⟨h, [], by simp [hrs], .inl rfl⟩
      simp only []
      split
      · split
        · exact leaf (errorOut_spec _ _ nofun)
        · next hc =>
          split
          · exact leaf fun hF => by simp [hF.clParse] at hc
          · exact leaf (errorOut_spec _ _ nofun)
      · exact leaf (errorOut_spec _ _ nofun)
      · next n hn =>
        split
        · split
          · next hs => exact leaf fun hF => by simp [hF.soapEmptyBodyFault] at hs
          · exact leaf (errorOut_spec _ _ nofun)
        · next h0 =>
          split
          · exact leaf (errorOut_spec _ _ nofun)
          · next hdoc =>
            have hgot := s.done n hn
            refine ⟨hB, _, by rw [hrs], hU.imp_right fun h => ⟨h.1, h.2, hp, fun _ => ⟨by omega, by omega, fun d hd => ?_⟩⟩⟩
            refine Int.not_lt.1 fun hgt => ?_
            rw [s.tooLong.2 ⟨d, hd, hgt⟩] at hn
            cases hn
/-- a request whose declared length exceeds the limit: nothing is read, the user function is not
    entered, the answer is the request-too-long fault -/
theorem process_declared_over (F : Facts13) (cfg : Cfg) (req : Req) (stream : List Nat) (d : Int)
    (hp : req.preReject = false) (hb : req.readsBody = true)
    (hd : declaredLength cfg req.contentLength = some d) (h : d > (cfg.maxLen : Int)) :
    process F cfg req stream = ([], errorOut F req none .tooLong) := by
  simp [process, hp, hb, readBody_declared_over stream hd h]


/-- a header pair; its value is a native string when tuples are expanded like lists -/
def UserHdr (F : Facts13) (e : Ev) : Prop := ∃ k b, e = .hdr k b ∧ (F.headerTuplesExpanded = true → b = true)

theorem mem_hdrPairs {F : Facts13} {k : Nat} {v : HVal} {e : Ev} (h : e ∈ hdrPairs F k v) : UserHdr F e := by
  cases v with
  | str => exact ⟨k, true, List.mem_singleton.1 h, fun _ => rfl⟩
  | list n => exact ⟨k, true, (List.mem_replicate.1 h).2, fun _ => rfl⟩
  | tuple n =>
    simp only [hdrPairs] at h
    split at h
    · exact ⟨k, true, (List.mem_replicate.1 h).2, fun _ => rfl⟩
    · next hf => exact ⟨k, false, List.mem_singleton.1 h, fun ht => absurd ht hf⟩

theorem mem_hdrEvsFrom {F : Facts13} {hs : List HVal} {k : Nat} {e : Ev} (h : e ∈ hdrEvsFrom F k hs) :
    UserHdr F e := by
  induction hs generalizing k with
  | nil => cases h
  | cons v t ih =>
    rcases List.mem_append.1 h with h | h
    · exact mem_hdrPairs h
    · exact ih h

theorem mem_hdrEvs {F : Facts13} {req : Req} {p : List Ev × Result} {e : Ev} (h : e ∈ hdrEvs F req p) :
    UserHdr F e := by
  unfold hdrEvs at h
  split at h
  · cases h
  · split at h
    · exact mem_hdrEvsFrom h
    · cases h

theorem bytesGot_hdrEvs (F : Facts13) (req : Req) (p : List Ev × Result) : bytesGot (hdrEvs F req p) = 0 :=
  bytesGot_blind fun _ he => by obtain ⟨k, b, rfl, _⟩ := mem_hdrEvs he; rfl


theorem deliver_late (o : Out) (abort : Option Nat) : ∀ e ∈ deliver o abort, isPre e = false := by
  have ha : ∀ e ∈ auxEvs o, isPre e = false := blind_aux o
  have hc : ∀ e ∈ chunkEvs (taken abort o.chunks), isPre e = false := blind_chunks _
  have hg : ∀ e ∈ finalAgain o, isPre e = false := blind_final (finalAgain_sub o)
  have hf : ∀ e ∈ finalEvs o abort, isPre e = false := by
    unfold finalEvs
    refine List.forall_mem_append.2 ⟨blind_final (finalOnce_sub o), ?_⟩
    split
    · exact hg
    · nofun
  unfold deliver
  split
  · exact List.forall_mem_cons.2 ⟨rfl, List.forall_mem_append.2 ⟨ha, List.forall_mem_singleton.2 rfl⟩⟩
  · split
    · exact List.forall_mem_cons.2 ⟨rfl, List.forall_mem_append.2 ⟨ha, List.forall_mem_cons.2
        ⟨rfl, List.forall_mem_append.2 ⟨hc, hf⟩⟩⟩⟩
    · exact List.forall_mem_cons.2 ⟨rfl, List.forall_mem_append.2 ⟨ha, List.forall_mem_append.2
        ⟨hg, List.forall_mem_cons.2 ⟨rfl, hc⟩⟩⟩⟩

theorem finish_late (r : Result) (abort : Option Nat) : ∀ e ∈ finish r abort, isPre e = false := by
  cases r with
  | crash c => exact List.forall_mem_singleton.2 rfl
  | out o => exact deliver_late o abort

theorem bytesGot_finish (r : Result) (abort : Option Nat) : bytesGot (finish r abort) = 0 :=
  bytesGot_blind fun e he => (not_isPre (finish_late r abort e he)).1

variable (F : Facts13) (cfg : Cfg) (req : Req) (stream : List Nat) (abort : Option Nat)

/-- what the callable hands to the server: the result of `process` for an rpc request, one of the three
    `?wsdl` answers otherwise -/
def response : Result :=
  match req.wsdl with
  | some k => .out (atServer F req (wsdlOut F k))
  | none => (process F cfg req stream).2.atServer F req

/-- every trace, whatever the facts: the body reads; the user function, at most once and only for a
    complete document; the user-set headers, native strings when tuples are expanded; then the response -/
theorem handle_parts :
    ∃ us hs, handle F cfg req stream abort =
        bodyReads cfg req stream ++ (us ++ (hs ++ finish (response F cfg req stream) abort)) ∧
      (us = [] ∨ us = [.user] ∧ UserRuns cfg req stream) ∧ ∀ e ∈ hs, UserHdr F e := by
  unfold handle response
  cases hw : req.wsdl with
  | some k => exact ⟨[], [], by simp [bodyReads, hw, finish], .inl rfl, nofun⟩
  | none =>
    obtain ⟨_, us, hus, hu⟩ := process_spec F cfg stream hw
    exact ⟨us, hdrEvs F req (process F cfg req stream), by simp only [hus, List.append_assoc], hu,
      fun _ => mem_hdrEvs⟩

theorem bodyReads_ok : ∀ e ∈ bodyReads cfg req stream, okRead cfg e := by
  unfold bodyReads
  split
  · nofun
  · exact (readBody_spec ..).ok

theorem blind_reads {p : Ev → Bool} (hp : ∀ a g, p (.read a g) = false := by exact fun _ _ => rfl) :
    ∀ e ∈ bodyReads cfg req stream, p e = false := by
  intro e he
  have := bodyReads_ok cfg req stream e he
  cases e with
  | read a g => exact hp a g
  | _ => exact this.elim

theorem handle_reads :
    ∃ late, handle F cfg req stream abort = bodyReads cfg req stream ++ late ∧ ∀ e ∈ late, isRead e = false := by
  obtain ⟨us, hs, heq, hus, hhs⟩ := handle_parts F cfg req stream abort
  refine ⟨_, heq, List.forall_mem_append.2 ⟨?_, List.forall_mem_append.2 ⟨fun e he => ?_,
    fun e he => (not_isPre (finish_late _ _ e he)).1⟩⟩⟩
  · rcases hus with rfl | ⟨rfl, _⟩
    · nofun
    · exact List.forall_mem_singleton.2 rfl
  · obtain ⟨k, b, rfl, _⟩ := hhs e he
    rfl

theorem bytesGot_handle : bytesGot (handle F cfg req stream abort) = bytesGot (bodyReads cfg req stream) := by
  obtain ⟨late, heq, hl⟩ := handle_reads F cfg req stream abort
  rw [heq, bytesGot_append, bytesGot_blind hl, Nat.add_zero]

theorem reads_first : noneAfter isRead (fun e => isUser e || isStart e) (handle F cfg req stream abort) = true := by
  obtain ⟨late, heq, hl⟩ := handle_reads F cfg req stream abort
  rw [heq]
  exact noneAfter_append (blind_reads cfg req stream) (noneAfter_blind hl)

/-- the reader terminates with the stream: one `read` per element, plus at most one at its end -/
theorem reads_le_stream : List.countP isRead (handle F cfg req stream abort) ≤ stream.length + 1 := by
  obtain ⟨late, heq, hl⟩ := handle_reads F cfg req stream abort
  rw [heq, List.countP_append, countP_blind hl, Nat.add_zero]
  refine Nat.le_trans List.countP_le_length ?_
  unfold bodyReads
  split
  · exact Nat.zero_le _
  · exact (readBody_spec ..).count

theorem reads_ok (a g : Nat) (h : Ev.read a g ∈ handle F cfg req stream abort) : a ≤ cfg.blockLen ∧ g ≤ a := by
  obtain ⟨late, heq, hl⟩ := handle_reads F cfg req stream abort
  rcases List.mem_append.1 (heq ▸ h) with h | h
  · exact bodyReads_ok cfg req stream _ h
  · cases hl _ h

theorem hdr_str (hF : F.headerTuplesExpanded = true) (k : Nat) (b : Bool)
    (h : Ev.hdr k b ∈ handle F cfg req stream abort) : b = true := by
  obtain ⟨us, hs, heq, hus, hhs⟩ := handle_parts F cfg req stream abort
  simp only [heq, List.mem_append] at h
  rcases h with h | h | h | h
  · cases (blind_reads (p := isHdr) cfg req stream) _ h
  · rcases hus with rfl | ⟨rfl, _⟩
    · cases h
    · cases List.mem_singleton.1 h
  · obtain ⟨k', b', he, hb⟩ := hhs _ h
    cases he
    exact hb hF
  · cases finish_late _ _ _ h

theorem user_once :
    List.countP isUser (handle F cfg req stream abort) ≤ 1 ∧
    (Ev.user ∈ handle F cfg req stream abort → UserRuns cfg req stream) := by
  obtain ⟨us, hs, heq, hus, hhs⟩ := handle_parts F cfg req stream abort
  have h1 : ∀ e ∈ bodyReads cfg req stream, isUser e = false := blind_reads cfg req stream
  have h3 : ∀ e ∈ hs, isUser e = false := fun e he => by obtain ⟨k, b, rfl, _⟩ := hhs e he; rfl
  have h4 : ∀ e ∈ finish (response F cfg req stream) abort, isUser e = false :=
    fun e he => (not_isPre (finish_late _ _ e he)).2.1
  rw [heq]
  constructor
  · rw [List.countP_append, List.countP_append, List.countP_append, countP_blind h1, countP_blind h3, countP_blind h4]
    rcases hus with rfl | ⟨rfl, _⟩ <;> decide
  · intro h
    simp only [List.mem_append] at h
    rcases h with h | h | h | h
    · cases h1 _ h
    · rcases hus with rfl | ⟨rfl, hu⟩
      · cases h
      · exact hu
    · cases h3 _ h
    · cases h4 _ h


/-- the events of a response finalised once, after its body -/
def answer (o : Out) (abort : Option Nat) : List Ev :=
  .startResponse o.status o.fault o.cl ::
    (auxEvs o ++ .returned :: (chunkEvs (taken abort o.chunks) ++ finalOnce o))

theorem deliver_after (o : Out) (h : o.timing = .afterBody) (he : o.auxEscapes = false)
    (ho : o.refinalizes = false) : deliver o abort = answer o abort := by
  simp [deliver, answer, h, he, finalEvs, ho]

/-- the trace `tr` is what precedes the response (`pre`: reads, the user function, user-set headers) followed by the
    events of answering with `o` once; the response clauses of C13 are consequences of this shape alone -/
structure Answered (tr : List Ev) (abort : Option Nat) (pre : List Ev) (o : Out) : Prop where
  eq : tr = pre ++ answer o abort
  pre : ∀ e ∈ pre, isPre e = true
  cl : ∀ n, o.cl = some n → n = sum (o.chunks.map (·.1))

namespace Answered
variable {tr pre : List Ev} {abort : Option Nat} {o : Out} (h : Answered tr abort pre o)
include h

theorem mem {e : Ev} (he : e ∈ tr) :
    isPre e = true ∨ e = .startResponse o.status o.fault o.cl ∨ e = .aux ∨ e = .returned ∨
    (∃ n b, e = .chunk n b ∧ (n, b) ∈ o.chunks) ∨ e ∈ [Ev.ctxClosed, .wsgiClose, .lraise] := by
  rw [h.eq] at he
  simp only [answer, List.mem_append, List.mem_cons] at he
  rcases he with he | rfl | he | rfl | he | he
  · exact .inl (h.pre e he)
  · exact .inr (.inl rfl)
  · exact .inr (.inr (.inl (by unfold auxEvs at he; split at he <;> simp_all)))
  · exact .inr (.inr (.inr (.inl rfl)))
  · obtain ⟨n, b, rfl, hm⟩ := mem_chunkEvs he
    exact .inr (.inr (.inr (.inr (.inl ⟨n, b, rfl, taken_sub _ _ _ hm⟩))))
  · exact .inr (.inr (.inr (.inr (.inr (finalOnce_sub o e he)))))

theorem no_crash : ∀ e ∈ tr, isCrash e = false :=
  h.eq ▸ List.forall_mem_append.2 ⟨blind_pre h.pre, List.forall_mem_cons.2 ⟨rfl, List.forall_mem_append.2
    ⟨blind_aux o, List.forall_mem_cons.2 ⟨rfl, List.forall_mem_append.2
      ⟨blind_chunks _, blind_final (finalOnce_sub o)⟩⟩⟩⟩⟩

theorem start_of {s : Nat} {f : Option FaultClass} {c : Option Nat} (hm : Ev.startResponse s f c ∈ tr) :
    s = o.status ∧ c = o.cl := by
  rcases h.mem hm with hp | he | he | he | ⟨_, _, he, _⟩ | hf
  · cases hp
  · cases he; exact ⟨rfl, rfl⟩
  · cases he
  · cases he
  · cases he
  · simp at hf

theorem chunks_of {n : Nat} {b : Bool} (hm : Ev.chunk n b ∈ tr) : (n, b) ∈ o.chunks := by
  rcases h.mem hm with hp | he | he | he | ⟨_, _, he, hc⟩ | hf
  · cases hp
  · cases he
  · cases he
  · cases he
  · cases he; exact hc
  · simp at hf

/-- how often an observer that cannot see reads, user code and headers fires -/
theorem count (p : Ev → Bool) (hp : ∀ e ∈ pre, p e = false := by exact blind_pre h.pre) :
    List.countP p tr = (if p (.startResponse o.status o.fault o.cl) then 1 else 0) + List.countP p (auxEvs o) +
      (if p .returned then 1 else 0) + List.countP p (chunkEvs (taken abort o.chunks)) + List.countP p (finalOnce o) := by
  rw [h.eq, List.countP_append, countP_blind hp]
  simp only [answer, List.countP_cons, List.countP_append]
  omega

theorem start_once : List.countP isStart tr = 1 := by
  rw [h.count isStart, countP_blind (blind_aux o), countP_blind (blind_chunks _),
    countP_blind (blind_final (finalOnce_sub o))]
  rfl

theorem start_before_chunks : noneBefore isChunk isStart tr = true :=
  h.eq ▸ noneBefore_append (blind_pre h.pre) rfl

theorem bodyBytes_eq : bodyBytes tr = sum ((taken abort o.chunks).map (·.1)) := by
  rw [h.eq, bodyBytes_append, bodyBytes_blind (blind_pre h.pre)]
  simp only [answer, bodyBytes, bodyBytes_append, bodyBytes_chunkEvs, bodyBytes_blind (blind_aux o),
    bodyBytes_blind (blind_final (finalOnce_sub o))]
  omega

theorem content_length (s : Nat) (f : Option FaultClass) (n : Nat) (hm : Ev.startResponse s f (some n) ∈ tr) :
    bodyBytes tr ≤ n ∧ (abort = none → bodyBytes tr = n) := by
  rw [h.bodyBytes_eq, h.cl n (h.start_of hm).2.symm]
  exact ⟨taken_sizes_le _ _, fun ha => by rw [ha]; rfl⟩

/-- nothing that only the finalizer emits happens before the last chunk is taken -/
theorem final_after_body (q : Ev → Bool) (hs : ∀ s f c, q (.startResponse s f c) = false := by exact fun _ _ _ => rfl)
    (hp : ∀ e ∈ pre, q e = false := by exact blind_pre h.pre)
    (ha : ∀ e ∈ auxEvs o, q e = false := by exact blind_aux o) (hr : q .returned = false := by rfl)
    (hc : ∀ e ∈ chunkEvs (taken abort o.chunks), q e = false := by exact blind_chunks _) :
    noneAfter isChunk q tr = true :=
  h.eq ▸ noneAfter_append hp (noneAfter_cons (noneAfter_append ha (noneAfter_cons (noneAfter_append hc
    (noneAfter_blind (blind_final (finalOnce_sub o)))) hr)) (hs ..))

theorem closed_once (hc : o.closes ≠ .never) :
    List.countP isClosed tr = 1 ∧ noneAfter isChunk isClosed tr = true ∧
    noneBefore isClosed isReturned tr = true := by
  refine ⟨?_, h.final_after_body isClosed, ?_⟩
  · rw [h.count isClosed, countP_blind (blind_aux o), countP_blind (blind_chunks _), (finalOnce_counts o).2.1 hc]
    rfl
  · exact h.eq ▸ noneBefore_append (blind_pre h.pre) (noneBefore_cons (noneBefore_append (blind_aux o) rfl))

/-- `wsgi_close` fires once, after the body — unless a `method_context_closed` listener raised, which
    cuts the finalizer short before it gets there -/
theorem wsgi_close_once (hc : o.closes = .rpc) :
    List.countP isWsgiClose tr = (if o.onClose = .ctxClosedRaises then 0 else 1) ∧
    noneAfter isChunk isWsgiClose tr = true := by
  refine ⟨?_, h.final_after_body isWsgiClose⟩
  rw [h.count isWsgiClose, countP_blind (blind_aux o), countP_blind (blind_chunks _), (finalOnce_counts o).2.2 hc]
  simp [isWsgiClose]

theorem lraise_once : List.countP isLraise tr ≤ 1 ∧ noneBefore isLraise isClosed tr = true := by
  refine ⟨?_, ?_⟩
  · rw [h.count isLraise, countP_blind (blind_aux o), countP_blind (blind_chunks _)]
    simpa [isLraise] using (finalOnce_counts o).1
  · refine h.eq ▸ noneBefore_append (blind_pre h.pre) (noneBefore_cons (noneBefore_append (blind_aux o)
      (noneBefore_cons (noneBefore_append (blind_chunks _) ?_))))
    unfold finalOnce
    cases o.closes <;> cases o.onClose <;> rfl

theorem aux_between :
    List.countP isAux tr ≤ 1 ∧ noneBefore isAux isStart tr = true ∧ noneAfter isAux isReturned tr = true := by
  refine ⟨?_, h.eq ▸ noneBefore_append (blind_pre h.pre) rfl, ?_⟩
  · rw [h.count isAux, countP_blind (blind_chunks _), countP_blind (blind_final (finalOnce_sub o))]
    have : List.countP isAux (auxEvs o) ≤ 1 := by unfold auxEvs; split <;> decide
    simpa [isAux] using this
  · exact h.eq ▸ noneAfter_append (blind_pre h.pre) (noneAfter_cons (noneAfter_append (blind_aux o)
      (noneAfter_blind (List.forall_mem_cons.2 ⟨rfl, List.forall_mem_append.2
        ⟨blind_chunks _, blind_final (finalOnce_sub o)⟩⟩))))

end Answered

theorem Answered.abort_respected {tr pre : List Ev} {o : Out} {k : Nat} (h : Answered tr (some k) pre o) :
    List.countP isChunk tr ≤ k := by
  rw [h.count isChunk, countP_blind (blind_aux o), countP_blind (blind_final (finalOnce_sub o))]
  have : List.countP isChunk (chunkEvs (taken (some k) o.chunks)) ≤ k :=
    Nat.le_trans List.countP_le_length (by simp [chunkEvs, taken]; omega)
  simpa [isChunk] using this

theorem wsdlOut_timing (k : WsdlKind) : (wsdlOut F k).timing = F.wsdlCloseTiming := by
  cases k <;> rfl

theorem wsdlOut_cl (k : WsdlKind) (n : Nat) (h : (wsdlOut F k).cl = some n) :
    n = sum ((wsdlOut F k).chunks.map (·.1)) := by
  cases k <;> cases h
  simp [wsdlOut, sum]

/-- with the good facts, every request ends in an answer of the shape `Answered`: that of `process`
    for an rpc request, one of the three `?wsdl` answers otherwise -/
theorem handle_answered (hF : F.Good) :
    ∃ pre o, Answered (handle F cfg req stream abort) abort pre o ∧
      (req.wsdl = none → ∃ o', (process F cfg req stream).2 = .out o' ∧ o = atServer F req o' ∧ o'.Spec F cfg req) ∧
      (∀ k, req.wsdl = some k → o = atServer F req (wsdlOut F k)) := by
  obtain ⟨us, hs, heq, hus, hhs⟩ := handle_parts F cfg req stream abort
  have hpre : ∀ e ∈ bodyReads cfg req stream ++ (us ++ hs), isPre e = true := by
    refine List.forall_mem_append.2 ⟨fun e he => ?_, List.forall_mem_append.2 ⟨?_, fun e he => ?_⟩⟩
    · have := bodyReads_ok cfg req stream e he
      cases e <;> first | rfl | exact this.elim
    · rcases hus with rfl | ⟨rfl, _⟩
      · nofun
      · exact List.forall_mem_singleton.2 rfl
    · obtain ⟨k, b, rfl, _⟩ := hhs e he
      rfl
  have hfin : ∀ o, (atServer F req o).refinalizes = false := by simp [atServer, hF.finalizeClearedFirst]
  unfold response at heq
  cases hw : req.wsdl with
  | some k =>
    refine ⟨_, atServer F req (wsdlOut F k), ⟨?_, hpre, wsdlOut_cl F k⟩, nofun, fun _ h => by cases h; rfl⟩
    rw [heq, hw, ← deliver_after _ (atServer F req (wsdlOut F k)) ((wsdlOut_timing F k).trans hF.wsdlCloseTiming)
      (by cases k <;> rfl) (hfin _)]
    simp [finish]
  | none =>
    obtain ⟨o, ho, hsp, hwf⟩ := (process_spec F cfg stream hw).1.answered hF
    refine ⟨_, atServer F req o, ⟨?_, hpre, hwf.cl⟩, fun _ => ⟨o, ho, rfl, hsp⟩, nofun⟩
    rw [heq, hw, ho, ← deliver_after _ (atServer F req o) hwf.timing hwf.noEscape (hfin _)]
    simp [finish, Result.atServer]

end SpyneModel.Wsgi
