/-
  Counting the frequency increments of soft validation.
  The keys of the increments are relative to the instance a walk starts from; what happens below
  member `k`, element `i`, carries `(k, i)` in front (`Ev.under`). `evsUnder c evs` reads the
  increments below child `c` back in the child's own frame.
-/
import Proofs.FlatEntries
import Proofs.FlatArr
import SpyneModel.FlatSoft
namespace SpyneModel.Flat
open SpyneModel

theorem evCount_foldl (evs : List Ev) (k : FKey) (name : Text) (a : Nat) :
    evs.foldl (fun acc e => if e.key = k && e.name = name then acc + e.inc else acc) a =
      a + evCount evs k name := by
  unfold evCount
  induction evs generalizing a with
  | nil => simp
  | cons e r ih =>
    simp only [List.foldl_cons]
    rw [ih, ih (if (decide (e.key = k) && decide (e.name = name)) = true then 0 + e.inc else 0)]
    split <;> omega

theorem evCount_nil (k : FKey) (name : Text) : evCount [] k name = 0 := rfl

theorem evCount_cons (e : Ev) (r : List Ev) (k : FKey) (name : Text) :
    evCount (e :: r) k name = (if e.key = k ∧ e.name = name then e.inc else 0) + evCount r k name := by
  conv => lhs; unfold evCount
  rw [List.foldl_cons, evCount_foldl]
  by_cases h : e.key = k ∧ e.name = name <;> simp [h]

theorem evCount_append (a b : List Ev) (k : FKey) (name : Text) :
    evCount (a ++ b) k name = evCount a k name + evCount b k name := by
  induction a with
  | nil => simp [evCount_nil]
  | cons e r ih => simp only [List.cons_append, evCount_cons, ih]; omega

def evsUnder (c : Text × Nat) (evs : List Ev) : List Ev :=
  evs.filterMap (fun e =>
    match e.key with
    | h :: tl => if h = c then some ⟨tl, e.spec, e.name, e.inc⟩ else none
    | [] => none)

theorem evsUnder_append (c : Text × Nat) (a b : List Ev) : evsUnder c (a ++ b) = evsUnder c a ++ evsUnder c b := by
  simp [evsUnder, List.filterMap_append]

theorem mem_evsUnder_iff {c : Text × Nat} {evs : List Ev} {e : Ev} :
    e ∈ evsUnder c evs ↔ (⟨c :: e.key, e.spec, e.name, e.inc⟩ : Ev) ∈ evs := by
  simp only [evsUnder, List.mem_filterMap]
  constructor
  · rintro ⟨⟨key, spec, nm, inc⟩, he0, hm⟩
    cases key with
    | nil => cases hm
    | cons h tl =>
      by_cases hc : h = c
      · simp only [hc, if_true, Option.some.injEq] at hm
        rw [← hm, ← hc]
        exact he0
      · simp [hc] at hm
  · exact fun h => ⟨_, h, by simp⟩

theorem mem_evsUnder {evs : List Ev} {e : Ev} (he : e ∈ evs) {c : Text × Nat} {K : FKey} (hk : e.key = c :: K) :
    (⟨K, e.spec, e.name, e.inc⟩ : Ev) ∈ evsUnder c evs :=
  mem_evsUnder_iff.mpr (by rw [← hk]; exact he)

theorem evsUnder_under (p : Text) (i j : Nat) (l : List Ev) :
    evsUnder (p, i) (l.map (Ev.under [(p, j)])) = if i = j then l else [] := by
  induction l with
  | nil => simp [evsUnder]
  | cons e r ih =>
    simp only [evsUnder, List.map_cons, List.filterMap_cons, Ev.under, List.cons_append, List.nil_append] at ih ⊢
    by_cases h : i = j
    · subst h
      simp only [if_true] at ih ⊢
      rw [ih]
    · have : ¬ (p, j) = (p, i) := fun e => h (Prod.mk.inj e).2.symm
      simp only [this, h, if_false] at ih ⊢
      exact ih

theorem evCount_child (evs : List Ev) (c : Text × Nat) (K : FKey) (name : Text) :
    evCount evs (c :: K) name = evCount (evsUnder c evs) K name := by
  induction evs with
  | nil => rfl
  | cons e r ih =>
    rw [evCount_cons, ih]
    obtain ⟨key, spec, nm, inc⟩ := e
    cases key with
    | nil => simp [evsUnder]
    | cons h tl =>
      by_cases hc : h = c
      · subst hc
        simp only [evsUnder, List.filterMap_cons, if_true, evCount_cons, List.cons.injEq, true_and] at ih ⊢
      · have : evsUnder c (⟨h :: tl, spec, nm, inc⟩ :: r) = evsUnder c r := by
          simp [evsUnder, hc]
        rw [this]
        simp [hc]

theorem freqOkAt_child (evs : List Ev) (c : Text × Nat) (K : FKey) (spec : List (Text × Nat × Option Nat)) :
    freqOkAt evs (c :: K) spec = freqOkAt (evsUnder c evs) K spec := by
  unfold freqOkAt
  simp only [evCount_child]

theorem evCount_under_nil (evs : List Ev) (c : Text × Nat) (name : Text) :
    evCount (evs.map (Ev.under [c])) [] name = 0 := by
  induction evs with
  | nil => rfl
  | cons e r ih => rw [List.map_cons, evCount_cons, ih]; simp [Ev.under]

/-- the deep part of `freqOk`: every instance that has an entry passes `_check_freq_dict` -/
def freqDeep (evs : List Ev) : Bool := evs.all (fun e => freqOkAt evs e.key e.spec)

theorem freqOk_eq (fields : List Fld) (evs : List Ev) :
    freqOk fields evs = (freqOkAt evs [] (specOf fields) && freqDeep evs) := rfl

theorem freqDeep_at {evs : List Ev} (h : freqDeep evs = true) {e : Ev} (he : e ∈ evs) :
    freqOkAt evs e.key e.spec = true :=
  List.all_eq_true.mp h e he

/-- entries that count nothing do not change a check -/
theorem freqOkAt_zero {z : List Ev} (hz : ∀ e, e ∈ z → e.inc = 0) (l : List Ev) (K : FKey)
    (spec : List (Text × Nat × Option Nat)) : freqOkAt (z ++ l) K spec = freqOkAt l K spec := by
  have h0 : ∀ name, evCount z K name = 0 := by
    intro name
    induction z with
    | nil => rfl
    | cons e r ih =>
      rw [evCount_cons, ih fun e he => hz e (List.mem_cons_of_mem _ he), hz e List.mem_cons_self]
      split <;> rfl
  unfold freqOkAt
  simp only [evCount_append, h0, Nat.zero_add]

/-- the entry of a new instance under `c`, as the decoder writes it, is the entry in the instance's own frame seen
    from above -/
theorem entry_under (t : Bool) (spec : List (Text × Nat × Option Nat)) (c : Text × Nat) :
    (if t then [(⟨[c], spec, [], 0⟩ : Ev)] else []) = (if t then [(⟨[], spec, [], 0⟩ : Ev)] else []).map (Ev.under [c]) := by
  cases t <;> rfl

/-- a new instance of the class with members `sub` whose keys passed the final check passes the deep check together with
    its own entry (which counts nothing and is checked against `sub`) -/
theorem freqDeep_with_entry (t : Bool) {sub : List Fld} {l : List Ev} (h : freqOk sub l = true) :
    freqDeep ((if t then [(⟨[], specOf sub, [], 0⟩ : Ev)] else []) ++ l) = true := by
  rw [freqOk_eq, Bool.and_eq_true] at h
  have hz : ∀ e, e ∈ (if t then [(⟨[], specOf sub, [], 0⟩ : Ev)] else []) → e = ⟨[], specOf sub, [], 0⟩ := by
    cases t <;> simp
  refine List.all_eq_true.mpr fun e he => ?_
  rw [freqOkAt_zero fun e he => by rw [hz e he]]
  rcases List.mem_append.mp he with he | he
  · rw [hz e he]
    exact h.1
  · exact freqDeep_at h.2 he

/-- an entry of the child in the parent's table is checked against the child's own increments -/
theorem freqDeep_child (evs : List Ev) (c : Text × Nat) (h : freqDeep evs = true) : freqDeep (evsUnder c evs) = true :=
  List.all_eq_true.mpr fun e he => by
    rw [← freqOkAt_child]
    exact freqDeep_at h (mem_evsUnder_iff.mp he)

/-- the increment was made by a key that starts with member `k` (labels are member names) -/
def ownedBy (k : Text) (e : Ev) : Bool :=
  match e.key with
  | [] => decide (e.name = k)
  | h :: _ => decide (h.1 = k)

/-- an increment made by a key applied to member `p` of an instance of the class with members `fields`: it belongs
    to `p`, and if it sits at the instance itself it carries the member list of that class -/
def Owned (fields : List Fld) (p : Text) (e : Ev) : Prop :=
  ownedBy p e = true ∧ (e.key = [] → e.spec = specOf fields ∧ e.name = p)

theorem strictSlot_evs {sub : List Fld} {ev : Ev} {touch : Nat → List Ev} {items : List Node} {i : Nat}
    {s : List Node × List Ev} (h : strictSlot sub ev touch items i = .ok s) :
    ∀ e, e ∈ s.2 → e = ev ∨ ∃ j, e ∈ touch j := by
  unfold strictSlot at h
  generalize hs0 : (if items.isEmpty then ([fresh sub], ev :: touch 0) else (items, [])) = s0 at h
  have h0 : ∀ e, e ∈ s0.2 → e = ev ∨ ∃ j, e ∈ touch j := by
    intro e he
    subst hs0
    split at he
    · rcases List.mem_cons.mp he with rfl | he
      · exact Or.inl rfl
      · exact Or.inr ⟨0, he⟩
    · cases he
  simp only at h
  split at h
  · cases h
  · split at h
    · cases h
      intro e he
      rcases List.mem_append.mp he with he | he
      · exact h0 e he
      · rcases List.mem_cons.mp he with rfl | he
        · exact Or.inl rfl
        · exact Or.inr ⟨_, he⟩
    · cases h
      exact h0

theorem lenientSlot_evs {sub : List Fld} {ev : Ev} {m : List (Nat × Nat)} {items : List Node} {i : Nat} :
    ∀ e, e ∈ (lenientSlot sub ev m items i).2.2.2 → e = ev := by
  intro e he
  unfold lenientSlot at he
  split at he
  · cases he
  · exact List.mem_singleton.mp he

theorem stepMember_owned (F : Facts03) (hF : F.freqScope = .perMember) {strict : Bool} {fields : List Fld}
    {cur : Node} {p : Text} {rest : List Text} {idxs : List Nat} {pl : Payload} {r : Node × List Ev}
    (h : stepMember F strict fields cur p rest idxs pl = .ok r) :
    ∀ e, e ∈ r.2 → Owned fields p e := by
  have hown : ∀ c, Owned fields p ⟨[], specOf fields, p, c⟩ :=
    fun c => ⟨by simp [ownedBy], fun _ => ⟨rfl, rfl⟩⟩
  have hbelow : ∀ (i : Nat) (K : FKey) s n c, Owned fields p ⟨(p, i) :: K, s, n, c⟩ :=
    fun i K s n c => ⟨by simp [ownedBy], fun hk => by cases hk⟩
  have htouch : ∀ (s : List (Text × Nat × Option Nat)) (i : Nat) (e : Ev),
      e ∈ (if F.freqTouch = true then [(⟨[(p, i)], s, [], 0⟩ : Ev)] else []) → Owned fields p e := by
    intro s i e he
    split at he
    · cases List.mem_singleton.mp he; exact hbelow ..
    · cases he
  have hunder : ∀ (i : Nat) (l : List Ev) (e : Ev), e ∈ l.map (Ev.under [(p, i)]) → Owned fields p e := by
    intro i l e he
    obtain ⟨e0, _, rfl⟩ := List.mem_map.mp he
    exact hbelow ..
  cases rest with
  | nil =>
    simp only [stepMember] at h
    obtain ⟨n, _, rfl⟩ := obind_ok_eq_ok.mp h
    intro e he
    rcases List.mem_cons.mp he with rfl | he
    · exact hown _
    · split at he
      · simp only [memberLabel, hF] at he
        exact htouch _ _ e he
      · cases he
  | cons q rest =>
    simp only [stepMember, hF] at h
    split at h
    · cases h
    · cases h
    · split at h
      · -- an array of objects: the slot's increments, then those below the element
        split at h
        · cases h
        · obtain ⟨sl, hsl, h2⟩ := obind_eq_ok.mp h
          split at h2
          · obtain ⟨r', _, rfl⟩ := obind_ok_eq_ok.mp h2
            intro e he
            rcases List.mem_append.mp he with he | he
            · split at hsl
              · obtain ⟨s, hs, rfl⟩ := obind_ok_eq_ok.mp hsl
                rcases strictSlot_evs hs e he with rfl | ⟨j, hj⟩
                · exact hown 1
                · exact htouch _ j e hj
              · cases hsl
                cases lenientSlot_evs e he
                exact hown 1
            · exact hunder _ _ e he
          · cases h2
      · split at h
        · cases h
        next child ev0 heq =>
          obtain ⟨r', _, rfl⟩ := obind_ok_eq_ok.mp h
          have hev0 : ∀ e, e ∈ ev0 → e = ⟨[], specOf fields, p, 1⟩ := by
            intro e he
            split at heq
            · cases heq
              exact List.mem_singleton.mp he
            · cases heq
              cases he
            · cases heq
          intro e he
          rcases List.mem_append.mp he with he | he
          · cases hev0 e he
            exact hown 1
          · exact hunder _ _ e he

theorem evsUnder_own (c : Text × Nat) (spec : List (Text × Nat × Option Nat)) (nm : Text) (inc : Nat) (r : List Ev) :
    evsUnder c ((⟨[], spec, nm, inc⟩ : Ev) :: r) = evsUnder c r := by
  simp [evsUnder]

theorem evsUnder_keyless {evs : List Ev} (h : ∀ e, e ∈ evs → e.key = []) (c : Text × Nat) : evsUnder c evs = [] :=
  List.eq_nil_iff_forall_not_mem.mpr fun e he => by cases h _ (mem_evsUnder_iff.mp he)

/-- what a key through element `i` of an array member leaves under element `j`: the increments `own` made at
    the instance itself are not among it -/
theorem evsUnder_arrStep (p : Text) (i j : Nat) {own : List Ev} (hown : ∀ e, e ∈ own → e.key = []) (l : List Ev) :
    evsUnder (p, j) (own ++ l.map (Ev.under [(p, i)])) = if j = i then l else [] := by
  rw [evsUnder_append, evsUnder_under, evsUnder_keyless hown, List.nil_append]

/-- `_check_freq_dict` for one instance: every member of its class was counted as often as the class allows -/
theorem freqOkAt_iff {evs : List Ev} {K : FKey} {fields : List Fld} :
    freqOkAt evs K (specOf fields) = true ↔ ∀ f, f ∈ fields → CountOk f.2.1 (evCount evs K f.1) := by
  unfold freqOkAt CountOk
  simp only [List.all_eq_true, specOf, List.mem_map, forall_exists_index, and_imp, forall_apply_eq_imp_iff₂,
    Bool.and_eq_true, decide_eq_true_eq]
  refine forall₂_congr fun f _ => and_congr_right fun _ => ?_
  cases f.2.1.maxOcc <;> simp

/-- the increment that counts an element in when its index is new to the idxmap -/
def countNew (m : List (Nat × Nat)) (i : Nat) (ev : Ev) : List Ev :=
  match mapGet m i with
  | some _ => []
  | none => [ev]

theorem countNew_keyless {m : List (Nat × Nat)} {i : Nat} {ev : Ev} (h : ev.key = []) :
    ∀ e, e ∈ countNew m i ev → e.key = [] := by
  unfold countNew
  cases mapGet m i <;> simp [h]

theorem stepMember_arr_none (F : Facts03) (strict : Bool) {fields : List Fld} {p : Text} {occ : Occ} {cid : Nat} {sub : List Fld}
    (hl : lookupFld fields p = some (p, occ, .obj cid sub)) (hm : occ.many = true)
    (q : Text) (rest : List Text) (idxs : List Nat) (pl : Payload) :
    stepMember F strict fields .none p (q :: rest) idxs pl =
      stepMember F strict fields (.arr [] []) p (q :: rest) idxs pl := by
  simp only [stepMember, hl, hm, if_true]

/-- the idxmap branch with its increments: `arrPut` of what the key does to `arrGet`; the element
    is counted in when its index is new -/
theorem stepMember_arr (F : Facts03) (hF : F.freqScope = .perMember) {fields : List Fld} {p : Text} {occ : Occ}
    {cid : Nat} {sub : List Fld}
    (hl : lookupFld fields p = some (p, occ, .obj cid sub)) (hm : occ.many = true)
    {m : List (Nat × Nat)} {items : List Node} (hinv : ArrInv m items.length)
    (q : Text) (rest : List Text) (idxs : List Nat) (pl : Payload) :
    stepMember F false fields (.arr m items) p (q :: rest) idxs pl =
      match arrGet m items (fresh sub) (popIdx idxs).1 with
      | .obj child =>
        obind (stepMember F false sub (getAttr child q) q rest (popIdx idxs).2 pl) fun r =>
          .ok (.arr (arrPut m items (popIdx idxs).1 (.obj (setAttr child q r.1))).1
                    (arrPut m items (popIdx idxs).1 (.obj (setAttr child q r.1))).2,
               countNew m (popIdx idxs).1 ⟨[], specOf fields, p, 1⟩ ++ r.2.map (Ev.under [(p, (popIdx idxs).1)]))
      | _ => .crash "IndexError" := by
  simp only [stepMember, hl, hm, if_true, hF, Bool.false_eq_true, if_false, obind_ok]
  generalize (popIdx idxs).1 = i
  generalize (popIdx idxs).2 = idxs'
  unfold lenientSlot arrGet arrPut countNew
  cases hg : mapGet m i with
  | some c =>
    have hc := (hinv.get_lt hg).1
    simp only [getElem?_of_getD items c (fresh sub) hc]
    cases hnode : items.getD c (fresh sub) with
    | obj child => simp only [List.nil_append]
    | _ => rfl
  | none =>
    have hle := hinv.s2cmi_le i
    have hpl := pyInsert_length items (s2cmi m i).1 (fresh sub) hle
    have hget : (pyInsert items (s2cmi m i).1 (fresh sub))[(s2cmi m i).1]? = some (fresh sub) := by
      rw [getElem?_of_getD _ _ (fresh sub) (by omega), pyInsert_getD_eq _ _ _ _ hle]
    simp only [fresh] at hget ⊢
    simp only [hget]
    cases stepMember F false sub (getAttr (freshAttrs sub) q) q rest idxs' pl with
    | ok r =>
      simp only [obind_ok]
      rw [setAt_pyInsert _ _ _ _ hle]
    | _ => rfl

end SpyneModel.Flat
