/-
  What the dict-document proofs share on both sides. Reader: the equations that open the mutual decoders one case at
  a time, with the three member loops (`decodeKvs`, `decodePos`, `flatFields`) brought to the one step `slotStep`, and
  the occurrence check of one member (`freqOk`). Writer: `encOne`, the encoder's `_to_dict_value`, which the model has
  only with the cycle guard (`encOneG`), and the two shapes `wrapPairs` gives an instance (`bodyDoc`, bare or under
  its wrapper key).
-/
import Proofs.HierLeaf
import Proofs.Assoc
namespace SpyneModel.Hier
open SpyneModel

@[simp] theorem Res.good_bind {α β} (a : α) (f : α → Res β) : (Res.good a).bind f = f a := by
  show (match f a with | .ok b l' => Res.ok b (false || l') | .fault => .fault | .crash e => .crash e) = f a
  cases h : f a <;> simp

@[simp] theorem Res.good_map {α β} (a : α) (f : α → β) : (Res.good a).map f = .good (f a) := by
  simp [Res.map]

@[simp] theorem Res.fault_bind {α β} (f : α → Res β) : (Res.fault : Res α).bind f = .fault := rfl
@[simp] theorem Res.crash_bind {α β} (e : String) (f : α → Res β) : (Res.crash e : Res α).bind f = .crash e := rfl

theorem Res.good_ne_fault {α} (a : α) : (Res.good a : Res α) ≠ .fault := by simp [Res.good]

/-- neither list nor mapping: the documents the model's `flat…` functions take over (recursion on the type) -/
def Doc.isFlat : Doc → Bool
  | .list _ => false
  | .map _ => false
  | _ => true

theorem repeated_not_arr {t : Ty} (hwf : wfTy t = true) (hr : t.occ.repeated = true) : ∀ m e o, t ≠ .arr m e o := by
  intro m e o h; subst h
  simp [wfTy] at hwf
  simp [Ty.occ, Occ.repeated, hwf.1.1.1.1] at hr

/-- `_check_freq_dict` on one member with `c` occurrences -/
def freqOk (t : Ty) (c : Nat) : Bool :=
  decide ((freqBounds t).1 ≤ c) && (match (freqBounds t).2 with | some m => decide (c ≤ m) | none => true)

theorem checkFreq_cons (n m : Text) (t : Ty) (v : Val) (c : Nat) (fs : Fields) (ss : Acc) :
    checkFreq ((n, t) :: fs) ((m, v, c) :: ss) = (freqOk t c && checkFreq fs ss) := by
  simp only [checkFreq, freqOk]; rfl

/-- for everything but a wrapped array the bounds are the declared occurrence facets -/
theorem freqOk_occ {t : Ty} (hna : ∀ m e o, t ≠ .arr m e o) (c : Nat) : freqOk t c = t.occ.countOk c := by
  cases t <;> first | rfl | exact absurd rfl (hna _ _ _)

/-- a wrapped array is never counted out: the bounds applied to it are those of its serializer, `0 .. 1` read as `0 .. ∞` -/
theorem freqOk_arr {m : Text} {e : Ty} {o : Occ} (hwf : wfTy (.arr m e o) = true) (c : Nat) : freqOk (.arr m e o) c = true := by
  simp only [wfTy, Bool.and_eq_true, decide_eq_true_eq] at hwf
  simp [freqOk, freqBounds, hwf.1.1.1.1, hwf.1.1.2, hwf.1.2]

theorem wfTy_occWf (t : Ty) (h : wfTy t = true) (hna : ∀ m e o, t ≠ .arr m e o) : occWf t.occ = true := by
  cases t with
  | prim p o => simpa [wfTy, Ty.occ] using h
  | obj a b c d e => simp [wfTy, Ty.occ] at h ⊢; exact h.1.1
  | arr m e o => exact absurd rfl (hna m e o)

theorem occWf_iff (o : Occ) : occWf o = true ↔ o.Wf := by
  unfold occWf Occ.Wf
  cases o.maxOccurs <;> simp

section
variable (F : Facts08) (G : Facts02) (cfg : Cfg) (R : Registry)

theorem decode_flat (t : Ty) (d : Doc) (h : d.isFlat = true) : decode F G cfg R t d = flatOne F G cfg t d := by
  cases d <;> simp [Doc.isFlat] at h <;> simp [decode]

theorem decode_prim (p : PrimTy) (o : Occ) (d : Doc) : decode F G cfg R (.prim p o) d = primIn F G cfg p o d := by
  cases d <;> simp [decode, flatOne]

theorem decodeBody_flat (cls : Text) (fs : Fields) (d : Doc) (h : d.isFlat = true) :
    decodeBody F G cfg R cls fs d = flatBody F G cfg cls fs d := by
  cases d <;> simp [Doc.isFlat] at h <;> simp [decodeBody]

/-- where the class travels without a wrapper, a list or mapping is the body of the object -/
theorem decode_obj_unwrapped {n ns : Text} {b : Option Text} {fs : Fields} {o : Occ} (hu : cfg.unwrapped n = true)
    (d : Doc) (hd : d.isFlat = false) : decode F G cfg R (.obj n ns b fs o) d = decodeBody F G cfg R n fs d := by
  cases d <;> simp [Doc.isFlat] at hd <;> simp [decode, decodeBody, hu]

/-- otherwise the single entry of a mapping names the class and holds the body -/
theorem decode_obj_wrapped {n ns : Text} {b : Option Text} {fs : Fields} {o : Occ} (hu : cfg.unwrapped n = false)
    (k : Key) (body : Doc) :
    decode F G cfg R (.obj n ns b fs o) (.map [(k, body)]) =
      (wrapperKey G k).bind (fun key =>
        (resolveClass R n fs key).bind (fun cf => decodeBody F G cfg R cf.1 cf.2 body)) := by
  simp [decode, hu, decodeWrapped]

theorem resolveClass_self (name : Text) (fs : Fields) : resolveClass R name fs (some name) = .good (name, fs) := by
  simp [resolveClass]

def slotNames (a : Acc) : List Text := a.map (·.1)

theorem putSlot_at (pre : Acc) (n : Text) (x : Val) (c : Nat) (rest : Acc) (f : Val → Val) (k : Nat)
    (h : n ∉ slotNames pre) :
    putSlot (pre ++ (n, x, c) :: rest) n f k = pre ++ (n, f x, c + k) :: rest := by
  induction pre with
  | nil => simp [putSlot]
  | cons s pre ih =>
    obtain ⟨m, y, d⟩ := s
    simp only [slotNames, List.map_cons, List.mem_cons, not_or] at h
    have hne : ¬ m = n := fun e => h.1 e.symm
    simp only [List.cons_append, putSlot, hne, if_false]
    rw [ih h.2]

theorem lookupField_eq : ∀ (fs : Fields) (n : Text), lookupField fs n = fs.lookup n
  | [], _ => rfl
  | (m, t) :: fs, n => by
    simp only [lookupField, List.lookup_cons, lookupField_eq fs n]
    by_cases h : m = n
    · simp [h]
    · simp [h, beq_eq_false_iff_ne.mpr (Ne.symm h)]

theorem namesDistinct_iff (l : List Text) : namesDistinct l = true ↔ l.Nodup :=
  nodup_iff_of_rec rfl (fun _ _ => rfl) l

theorem namesDistinct_append_cons (pre : List Text) (n : Text) (rest : List Text)
    (h : namesDistinct (pre ++ n :: rest) = true) : n ∉ pre ∧ n ∉ rest := by
  rw [namesDistinct_iff, List.nodup_append] at h
  exact ⟨fun hm => h.2.2 n hm n List.mem_cons_self rfl, (List.nodup_cons.mp h.2.1).1⟩

theorem wfFields_iff (fs : Fields) : wfFields fs = true ↔ ∀ nt ∈ fs, wfTy nt.2 = true := by
  rw [all_of_rec (g := wfFields) (f := fun nt => wfTy nt.2) (by rw [wfFields]) (fun _ _ => by rw [wfFields]), List.all_eq_true]

theorem wfTy_arr {m : Text} {e : Ty} {o : Occ} (h : wfTy (.arr m e o) = true) : wfTy e = true := by
  simp only [wfTy, Bool.and_eq_true] at h; exact h.2

theorem wfTy_obj {n ns : Text} {b : Option Text} {fs : Fields} {o : Occ} (h : wfTy (.obj n ns b fs o) = true) :
    namesDistinct (fs.map (·.1)) = true ∧ wfFields fs = true := by
  simp only [wfTy, Bool.and_eq_true] at h; exact ⟨h.1.2, h.2⟩

theorem lookupField_mem {fs : Fields} {n : Text} {t : Ty} (h : lookupField fs n = some t) : (n, t) ∈ fs :=
  mem_of_lookup (lookupField_eq fs n ▸ h)

theorem lookupField_of_distinct {fs : Fields} (hnd : namesDistinct (fs.map (·.1)) = true) :
    ∀ nt ∈ fs, lookupField fs nt.1 = some nt.2 :=
  fun nt h => (lookupField_eq fs nt.1).trans (lookup_of_mem_nodup ((namesDistinct_iff _).mp hnd) h)

theorem lookupField_split {all pre fs : Fields} {n : Text} {t : Ty} (hall : all = pre ++ (n, t) :: fs)
    (hnd : namesDistinct (all.map (·.1)) = true) : lookupField all n = some t :=
  lookupField_of_distinct hnd (n, t) (by simp [hall])

theorem lookupField_of_mem {all pre fs : Fields} (hall : all = pre ++ fs) (hnd : namesDistinct (all.map (·.1)) = true) :
    ∀ nt ∈ fs, lookupField all nt.1 = some nt.2 :=
  fun nt h => lookupField_of_distinct hnd nt (by simp [hall, h])

/-- the occurrences of a repeated member that Python finds by iterating a document that is no container -/
def flatItems (t : Ty) (d : Doc) : Res (List Val) :=
  match iterFlat d with
  | some xs => mapRes (fun x => flatOne F G cfg t x) xs
  | none => repeatedScalar G

/-- the occurrences of a repeated member in the document of its entry: the items of a list, the keys of a mapping
    (which is what Python iterates), `flatItems` of anything else -/
def memberItems (t : Ty) : Doc → Res (List Val)
  | .list ds => decodeItems F G cfg R t ds
  | .map kvs => mapRes (fun x => flatOne F G cfg t x) (keyDocs kvs)
  | d => flatItems F G cfg t d

theorem memberItems_flat (t : Ty) (d : Doc) (h : d.isFlat = true) :
    memberItems F G cfg R t d = flatItems F G cfg t d := by
  cases d <;> first | rfl | cases h

/-- one round of a member loop, for the member `n` of type `t`: `one` is what the document found for it decodes to as a
    single occurrence, `items` as the occurrences of a repeated member -/
def slotStep (n : Text) (t : Ty) (one : Res Val) (items : Res (List Val)) (a : Acc) : Res Acc :=
  if t.occ.repeated then items.bind (fun vs => .good (a.putItems G n vs))
  else one.bind (fun x => .good (a.put G n x))

theorem decodeKvs_cons (fs : Fields) (k : Key) (v : Doc) (rest : List (Key × Doc)) (a : Acc) :
    decodeKvs F G cfg R fs ((k, v) :: rest) a =
      (keyName cfg k).bind (fun nm =>
        match nm with
        | none => decodeKvs F G cfg R fs rest a
        | some n =>
          match lookupField fs n with
          | none => decodeKvs F G cfg R fs rest a
          | some t =>
            (slotStep G n t (decode F G cfg R t v) (memberItems F G cfg R t v) a).bind
              (fun a' => decodeKvs F G cfg R fs rest a')) := by
  rw [decodeKvs]; rfl

theorem decodePos_cons (all fs : Fields) (n : Text) (t : Ty) (v : Doc) (rest : List Doc) (a : Acc) :
    decodePos F G cfg R all ((n, t) :: fs) (v :: rest) a =
      (slotStep G n t (decode F G cfg R t v) (memberItems F G cfg R t v) a).bind
        (fun a' => decodePos F G cfg R all fs rest a') := by
  rw [decodePos.eq_def]; rfl

theorem flatFields_cons (all fs : Fields) (n : Text) (t : Ty) (d : Doc) (ds : List Doc) (a : Acc) :
    flatFields F G cfg all ((n, t) :: fs) (d :: ds) a =
      (slotStep G n t (flatOne F G cfg t d) (flatItems F G cfg t d) a).bind
        (fun a' => flatFields F G cfg all fs ds a') := by
  rw [flatFields, slotStep, flatItems]
  cases t.occ.repeated
  · rfl
  · cases iterFlat d with
    | some xs => rfl
    | none => simp only [repeatedScalar]; cases G.repeatedScalarFault <;> rfl

variable (S : Spell)

/-- `_to_dict_value(t, v)`: the encoding of one occurrence. The model has it with the cycle guard, as `encOneG`;
    `encOneG_local` says when the two agree -/
def encOne (t : Ty) (v : Val) : Doc :=
  match v with
  | .none => (match t with
              | .obj name _ _ fields _ => wrapPairs S name (nonePairs S fields)
              | _ => .null)
  | .list ws => (match t with | .arr _ elem _ => .list (encodeItems S R elem ws) | _ => .null)
  | .obj c fvs =>
    (match t with
     | .obj name _ _ fields _ =>
       wrapPairs S (polyTarget S R name fields c).1 (encodeFields S R (polyTarget S R name fields c).2 fvs)
     | _ => .null)
  | v => (match t with | .prim p _ => S.lOut p v | _ => .null)

theorem encOne_prim (p : PrimTy) (o : Occ) {v : Val} (h : p.valueOk v = true) :
    encOne R S (.prim p o) v = S.lOut p v := by
  cases v <;> first | rfl | (cases p <;> cases h)

theorem wrapPairs_not_null (cls : Text) (pairs : List (Text × Doc)) : (wrapPairs S cls pairs).isNull = false := by
  unfold wrapPairs
  cases S.cas <;> simp only [] <;> (try split) <;> rfl

/-- the members of an instance as a document: a mapping, or a positional list -/
def bodyDoc (pairs : List (Text × Doc)) : Doc :=
  match S.cas with
  | .list => .list (pairs.map (·.2))
  | .dict => .map (pairs.map (fun p => (S.kOut p.1, p.2)))

theorem bodyDoc_not_flat (pairs : List (Text × Doc)) : (bodyDoc S pairs).isFlat = false := by
  unfold bodyDoc; cases S.cas <;> rfl

theorem wrapPairs_unwrapped (cls : Text) (pairs : List (Text × Doc)) (h : S.cas = .list ∨ (S.iw || S.nw cls) = true) :
    wrapPairs S cls pairs = bodyDoc S pairs := by
  unfold wrapPairs bodyDoc
  cases hc : S.cas
  · rcases h with h | h
    · rw [hc] at h; cases h
    · simp only [h, if_true]
  · rfl

theorem wrapPairs_wrapped (cls : Text) (pairs : List (Text × Doc)) (hd : S.cas = .dict) (h : (S.iw || S.nw cls) = false) :
    wrapPairs S cls pairs = .map [(S.kOut cls, bodyDoc S pairs)] := by
  simp only [wrapPairs, bodyDoc, hd, h, Bool.false_eq_true, if_false]

theorem encodeS_list_repeated (t : Ty) (vs : List Val) (hr : t.occ.repeated = true) :
    encodeS S R t (.list vs) = .list (encodeItems S R (itemTy t) vs) := by
  cases t <;> simp [encodeS, hr, itemTy]

theorem encodeItems_cons (t : Ty) (v : Val) (vs : List Val) :
    encodeItems S R t (v :: vs) = encOne R S t v :: encodeItems S R t vs := by
  rw [encodeItems.eq_def]; rfl

@[simp] theorem encodeItems_nil (t : Ty) : encodeItems S R t [] = [] := by simp [encodeItems]

/-- for a single-occurrence member holding a value of the right shape, `_object_to_doc` is `_to_dict_value` -/
theorem encode_eq_encOne (t : Ty) (v : Val) (hv : v ≠ .none)
    (hl : ∀ vs, v = .list vs → ∃ m e o, t = .arr m e o) :
    encodeS S R t v = encOne R S t v := by
  cases v with
  | none => exact absurd rfl hv
  | list vs =>
    obtain ⟨m, e, o, rfl⟩ := hl vs rfl
    simp [encodeS, encOne]
  | _ => rw [encodeS.eq_def]; rfl

end
end SpyneModel.Hier
