/-
  Uuid: `uuid.UUID(str)` on the spellings of `str(UUID)`; everything goes through `uuidFromText_core`.
-/
import SpyneModel.Prim2
import Proofs.Prim
import Proofs.Binary
namespace SpyneModel

theorem hex_ne (c : Char) (h : isHexDigit c = true) (x : Char) (hx : isHexDigit x = false) : c ≠ x := by
  intro e; subst e; rw [h] at hx; cases hx

theorem isHexDigit_hexDigit : ∀ n, n < 16 → isHexDigit (hexDigit n) = true := by decide

theorem hex_not_space (c : Char) (h : isHexDigit c = true) : isPyAsciiSpace c = false := by
  have h1 := hex_ne c h ' ' (by decide)
  have h2 := hex_ne c h '\t' (by decide)
  have h3 := hex_ne c h '\n' (by decide)
  have h4 := hex_ne c h '\r' (by decide)
  have hn : ∀ n, isHexDigit (Char.ofNat n) = false → c.toNat ≠ n := fun n hx e =>
    hex_ne c h (Char.ofNat n) hx (by rw [← e]; exact (Char.ofNat_toNat c).symm)
  have h5 := hn 11 (by decide)
  have h6 := hn 12 (by decide)
  simp [isPyAsciiSpace, h1, h2, h3, h4, h5, h6]

theorem hexenc_all (bs : List Nat) (h : bytesOk bs) : (hexenc bs).all isHexDigit = true := by
  induction bs with
  | nil => simp [hexenc]
  | cons b bs ih =>
    obtain ⟨hb, hbs⟩ := bytesOk_cons.1 h
    simp [hexenc, isHexDigit_hexDigit (b / 16) (by omega), isHexDigit_hexDigit (b % 16) (by omega), ih hbs]

theorem hexenc_length (bs : List Nat) : (hexenc bs).length = 2 * bs.length := by
  induction bs with
  | nil => simp [hexenc]
  | cons b bs ih => simp [hexenc, ih]; omega

theorem removeAllAux_id (p0 : Char) (pat s : Text) (h : ∀ c ∈ s, c ≠ p0) : removeAllAux (p0 :: pat) 0 s = s := by
  induction s with
  | nil => simp [removeAllAux]
  | cons c r ih =>
    have hc : c ≠ p0 := h c (by simp)
    have hc' : (p0 == c) = false := by simpa using fun e => hc e.symm
    simp [removeAllAux, List.isPrefixOf, hc', ih (fun x hx => h x (by simp [hx]))]

theorem recombine (h : Text) :
    h.take 8 ++ ((h.drop 8).take 4 ++ ((h.drop 12).take 4 ++ ((h.drop 16).take 4 ++ h.drop 20))) = h := by
  have e1 : h.drop 20 = (h.drop 16).drop 4 := by simp [List.drop_drop]
  have e2 : h.drop 16 = (h.drop 12).drop 4 := by simp [List.drop_drop]
  have e3 : h.drop 12 = (h.drop 8).drop 4 := by simp [List.drop_drop]
  rw [e1, List.take_append_drop, e2, List.take_append_drop, e3, List.take_append_drop, List.take_append_drop]

/-- the characters of `str(UUID)` -/
def uuidChar (c : Char) : Bool := isHexDigit c || c = '-'

theorem uuidToText_all (bs : List Nat) (h : bytesOk bs) : (uuidToText bs).all uuidChar = true := by
  have hh := hexenc_all bs h
  rw [List.all_eq_true] at hh
  have hx : ∀ c ∈ hexenc bs, uuidChar c = true := fun c hc => by simp [uuidChar, hh c hc]
  unfold uuidToText
  simp only [List.all_append, List.all_cons, Bool.and_eq_true, List.all_eq_true]
  refine ⟨fun c hc => hx c (List.mem_of_mem_take hc), by decide,
    fun c hc => hx c (List.mem_of_mem_drop (List.mem_of_mem_take hc)), by decide,
    fun c hc => hx c (List.mem_of_mem_drop (List.mem_of_mem_take hc)), by decide,
    fun c hc => hx c (List.mem_of_mem_drop (List.mem_of_mem_take hc)), by decide,
    fun c hc => hx c (List.mem_of_mem_drop hc)⟩

/-- what a hex digit is not: the characters `uuid.UUID` strips or removes -/
theorem hex_props (c : Char) (h : isHexDigit c = true) : c ≠ 'u' ∧ isBrace c = false ∧ (c != '-') = true := by
  have a := hex_ne c h '{' (by decide)
  have b := hex_ne c h '}' (by decide)
  have d := hex_ne c h '-' (by decide)
  exact ⟨hex_ne c h 'u' (by decide), by simp [isBrace, a, b], by simpa using d⟩

theorem uuidChar_props (c : Char) (h : uuidChar c = true) : c ≠ 'u' ∧ isBrace c = false := by
  simp only [uuidChar, Bool.or_eq_true, decide_eq_true_eq] at h
  rcases h with h | h
  · exact ⟨(hex_props c h).1, (hex_props c h).2.1⟩
  · subst h; decide

theorem filter_hyphen_uuidToText (bs : List Nat) (h : bytesOk bs) :
    (uuidToText bs).filter (fun c => c != '-') = hexenc bs := by
  have hh := List.all_eq_true.1 (hexenc_all bs h)
  have : (uuidToText bs).filter (fun c => c != '-') =
      ((hexenc bs).take 8 ++ (((hexenc bs).drop 8).take 4 ++ (((hexenc bs).drop 12).take 4 ++
        (((hexenc bs).drop 16).take 4 ++ (hexenc bs).drop 20)))).filter (fun c => c != '-') := by
    simp only [uuidToText, List.filter_append, List.filter_cons, show (('-' : Char) != '-') = false by decide,
      Bool.false_eq_true, if_false]
  rw [this, recombine]
  exact List.filter_eq_self.2 (fun c hc => (hex_props c (hh c hc)).2.2)

theorem hexGroupsAfter_hex (t : Text) (h : t.all isHexDigit = true) : hexGroupsAfter t = some t := by
  induction t with
  | nil => simp [hexGroupsAfter]
  | cons c r ih =>
    rw [List.all_cons, Bool.and_eq_true] at h
    have hc := hex_ne c h.1 '_' (by decide)
    unfold hexGroupsAfter
    simp [hc, h.1, ih h.2]

theorem foldl_hex (bs : List Nat) (h : bytesOk bs) : ∀ acc : Nat,
    (hexenc bs).foldl (fun a c => a * 16 + (hexVal? c).getD 0) acc = bs.foldl (fun a b => a * 256 + b) acc := by
  induction bs with
  | nil => intro acc; simp [hexenc]
  | cons b bs ih =>
    intro acc
    obtain ⟨hb, hbs⟩ := bytesOk_cons.1 h
    simp only [hexenc, List.foldl_cons, hexVal_hexDigit (b / 16) (by omega), hexVal_hexDigit (b % 16) (by omega),
      Option.getD_some]
    rw [ih hbs]
    congr 1
    omega

theorem valHex_hexenc (bs : List Nat) (h : bytesOk bs) : valHex (hexenc bs) = bytesVal bs :=
  foldl_hex bs h 0

theorem bytesVal_append_single (bs : List Nat) (b : Nat) : bytesVal (bs ++ [b]) = bytesVal bs * 256 + b := by
  simp [bytesVal, List.foldl_append]

theorem natToBytesBE_bytesVal : ∀ (n : Nat) (bs : List Nat), bs.length = n → bytesOk bs →
    natToBytesBE n (bytesVal bs) = bs := by
  intro n
  induction n with
  | zero => intro bs hl _; cases bs <;> simp_all [natToBytesBE]
  | succ k ih =>
    intro bs hl hok
    have hne : bs ≠ [] := by intro e; subst e; simp at hl
    have hsplit := List.dropLast_concat_getLast hne
    have hlast : bs.getLast hne < 256 := hok _ (List.getLast_mem hne)
    have hinit : bytesOk bs.dropLast := fun x hx => hok x (List.dropLast_subset bs hx)
    have hlen : bs.dropLast.length = k := by simp [List.length_dropLast, hl]
    have := ih bs.dropLast hlen hinit
    conv => lhs; rw [← hsplit, bytesVal_append_single]
    simp only [natToBytesBE]
    rw [Radix.div_mul_add hlast, Nat.mul_add_mod_of_lt hlast, this, hsplit]

/-- `int(s, 16)` on two or more hex digits -/
theorem pyIntHex_hex (a b : Char) (t : Text) (h : (a :: b :: t).all isHexDigit = true) :
    pyIntHex (a :: b :: t) = some (valHex (a :: b :: t)) := by
  have h' := List.all_eq_true.1 h
  have ha := h' a (by simp)
  have hb := h' b (by simp)
  have hs : splitSign (a :: b :: t) = (false, a :: b :: t) := by
    simp [splitSign, hex_ne _ ha '-' (by decide), hex_ne _ ha '+' (by decide)]
  have hp : dropHexPrefix (a :: b :: t) = a :: b :: t := by
    simp [dropHexPrefix, hex_ne _ hb 'x' (by decide), hex_ne _ hb 'X' (by decide)]
  have hg : hexGroups (a :: b :: t) = some (a :: b :: t) := by
    rw [List.all_cons, Bool.and_eq_true] at h
    simp [hexGroups, ha, hexGroupsAfter_hex _ h.2]
  unfold pyIntHex stripSpace
  rw [strip_none _ (fun c hc => hex_not_space c (h' c hc)), hs]
  simp only [Bool.false_eq_true, if_false, hp, hg, Option.map_some]

theorem pyIntHex_hexenc (bs : List Nat) (h : bytesOk bs) (hl : 2 ≤ bs.length) :
    pyIntHex (hexenc bs) = some (bytesVal bs) := by
  match bs, hl with
  | b0 :: b1 :: rest, _ =>
    rw [← valHex_hexenc _ h]
    exact pyIntHex_hex _ _ _ (hexenc_all _ h)

/-- `uuid.UUID(t)` once prefixes, braces and hyphens are gone -/
theorem uuidFromText_core (t : Text) (bs : List Nat) (hl : bs.length = 16) (h : bytesOk bs)
    (ht : (stripBraces (removeAll "uuid:".toList (removeAll "urn:".toList t))).filter (fun c => c != '-') = hexenc bs) :
    uuidFromText t = .ok bs := by
  unfold uuidFromText
  have hlen : ¬ ((hexenc bs).length ≠ 32) := by rw [hexenc_length, hl]; decide
  simp only [ht, hlen, if_false, pyIntHex_hexenc bs h (by omega)]
  rw [← hl, natToBytesBE_bytesVal bs.length bs rfl h]

/-- `uuid.UUID` on hex digits with hyphens anywhere between them — bare, as a URN, or in braces -/
theorem uuidFromText_spellings (body : Text) (bs : List Nat) (hl : bs.length = 16) (h : bytesOk bs)
    (hc : body.all uuidChar = true) (hd : body.filter (fun c => c != '-') = hexenc bs) :
    uuidFromText body = .ok bs ∧ uuidFromText ("urn:uuid:".toList ++ body) = .ok bs ∧
      uuidFromText ('{' :: (body ++ ['}'])) = .ok bs := by
  have hall := List.all_eq_true.1 hc
  have hu : ∀ c ∈ body, c ≠ 'u' := fun c hc => (uuidChar_props c (hall c hc)).1
  have hb : ∀ c ∈ body, isBrace c = false := fun c hc => (uuidChar_props c (hall c hc)).2
  have e1 : removeAll "urn:".toList body = body := removeAllAux_id 'u' _ _ hu
  have e2 : removeAll "uuid:".toList body = body := removeAllAux_id 'u' _ _ hu
  have e3 : stripBraces body = body := strip_none _ hb
  refine ⟨uuidFromText_core _ bs hl h (by rw [e1, e2, e3, hd]), uuidFromText_core _ bs hl h ?_,
    uuidFromText_core _ bs hl h ?_⟩
  · have r1 : removeAll "urn:".toList ("urn:uuid:".toList ++ body) = "uuid:".toList ++ body := by
      simp only [removeAll] at e1 ⊢
      simp [removeAllAux, List.isPrefixOf]
      simpa using e1
    have r2 : removeAll "uuid:".toList ("uuid:".toList ++ body) = body := by
      simp only [removeAll] at e2 ⊢
      simp [removeAllAux, List.isPrefixOf]
      simpa using e2
    rw [r1, r2, e3, hd]
  · have hu' : ∀ c ∈ '{' :: (body ++ ['}']), c ≠ 'u' := by
      intro c hc
      simp only [List.mem_cons, List.mem_append, List.not_mem_nil, or_false] at hc
      rcases hc with hc | hc | hc
      · subst hc; decide
      · exact hu c hc
      · subst hc; decide
    have r3 : stripBraces ('{' :: (body ++ ['}'])) = body :=
      strip_around ['{'] body ['}'] (by decide) (by decide) hb
    rw [show removeAll "urn:".toList _ = _ from removeAllAux_id 'u' _ _ hu',
      show removeAll "uuid:".toList _ = _ from removeAllAux_id 'u' _ _ hu', r3, hd]

theorem uuidToText_spellings (bs : List Nat) (hl : bs.length = 16) (h : bytesOk bs) :
    uuidFromText (uuidToText bs) = .ok bs ∧ uuidFromText ("urn:uuid:".toList ++ uuidToText bs) = .ok bs ∧
      uuidFromText ('{' :: (uuidToText bs ++ ['}'])) = .ok bs :=
  uuidFromText_spellings _ bs hl h (uuidToText_all bs h) (filter_hyphen_uuidToText bs h)

theorem uuidFromText_hex (bs : List Nat) (hl : bs.length = 16) (h : bytesOk bs) : uuidFromText (hexenc bs) = .ok bs := by
  have hh := List.all_eq_true.1 (hexenc_all bs h)
  exact (uuidFromText_spellings _ bs hl h (List.all_eq_true.2 fun c hc => by simp [uuidChar, hh c hc])
    (List.filter_eq_self.2 fun c hc => (hex_props c (hh c hc)).2.2)).1

theorem cons4_of_length (s : Text) (n : Nat) (h : s.length = n + 4) :
    ∃ a b c d t, s = a :: b :: c :: d :: t ∧ t.length = n := by
  match s, h with
  | a :: b :: c :: d :: t, h => exact ⟨a, b, c, d, t, rfl, by simpa using h⟩

/-- `str(UUID)` matches the pattern facet of the Uuid type -/
theorem uuidPattern_uuidToText (bs : List Nat) (hl : bs.length = 16) (h : bytesOk bs) :
    uuidPattern (uuidToText bs) = true := by
  have hh := hexenc_all bs h
  have hlen := hexenc_length bs
  rw [hl] at hlen
  unfold uuidToText
  generalize hexenc bs = hx at hh hlen ⊢
  -- 32 hex digits, named four at a time
  obtain ⟨c0, c1, c2, c3, t1, rfl, h1⟩ := cons4_of_length hx 28 hlen
  obtain ⟨c4, c5, c6, c7, t2, rfl, h2⟩ := cons4_of_length t1 24 h1
  obtain ⟨c8, c9, c10, c11, t3, rfl, h3⟩ := cons4_of_length t2 20 h2
  obtain ⟨c12, c13, c14, c15, t4, rfl, h4⟩ := cons4_of_length t3 16 h3
  obtain ⟨c16, c17, c18, c19, t5, rfl, h5⟩ := cons4_of_length t4 12 h4
  obtain ⟨c20, c21, c22, c23, t6, rfl, h6⟩ := cons4_of_length t5 8 h5
  obtain ⟨c24, c25, c26, c27, t7, rfl, h7⟩ := cons4_of_length t6 4 h6
  obtain ⟨c28, c29, c30, c31, t8, rfl, h8⟩ := cons4_of_length t7 0 h7
  obtain rfl := List.eq_nil_of_length_eq_zero h8
  simp only [List.take_succ_cons, List.take_zero, List.drop_succ_cons, List.drop_zero, List.cons_append,
    List.nil_append]
  -- the length apart; on a text of this shape the 36 position checks of the pattern compute to the 32 digit checks
  rw [uuidPattern, Bool.and_eq_true]
  exact ⟨rfl, hh⟩

theorem uuidFromText_ne_crash (s : Text) (e : String) : uuidFromText s ≠ .crash e := by
  unfold uuidFromText
  repeat' (first | split | (dsimp only; split))
  all_goals nofun

end SpyneModel
