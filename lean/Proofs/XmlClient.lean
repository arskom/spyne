/-
  Client argument packing (`RemoteProcedureBase.get_out_object`), result unwrapping (`get_in_object`),
  body styles and multiple return values on top of the round trip.
-/
import Proofs.XmlRoundtrip
import SpyneModel.Client
namespace SpyneModel
namespace Xml
open Soap Client


/-- `get_out_object` member by member: a member is packed from the keyword argument of its name and the positional
    argument at its index -/
theorem packFrom_eq (C : FactsClient) (args : List Val) (kwargs : List (Text × Val)) :
    (fields : List (Text × Ty)) → (off : Nat) →
    packFrom C args kwargs off fields = fields.mapIdx fun i f =>
      (f.1, match kwargs.lookup f.1 with
            | some v => if C.kwFalsyKept || truthy v then v else args.getD (off + i) Val.none
            | none => args.getD (off + i) Val.none)
  | [], _ => rfl
  | (k, _) :: fs, off => by
    rw [packFrom, packFrom_eq C args kwargs fs (off + 1), List.mapIdx_cons]
    simp only [Nat.add_zero, Nat.add_assoc, Nat.add_comm 1]
    rfl

/-- a keyword argument replaces the member it names whatever its value is (0, False, '' … included);
    a member without keyword argument holds the positional argument at its index, or None -/
theorem pack_getElem (C : FactsClient) (hC : C.kwFalsyKept = true) (fields : List (Text × Ty)) (args : List Val)
    (kwargs : List (Text × Val)) (i : Nat) (k : Text) (t : Ty) (h : fields[i]? = some (k, t)) :
    (pack C fields args kwargs)[i]? = some (k, (kwargs.lookup k).getD (args.getD i Val.none)) := by
  rw [pack, packFrom_eq, List.getElem?_mapIdx, h]
  simp only [Option.map, hC, Bool.true_or, if_true, Nat.zero_add]
  cases kwargs.lookup k <;> rfl

theorem packFrom_length (C : FactsClient) (args : List Val) (kwargs : List (Text × Val)) :
    (fields : List (Text × Ty)) → (off : Nat) → (packFrom C args kwargs off fields).length = fields.length :=
  fun fields off => by rw [packFrom_eq, List.length_mapIdx]


/-- what the response denotes: the wrapper object, or the bare return value -/
def respValue (S : FactsSoap) (style : Style) (outMsg : Ty) (rets : List Val) : Val :=
  if style.outWrapped then outObject outMsg rets else bareReturn S outMsg (rets.headD .none)

/-- the body entry of a response is what the encoder writes for the value the response denotes, named after
    the out-message class (wrapped) or by the declared out name -/
theorem responseNodes_eq (F : Facts08) (S : FactsSoap) (cfg : Cfg) (I : Iface) (style : Style) (outName : Text)
    (outMsg : Ty) (hw : style.outWrapped = true → isObjTy outMsg = true) (rets : List Val) :
    ∃ name, responseNodes F S cfg I style outName outMsg rets =
      toParent F cfg I I.tns name outMsg (respValue S style outMsg rets) := by
  unfold responseNodes respValue
  cases hs : style.outWrapped with
  | false => exact ⟨outName, rfl⟩
  | true =>
    cases outMsg with
    | obj name ns b fs o => exact ⟨name, rfl⟩
    | prim p o => exact absurd (hw hs) (by simp [isObjTy])
    | arr m e o => exact absurd (hw hs) (by simp [isObjTy])

theorem response_rt {F : Facts08} {X : FactsXml} {cfg : Cfg} {I : Iface} (C : RtCtx F X cfg I) (S : FactsSoap)
    (style : Style) (outName : Text) (outMsg : Ty) (ht : tyWf outMsg = true)
    (hw : style.outWrapped = true → isObjTy outMsg = true) (rets : List Val)
    (hok : okOneX I cfg.polymorphic cfg.soft outMsg (respValue S style outMsg rets) = true)
    (hfit : fitsV F (respValue S style outMsg rets) = true) :
    ∃ e, responseNodes F S cfg I style outName outMsg rets = [e] ∧
      fromElement F X cfg I outMsg e = .ok (normOneX I outMsg (respValue S style outMsg rets)) :=
  let ⟨name, h⟩ := responseNodes_eq F S cfg I style outName outMsg hw rets
  h ▸ one_rt C I.tns name outMsg ht _ hok hfit

end Xml
end SpyneModel
