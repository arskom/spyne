/-
  The `Outcome` monad, folds (`foldO`), attribute stores, lookups (`lookupFld`, `stiGet` as `List.find?` / `List.lookup`),
  and the generic "a fold over keyed updates decomposes by key" lemma (`foldO_by_key`) that carries the
  order-independence proofs of C03.
-/
import SpyneModel.Flat
import Proofs.Assoc
import Proofs.InsertionSort
namespace SpyneModel.Flat
open SpyneModel

@[simp] theorem obind_ok {α β : Type} (a : α) (f : α → Outcome β) : obind (.ok a) f = f a := rfl
@[simp] theorem obind_fault {α β : Type} (f : α → Outcome β) : obind (.fault : Outcome α) f = .fault := rfl
@[simp] theorem obind_crash {α β : Type} (e : String) (f : α → Outcome β) :
    obind (.crash e : Outcome α) f = .crash e := rfl

theorem obind_eq_ok {α β : Type} {o : Outcome α} {f : α → Outcome β} {b : β} :
    obind o f = .ok b ↔ ∃ a, o = .ok a ∧ f a = .ok b := by
  cases o with
  | ok a => simp
  | fault => simp
  | crash e => simp

theorem obind_ok_eq_ok {α β : Type} {o : Outcome α} {g : α → β} {b : β} :
    obind o (fun a => .ok (g a)) = .ok b ↔ ∃ a, o = .ok a ∧ b = g a := by
  cases o <;> simp [obind, eq_comm]

@[simp] theorem foldO_nil {σ α : Type} (f : σ → α → Outcome σ) (s : σ) : foldO f s [] = .ok s := rfl
@[simp] theorem foldO_cons {σ α : Type} (f : σ → α → Outcome σ) (s : σ) (a : α) (r : List α) :
    foldO f s (a :: r) = obind (f s a) fun s' => foldO f s' r := rfl

theorem foldO_append {σ α : Type} (f : σ → α → Outcome σ) (s : σ) (l r : List α) :
    foldO f s (l ++ r) = obind (foldO f s l) fun s' => foldO f s' r := by
  induction l generalizing s with
  | nil => simp
  | cons a l ih =>
    simp only [List.cons_append, foldO_cons]
    cases f s a with
    | ok s1 => simp [ih]
    | fault => simp
    | crash e => simp

theorem foldO_congr {σ α : Type} (f g : σ → α → Outcome σ) (l : List α)
    (h : ∀ s a, a ∈ l → f s a = g s a) (s : σ) : foldO f s l = foldO g s l := by
  induction l generalizing s with
  | nil => rfl
  | cons a l ih =>
    simp only [foldO_cons, h s a (List.mem_cons_self)]
    cases g s a with
    | ok s1 => simp; exact ih (fun s a ha => h s a (List.mem_cons_of_mem _ ha)) s1
    | fault => rfl
    | crash e => rfl

theorem foldO_map {σ α β : Type} (f : σ → β → Outcome σ) (g : α → β) (s : σ) (l : List α) :
    foldO f s (l.map g) = foldO (fun s a => f s (g a)) s l := by
  induction l generalizing s with
  | nil => rfl
  | cons a r ih =>
    simp only [List.map_cons, foldO_cons]
    cases f s (g a) with
    | ok s1 => simp [ih]
    | fault => rfl
    | crash e => rfl

@[simp] theorem getAttr_setAttr_same (a : Attrs) (k : Text) (v : Node) : getAttr (setAttr a k v) k = v := by
  induction a with
  | nil => simp [setAttr, getAttr]
  | cons kv r ih =>
    obtain ⟨k', w⟩ := kv
    by_cases h : k' = k
    · simp [setAttr, getAttr, h]
    · simp [setAttr, getAttr, h, ih]

theorem getAttr_setAttr_ne (a : Attrs) (k j : Text) (v : Node) (h : j ≠ k) :
    getAttr (setAttr a k v) j = getAttr a j := by
  induction a with
  | nil => simp [setAttr, getAttr, Ne.symm h]
  | cons kv r ih =>
    obtain ⟨k', w⟩ := kv
    by_cases h1 : k' = k
    · subst h1
      simp [setAttr, getAttr, Ne.symm h]
    · by_cases h2 : k' = j
      · subst h2
        simp [setAttr, getAttr, h1]
      · simp [setAttr, getAttr, h1, h2, ih]

theorem setAttr_keys (a : Attrs) (k : Text) (v : Node) (h : k ∈ a.map Prod.fst) :
    (setAttr a k v).map Prod.fst = a.map Prod.fst := by
  induction a with
  | nil => simp at h
  | cons kv r ih =>
    obtain ⟨k', w⟩ := kv
    by_cases h1 : k' = k
    · simp [setAttr, h1]
    · simp only [List.map_cons, List.mem_cons] at h
      have : k ∈ r.map Prod.fst := by
        rcases h with h | h
        · exact absurd h.symm h1
        · exact h
      simp [setAttr, h1, ih this]

theorem attrs_eq_of_get (a : Attrs) (h : (a.map Prod.fst).Nodup) :
    a = (a.map Prod.fst).map (fun k => (k, getAttr a k)) := by
  induction a with
  | nil => rfl
  | cons kv r ih =>
    obtain ⟨k, w⟩ := kv
    simp only [List.map_cons, List.nodup_cons] at h
    have ih' := ih h.2
    simp only [List.map_cons, getAttr, if_true, List.map_map, List.cons.injEq, true_and]
    conv => lhs; rw [ih']
    simp only [List.map_map]
    apply List.map_congr_left
    intro kv hkv
    have : kv.1 ≠ k := by
      intro e
      exact h.1 (e ▸ List.mem_map_of_mem (f := Prod.fst) hkv)
    simp [Ne.symm this]

theorem attrs_ext {a b : Attrs} (hn : (a.map Prod.fst).Nodup) (hk : a.map Prod.fst = b.map Prod.fst)
    (h : ∀ k, getAttr a k = getAttr b k) : a = b := by
  rw [attrs_eq_of_get a hn, attrs_eq_of_get b (hk ▸ hn), hk]
  exact List.map_congr_left fun k _ => by rw [h k]

theorem getAttr_freshAttrs (fields : List Fld) (k : Text) : getAttr (freshAttrs fields) k = .none := by
  induction fields with
  | nil => rfl
  | cons f r ih =>
    simp only [freshAttrs, List.map_cons, getAttr] at *
    split <;> simp_all

theorem freshAttrs_keys (fields : List Fld) : (freshAttrs fields).map Prod.fst = fields.map Prod.fst := by
  simp [freshAttrs, List.map_map, Function.comp_def]

/-- Generic decomposition. A state `s` is read through `get s k`; a step with key `key e` changes
    only what is read at that key, by `upd`. If for every key the updates for that key, taken in
    the order of the list, succeed from what the state holds there, then the whole fold succeeds,
    whatever way the keys are interleaved, and each key ends with its own result. `I` is an invariant of the
    state that the law may assume and must keep, `P` says which steps are admissible (all of `es` are), and `Q k v`
    is what is claimed of the value `v` that key `k` ends with. -/
theorem foldO_by_key {σ ε κ ν : Type} [DecidableEq κ]
    (get : σ → κ → ν) (step : σ → ε → Outcome σ) (key : ε → κ) (upd : κ → ν → ε → Outcome ν)
    (I : σ → Prop) (P : ε → Prop) (Q : κ → ν → Prop)
    (law : ∀ s e v', P e → I s → upd (key e) (get s (key e)) e = .ok v' →
        ∃ s', step s e = .ok s' ∧ I s' ∧ get s' (key e) = v' ∧ ∀ j, j ≠ key e → get s' j = get s j) :
    ∀ (es : List ε) (s : σ), (∀ e, e ∈ es → P e) → I s →
      (∀ k, ∃ v, foldO (upd k) (get s k) (es.filter (fun e => key e = k)) = .ok v ∧ Q k v) →
      ∃ s', foldO step s es = .ok s' ∧ I s' ∧ ∀ k, Q k (get s' k) := by
  intro es
  induction es with
  | nil =>
    intro s _ hI h
    refine ⟨s, rfl, hI, fun k => ?_⟩
    obtain ⟨v, hv, hq⟩ := h k
    simp at hv
    exact hv ▸ hq
  | cons e es ih =>
    intro s hP hI h
    obtain ⟨v, hv, _⟩ := h (key e)
    simp only [List.filter_cons, decide_true, if_true, foldO_cons] at hv
    obtain ⟨v1, hv1, _⟩ := obind_eq_ok.mp hv
    obtain ⟨s1, hs1, hI1, hg1, hother⟩ := law s e v1 (hP e List.mem_cons_self) hI hv1
    have := ih s1 (fun e' he' => hP e' (List.mem_cons_of_mem _ he')) hI1 (fun k => by
      by_cases hk : key e = k
      · subst hk
        obtain ⟨v, hv, hq⟩ := h (key e)
        simp only [List.filter_cons, decide_true, if_true, foldO_cons, hv1, obind_ok] at hv
        exact ⟨v, hg1 ▸ hv, hq⟩
      · obtain ⟨v, hv, hq⟩ := h k
        simp only [List.filter_cons, hk, decide_false] at hv
        refine ⟨v, ?_, hq⟩
        rw [hother k (Ne.symm hk)]
        exact hv)
    obtain ⟨s', hs', hI', hq'⟩ := this
    exact ⟨s', by simp [hs1, hs'], hI', hq'⟩

theorem forall_mem_of_cons {α : Type} {P : List α → Prop} {Q : α → Prop}
    (hcons : ∀ a r, P (a :: r) → Q a ∧ P r) : ∀ l, P l → ∀ a, a ∈ l → Q a
  | [], _, _, ha => nomatch ha
  | _ :: r, h, a, ha => by
    rcases List.mem_cons.mp ha with rfl | ha
    · exact (hcons _ r h).1
    · exact forall_mem_of_cons hcons r (hcons _ r h).2 a ha

theorem lookupFld_eq : ∀ (fs : List Fld) (n : Text), lookupFld fs n = fs.find? (fun f => f.1 = n)
  | [], _ => rfl
  | f :: r, n => by
    simp only [lookupFld, List.find?_cons, lookupFld_eq r n]
    by_cases h : f.1 = n <;> simp [h]

theorem lookupFld_some {fields : List Fld} {n : Text} {f : Fld} (h : lookupFld fields n = some f) :
    f ∈ fields ∧ f.1 = n := by
  rw [lookupFld_eq] at h
  exact ⟨List.mem_of_find?_eq_some h, by simpa using List.find?_some h⟩

theorem lookupFld_of_mem {fields : List Fld} (hn : (fields.map Prod.fst).Nodup) {f : Fld} (hf : f ∈ fields) :
    lookupFld fields f.1 = some f :=
  (lookupFld_eq _ _).trans (find?_of_mem_nodup Prod.fst hn hf fun _ _ => decide_eq_true_iff)

theorem stiGet_eq_lookup (table : List (Text × Member)) (k : Text) : stiGet table k = table.lookup k := by
  induction table with
  | nil => rfl
  | cons a r ih =>
    obtain ⟨k', m⟩ := a
    show (if k' = k then some m else stiGet r k) = _
    rw [List.lookup_cons, ih]
    by_cases h : k' = k
    · rw [if_pos h, h, beq_self_eq_true]
    · rw [if_neg h, beq_eq_false_iff_ne.mpr (Ne.symm h)]

theorem stiGet_mem {table : List (Text × Member)} {k : Text} {m : Member} (h : stiGet table k = some m) :
    (k, m) ∈ table :=
  mem_of_lookup ((stiGet_eq_lookup table k).symm.trans h)

theorem stiGet_of_mem {table : List (Text × Member)} (hn : (table.map Prod.fst).Nodup) {k : Text} {m : Member}
    (h : (k, m) ∈ table) : stiGet table k = some m :=
  (stiGet_eq_lookup table k).trans (lookup_of_mem_nodup hn h)

theorem filter_flatMap_key {α β κ : Type} [DecidableEq κ] (gkey : α → κ) (key : β → κ) (g : α → List β)
    (l : List α) (hg : ∀ a, a ∈ l → ∀ b, b ∈ g a → key b = gkey a) (hn : (l.map gkey).Nodup) (k : κ) :
    (l.flatMap g).filter (fun b => key b = k) =
      match l.find? (fun a => gkey a = k) with
      | some a => g a
      | none => [] := by
  induction l with
  | nil => rfl
  | cons a r ih =>
    simp only [List.map_cons, List.nodup_cons] at hn
    simp only [List.flatMap_cons, List.filter_append, List.find?_cons,
      ih (fun a' ha' => hg a' (List.mem_cons_of_mem _ ha')) hn.2]
    by_cases hk : gkey a = k
    · have h1 : (g a).filter (fun b => key b = k) = g a :=
        List.filter_eq_self.mpr fun b hb => by simp [hg a List.mem_cons_self b hb, hk]
      have h2 : r.find? (fun a => gkey a = k) = none :=
        List.find?_eq_none.mpr fun a' ha' => by
          simp only [decide_eq_true_eq]
          intro e
          exact hn.1 (hk ▸ e ▸ List.mem_map_of_mem (f := gkey) ha')
      simp [hk, h1, h2]
    · have h1 : (g a).filter (fun b => key b = k) = [] :=
        List.filter_eq_nil_iff.mpr fun b hb => by simp [hg a List.mem_cons_self b hb, hk]
      simp [hk, h1]

/-- entries `bs` whose keys are, in order, among the distinct keys of `as`: gathered along `as`, each where its key stands -/
theorem flatMap_find?_of_sublist {α β γ κ : Type} [DecidableEq κ] (ka : α → κ) (kb : β → κ) (g : β → List γ) :
    ∀ (as : List α) (bs : List β), (bs.map kb).Sublist (as.map ka) → (as.map ka).Nodup →
      as.flatMap (fun a => match bs.find? (fun b => kb b = ka a) with | some b => g b | none => []) = bs.flatMap g := by
  intro as
  induction as with
  | nil =>
    intro bs hs _
    cases bs with
    | nil => rfl
    | cons b r => simp at hs
  | cons a as ih =>
    intro bs hs hn
    obtain ⟨ha, hn⟩ := List.nodup_cons.mp hn
    -- the key of `a` is not among the keys further on
    have hskip : ∀ bs' : List β, (bs'.map kb).Sublist (as.map ka) → bs'.find? (fun b => kb b = ka a) = none :=
      fun bs' h => List.find?_eq_none.mpr fun b hb e =>
        ha (of_decide_eq_true e ▸ h.subset (List.mem_map_of_mem hb))
    rw [List.flatMap_cons]
    rcases List.sublist_cons_iff.mp hs with hs | ⟨l, hl, hs⟩
    · rw [hskip bs hs, ih bs hs hn]; rfl
    · obtain ⟨b, bs', rfl, hb, rfl⟩ := List.map_eq_cons_iff.mp hl
      rw [List.find?_cons_of_pos (by simpa using hb), List.flatMap_cons, ← ih bs' hs hn]
      rw [List.flatMap_def, List.flatMap_def]
      congr 2
      refine List.map_congr_left fun a' ha' => ?_
      rw [List.find?_cons_of_neg]
      rw [decide_eq_true_eq, hb]
      exact fun e => ha (e ▸ List.mem_map_of_mem ha')


theorem perm_map_pullback {α β : Type} (f : α → β) :
    ∀ (l : List β) (xs : List α), l.Perm (xs.map f) → ∃ ys : List α, ys.Perm xs ∧ l = ys.map f := by
  intro l
  induction l with
  | nil =>
    intro xs h
    have : xs = [] := by
      have := h.length_eq
      simp at this
      exact List.eq_nil_of_length_eq_zero this.symm
    subst this
    exact ⟨[], List.Perm.refl _, rfl⟩
  | cons b l ih =>
    intro xs h
    have hb : b ∈ xs.map f := h.subset List.mem_cons_self
    obtain ⟨x, hx, rfl⟩ := List.mem_map.mp hb
    obtain ⟨l1, l2, rfl⟩ := List.append_of_mem hx
    have h2 : l.Perm ((l1 ++ l2).map f) := by
      have : (f x :: l).Perm (f x :: (l1 ++ l2).map f) := by
        refine h.trans ?_
        simp only [List.map_append, List.map_cons]
        exact List.perm_middle
      exact List.Perm.cons_inv this
    obtain ⟨ys, hys, rfl⟩ := ih (l1 ++ l2) h2
    exact ⟨x :: ys, (List.Perm.cons x hys).trans List.perm_middle.symm, rfl⟩

/-- `insertFront` stops at the first element that is not smaller -/
theorem insertFront_cons {α : Type} (lt : α → α → Bool) (x y : α) (ys : List α) :
    sortBy.insertFront lt x (y :: ys) =
      if (!lt y x) = true then x :: y :: ys else y :: sortBy.insertFront lt x ys := by
  simp only [sortBy.insertFront]; cases lt y x <;> rfl

theorem sortBy_perm {α : Type} (lt : α → α → Bool) (l : List α) : (sortBy lt l).Perm l :=
  InsertionSort.sort_perm (sort := sortBy lt) rfl (fun _ _ => rfl)
    (fun x => InsertionSort.insert_perm (ins := sortBy.insertFront lt x) rfl (insertFront_cons lt x)) l

end SpyneModel.Flat
