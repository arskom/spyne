/-
  The leaf handlers (`unicode_from_element`, `enum_from_element`, `base_from_element`,
  `byte_array_from_element`) by two equations — an element with text is the leaf parser, under soft validation
  followed by the facet check; an empty element is the empty string, nothing, or None — and the round trip of
  one leaf element (`modelbase_to_parent` / `byte_array_to_parent` / `enum_to_parent`, then the handler) for
  every validator setting.
-/
import Proofs.LeafLaws
import Proofs.Types
import SpyneModel.XmlSpec
namespace SpyneModel
namespace Xml

/-- what the declared facets and the lexical space demand of a leaf text -/
def leafSpec (F : Facts08) (p : PrimTy) (s : Text) : Outcome Val :=
  match leafFromText F p s with
  | .ok v => if p.valueOk v then .ok v else .fault
  | _ => .fault

theorem leafSpec_eq_ok {F : Facts08} {p : PrimTy} {s : Text} {v : Val} :
    leafSpec F p s = .ok v ↔ leafFromText F p s = .ok v ∧ p.valueOk v = true := by
  unfold leafSpec
  cases leafFromText F p s with
  | ok w =>
    dsimp only
    constructor
    · intro h
      split at h
      · cases h; exact ⟨rfl, ‹_›⟩
      · cases h
    · rintro ⟨h, hv⟩
      cases h
      rw [if_pos hv]
  | fault => exact ⟨nofun, fun h => nomatch h.1⟩
  | crash e => exact ⟨nofun, fun h => nomatch h.1⟩

theorem leafSpec_nocrash (F : Facts08) (p : PrimTy) (s : Text) (e : String) : leafSpec F p s ≠ .crash e := by
  unfold leafSpec
  split
  · split <;> nofun
  · nofun

/-- the two-stage validation around a leaf parser — the body of `base_from_element`, and of the attribute and
    data values — is the specification when it is switched on and the parser when it is not -/
theorem twoStage_eq {F : Facts08} (L : LeafLaws F) (soft : Bool) (p : PrimTy) (s : Text) :
    (if soft && !validateString F p s then Outcome.fault
     else match leafFromText F p s with
       | .ok v => if soft && !validateNative p v then .fault else .ok v
       | .fault => .fault
       | .crash e => .crash e) = if soft then leafSpec F p s else leafFromText F p s := by
  cases soft with
  | false =>
    simp only [Bool.false_and, Bool.false_eq_true, if_false]
    cases leafFromText F p s <;> rfl
  | true =>
    simp only [Bool.true_and, if_true, leafSpec]
    rcases L.parsed p s with h | ⟨v, h, _, hsoft⟩
    · rw [h]; split <;> rfl
    · rw [h]
      dsimp only
      rw [← hsoft]
      cases validateString F p s <;> cases validateNative p v <;> rfl

/-- the leaf handlers on an element with text: the leaf parser; under soft validation what the parser
    delivers must satisfy the declared facets -/
theorem leafFromElement_text {F : Facts08} (L : LeafLaws F) (X : FactsXml) (cfg : Cfg) (p : PrimTy) (o : Occ)
    (s : Text) :
    leafFromElement F X cfg p o (some s) = if cfg.soft then leafSpec F p s else leafFromText F p s := by
  cases p with
  | unicode a b c d =>
    -- `unicode_from_element` is the same two stages around a parser that cannot fail
    rw [← twoStage_eq L]
    simp only [leafFromElement, leafFromText, Option.getD, ite_self]
  | enum names =>
    by_cases h : s ∈ names <;> cases cfg.soft <;> simp [leafFromElement, leafFromText, leafSpec, PrimTy.valueOk, h]
  | _ => exact twoStage_eq L cfg.soft _ s

/-- … on an empty element: a string type reads the empty string (where `unicode_from_element` validates None
    instead, only nillability and the native facets are looked at), an enumeration nothing, every other type
    None, refused under soft validation unless the type is nillable -/
theorem leafFromElement_none (F : Facts08) (X : FactsXml) (cfg : Cfg) (p : PrimTy) (o : Occ) :
    leafFromElement F X cfg p o none =
      (match p with
       | .unicode _ _ _ _ =>
         if cfg.soft && !X.emptyStringText then
           (if o.nillable && validateNative p (.str []) then .ok (.str []) else .fault)
         else leafFromElement F X cfg p o (some [])
       | .enum _ => .fault
       | _ => if cfg.soft && !o.nillable then .fault else .ok .none) := by
  cases p with
  | unicode a b c d =>
    cases hs : cfg.soft <;> cases hE : X.emptyStringText <;> simp [leafFromElement, hs, hE]
    cases o.nillable <;> cases validateNative (.unicode a b c d) (.str []) <;> rfl
  | enum names => rfl
  | _ => rfl

/-- C04 at the leaves: the leaf handlers return None or a value of the native kind -/
theorem leafFromElement_kind {F : Facts08} (L : LeafLaws F) (X : FactsXml) (cfg : Cfg) (p : PrimTy)
    (o : Occ) (text : Option Text) (v : Val) (h : leafFromElement F X cfg p o text = .ok v) :
    v = .none ∨ p.kindOk v = true := by
  have htext : ∀ s, leafFromElement F X cfg p o (some s) = .ok v → p.kindOk v = true := by
    intro s h
    rw [leafFromElement_text L] at h
    split at h
    · exact L.sound p s v (leafSpec_eq_ok.mp h).1
    · exact L.sound p s v h
  cases text with
  | some s => exact Or.inr (htext s h)
  | none =>
    rw [leafFromElement_none] at h
    split at h
    · split at h
      · split at h
        · cases h; exact Or.inr rfl
        · cases h
      · exact Or.inr (htext [] h)
    · cases h
    · split at h
      · cases h
      · cases h; exact Or.inl rfl

theorem leafFits_of_fitsV (F : Facts08) (p : PrimTy) (v : Val) (h : fitsV F v = true) : leafFits F p v = true := by
  unfold leafFits
  split
  · exact h
  · rfl

theorem normOneX_leaf (I : Iface) (p : PrimTy) (o : Occ) (v : Val) (hv : p.valueOk v = true)
    (hb : v ≠ .bytes []) : normOneX I (.prim p o) v = v := by
  cases v with
  | bytes bs =>
    cases bs with
    | nil => exact absurd rfl hb
    | cons b bs => rfl
  | obj cls vs => cases PrimTy.isLeaf_of_valueOk hv
  | list vs => cases PrimTy.isLeaf_of_valueOk hv
  | _ => rfl

theorem leafToText_bytes_nil (F : Facts08) (e : BinEnc) : leafToText F (.bytes e) (.bytes []) = some [] := by
  cases e <;> simp [leafToText, hexenc, b64enc]

theorem leaf_rt {F : Facts08} (L : LeafLaws F) {X : FactsXml} (cfg : Cfg) (hE : cfg.soft = true → X.emptyStringText = true)
    (I : Iface) (p : PrimTy) (o : Occ) (v : Val) (hwf : primWf p = true)
    (hok : leafOk cfg.soft p o v = true) (hfit : fitsV F v = true) :
    ∃ s, leafToText F p v = some s ∧
      leafFromElement F X cfg p o (mkText s) = .ok (normOneX I (.prim p o) v) := by
  simp only [leafOk, Bool.and_eq_true] at hok
  obtain ⟨hval, hstrict⟩ := hok
  obtain ⟨s, hto, hfrom⟩ := L.roundtrip p v hval (leafFits_of_fitsV F p v hfit)
  refine ⟨s, hto, ?_⟩
  -- an element with the text `s` is read as `v`: the parser returns it, and it is within the facets
  have htext : leafFromElement F X cfg p o (some s) = .ok v := by
    rw [leafFromElement_text L]
    split
    · exact leafSpec_eq_ok.mpr ⟨hfrom, hval⟩
    · exact hfrom
  by_cases hs : s = []
  · subst hs
    show leafFromElement F X cfg p o none = _
    rw [leafFromElement_none]
    rcases L.emptyText p v hval hto with hv | hv | hv
    · subst hv
      cases p <;> try (exact Bool.noConfusion hval)
      have : (cfg.soft && !X.emptyStringText) = false := by
        cases hc : cfg.soft
        · rfl
        · simp [hE hc]
      simp only [this, Bool.false_eq_true, if_false]
      exact htext
    · -- the empty byte string arrives as None
      subst hv
      cases p <;> try (exact Bool.noConfusion hval)
      simp only [Bool.or_eq_true, Bool.not_eq_true', Bool.or_false] at hstrict
      have : (cfg.soft && !o.nillable) = false := by
        cases hc : cfg.soft <;> cases hn : o.nillable <;> simp_all
      simp [normOneX, this]
    · subst hv
      cases p <;> simp [PrimTy.valueOk] at hval
      simp [primWf, hval] at hwf
  · have hnb : v ≠ .bytes [] := by
      intro hb; subst hb
      cases p <;> try (exact Bool.noConfusion hval)
      rw [leafToText_bytes_nil] at hto
      exact hs (Option.some.inj hto).symm
    rw [normOneX_leaf I p o v hval hnb, show mkText s = some s by simp [mkText, hs]]
    exact htext

theorem leafFromElement_nocrash {F : Facts08} (L : LeafLaws F) (X : FactsXml) (cfg : Cfg) (p : PrimTy) (o : Occ)
    (text : Option Text) (e : String) : leafFromElement F X cfg p o text ≠ .crash e := by
  have htext : ∀ s, leafFromElement F X cfg p o (some s) ≠ .crash e := by
    intro s
    rw [leafFromElement_text L]
    split
    · exact leafSpec_nocrash F p s e
    · exact L.nocrash p s e
  cases text with
  | some s => exact htext s
  | none =>
    rw [leafFromElement_none]
    split
    · split
      · split <;> nofun
      · exact htext []
    · nofun
    · split <;> nofun

end Xml
end SpyneModel
