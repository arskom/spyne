/-
  C06 lemmas: the restriction steps the generator writes are legal XSD (the conditions
  libxml2 checks, `simpleDefOk`), and the repaired facet emission does not change the value space;
  the complexType written for a class or for an `Array` is legal (`complexDefOk`).
-/
import Proofs.SchemaGen
import Proofs.SchemaLex
namespace SpyneModel
namespace Schema
open Xml

theorem clampOpt_all (F6 : Facts06) (k : IntKind) (p : Int → Bool) (o : Option Int)
    (h : ∀ a, o = some a → inKind k a = false → p a = true) : (clampOpt F6 k o).all p = o.all p := by
  cases o with
  | none => rfl
  | some a =>
    by_cases hc : (!F6.clampFacets || inKind k a) = true
    · simp only [clampOpt, hc, if_true]
    · simp only [clampOpt, hc, Bool.false_eq_true, if_false]
      simp only [Bool.or_eq_true, Bool.not_eq_true', not_or, Bool.not_eq_false, Bool.not_eq_true] at hc
      exact (h a rfl hc.2).symm

theorem lt_of_not_inKind {k : IntKind} {a i : Int} (hi : inKind k i = true) (ha : inKind k a = false)
    (hs : ∀ h, k.hi = some h → a ≤ h) : a < i := by
  rcases Int.lt_or_le a i with h | h
  · exact h
  · exact absurd ((inKind_iff k a).mpr ⟨fun l hl => Int.le_trans (((inKind_iff k i).mp hi).1 l hl) h, hs⟩) (by simp [ha])

theorem gt_of_not_inKind {k : IntKind} {a i : Int} (hi : inKind k i = true) (ha : inKind k a = false)
    (hs : ∀ l, k.lo = some l → l ≤ a) : i < a := by
  rcases Int.lt_or_le i a with h | h
  · exact h
  · exact absurd ((inKind_iff k a).mpr ⟨hs, fun u hu => Int.le_trans h (((inKind_iff k i).mp hi).2 u hu)⟩) (by simp [ha])

/-- the facet emission — whatever the two switches say — describes the declared set of values of the
    base type: dropping out-of-range bounds and merging double bounds loses nothing. A `primWf` declaration is written as
    it stands (`writtenRange_wf`); this lemma and `fixed_facets_legal` speak of the others -/
theorem writtenRange_same_values (F6 : Facts06) (k : IntKind) (r : Range) (i : Int)
    (hs : rangeSane k r = true) (hi : inKind k i = true) : (writtenRange F6 k r).holds i = r.holds i := by
  simp only [rangeSane, Bool.and_eq_true] at hs
  obtain ⟨⟨⟨s1, s2⟩, s3⟩, s4⟩ := hs
  have c1 := clampOpt_all F6 k (fun b => decide (b ≤ i)) r.ge (fun a ha hna =>
    decide_eq_true (Int.le_of_lt (lt_of_not_inKind hi hna (fun h hh => by rw [ha, hh] at s1; exact of_decide_eq_true s1))))
  have c2 := clampOpt_all F6 k (fun b => decide (b < i)) r.gt (fun a ha hna =>
    decide_eq_true (lt_of_not_inKind hi hna (fun h hh => by rw [ha, hh] at s2; exact Int.le_of_lt (of_decide_eq_true s2))))
  have c3 := clampOpt_all F6 k (fun b => decide (i ≤ b)) r.le (fun a ha hna =>
    decide_eq_true (Int.le_of_lt (gt_of_not_inKind hi hna (fun l hl => by rw [ha, hl] at s3; exact of_decide_eq_true s3))))
  have c4 := clampOpt_all F6 k (fun b => decide (i < b)) r.lt (fun a ha hna =>
    decide_eq_true (gt_of_not_inKind hi hna (fun l hl => by rw [ha, hl] at s4; exact Int.le_of_lt (of_decide_eq_true s4))))
  rw [holds_eq r i, ← c1, ← c2, ← c3, ← c4, holds_eq]
  unfold writtenRange
  dsimp only
  split
  · dsimp only
    rw [Bool.and_assoc, Bool.and_assoc (Option.all _ _ && Option.all _ _), mergeLower_eq, mergeUpper_eq,
      mergeBy_holds (· ≥ ·) _ _ _ _ (fun a b _ _ => by omega) (fun a b _ _ => by omega),
      mergeBy_holds (· ≤ ·) _ _ _ _ (fun a b _ _ => by omega) (fun a b _ _ => by omega)]
  · rfl


theorem clampOpt_in (F6 : Facts06) (k : IntKind) (o : Option Int) (h : F6.clampFacets = true) :
    (clampOpt F6 k o).all (inKind k) = true := by
  cases o with
  | none => rfl
  | some a =>
    unfold clampOpt
    by_cases hc : inKind k a = true
    · simp [h, hc]
    · simp [h, hc]

/-- a lower and an upper bound with a value in between are ordered (`optLe`, `optLt` are instances of the conclusion) -/
theorem optRel_of_between (r s t : Int → Int → Prop) [DecidableRel r] [DecidableRel s] [DecidableRel t]
    (trans : ∀ x i y, r x i → s i y → t x y) (a b : Option Int) (i : Int) :
    a.all (fun x => decide (r x i)) = true → b.all (fun y => decide (s i y)) = true →
      (match a, b with | some x, some y => decide (t x y) | _, _ => true) = true := by
  cases a <;> cases b <;>
    first | exact fun _ _ => rfl | exact fun ha hb => decide_eq_true (trans _ _ _ (of_decide_eq_true ha) (of_decide_eq_true hb))

theorem consistent_of_witness (w : Range) (i : Int) (hw : w.holds i = true)
    (h1 : (w.gt.isSome && w.ge.isSome) = false) (h2 : (w.lt.isSome && w.le.isSome) = false) :
    facetsConsistent (intFacets w) = true := by
  obtain ⟨g1, g2, g3, g4⟩ := facetGet_intFacets w
  rw [holds_eq] at hw
  simp only [Bool.and_eq_true] at hw
  obtain ⟨⟨⟨a, b⟩, c⟩, d⟩ := hw
  have e1 : optLe w.ge w.le = true := optRel_of_between (· ≤ ·) (· ≤ ·) (· ≤ ·) (fun _ _ _ => Int.le_trans) _ _ i a c
  have e2 : optLe w.gt w.lt = true :=
    optRel_of_between (· < ·) (· < ·) (· ≤ ·) (fun _ _ _ p q => Int.le_of_lt (Int.lt_trans p q)) _ _ i b d
  have e3 : optLt w.ge w.lt = true := optRel_of_between (· ≤ ·) (· < ·) (· < ·) (fun _ _ _ => Int.lt_of_le_of_lt) _ _ i a d
  have e4 : optLt w.gt w.le = true := optRel_of_between (· < ·) (· ≤ ·) (· < ·) (fun _ _ _ => Int.lt_of_lt_of_le) _ _ i b c
  unfold facetsConsistent
  rw [g1, g2, g3, g4, h1, h2, no_length_facets, e1, e2, e3, e4]
  rfl

/-- with the repaired generator (`clampFacets`, `mergeBounds`) every integer declaration that at
    least one value of the base type satisfies produces a restriction libxml2 accepts -/
theorem fixed_facets_legal (F6 : Facts06) (hc : F6.clampFacets = true) (hm : F6.mergeBounds = true)
    (k : IntKind) (r : Range) (i : Int) (hi : r.holds i = true) :
    simpleDefOk { base := .integer k, facets := primFacets F6 (.integer k r) } = true := by
  have hw := holds_writtenRange F6 k r i hi
  show ((intFacets (writtenRange F6 k r)).all (facetApplies (.integer k)) &&
    facetsConsistent (intFacets (writtenRange F6 k r))) = true
  have hform : writtenRange F6 k r =
      { gt := (mergeLower (clampOpt F6 k r.gt) (clampOpt F6 k r.ge)).1,
        ge := (mergeLower (clampOpt F6 k r.gt) (clampOpt F6 k r.ge)).2,
        lt := (mergeUpper (clampOpt F6 k r.lt) (clampOpt F6 k r.le)).1,
        le := (mergeUpper (clampOpt F6 k r.lt) (clampOpt F6 k r.le)).2 } := by
    unfold writtenRange; simp [hm]
  rw [hform] at hw ⊢
  rw [all_applies_intFacets, Bool.and_eq_true]
  constructor
  · simp only [Bool.and_eq_true]
    refine ⟨⟨⟨?_, ?_⟩, ?_⟩, ?_⟩
    · exact all_of_sub (mergeBy_sub (· ≥ ·) _ _).1 (clampOpt_in F6 k _ hc)
    · exact all_of_sub (mergeBy_sub (· ≥ ·) _ _).2 (clampOpt_in F6 k _ hc)
    · exact all_of_sub (mergeBy_sub (· ≤ ·) _ _).1 (clampOpt_in F6 k _ hc)
    · exact all_of_sub (mergeBy_sub (· ≤ ·) _ _).2 (clampOpt_in F6 k _ hc)
  · exact consistent_of_witness _ i hw (mergeBy_not_both (· ≥ ·) _ _) (mergeBy_not_both (· ≤ ·) _ _)


theorem facetGet_enum_prefix (g : Facet → Option Int) (hg : ∀ v, g (.enumeration v) = none) (lits : List Text) (fs : List Facet) :
    facetGet g (lits.map Facet.enumeration ++ fs) = facetGet g fs := by
  unfold facetGet
  induction lits with
  | nil => rfl
  | cons l r ih => simp only [List.map_cons, List.cons_append, List.findSome?_cons, hg]; exact ih

theorem any_enum_prefix (q : Facet → Bool) (hq : ∀ v, q (.enumeration v) = false) (lits : List Text) (fs : List Facet) :
    (lits.map Facet.enumeration ++ fs).any q = fs.any q := by
  induction lits with
  | nil => rfl
  | cons l r ih => simp only [List.map_cons, List.cons_append, List.any_cons, hq, Bool.false_or]; exact ih

theorem enum_prefix_legal (b : Builtin) (lits : List Text) (fs : List Facet) (hb : b ≠ .boolean)
    (hl : ∀ l ∈ lits, b.lexOk (b.norm l) = true) (h : simpleDefOk { base := b, facets := fs } = true) :
    simpleDefOk { base := b, facets := lits.map Facet.enumeration ++ fs } = true := by
  unfold simpleDefOk at h ⊢
  simp only [Bool.and_eq_true] at h ⊢
  constructor
  · rw [List.all_append, Bool.and_eq_true]
    refine ⟨?_, h.1⟩
    rw [List.all_eq_true]
    intro f hf
    obtain ⟨l, hlm, e⟩ := List.mem_map.mp hf
    subst e
    cases b <;> first | exact absurd rfl hb | exact hl l hlm
  · have := h.2
    unfold facetsConsistent at this ⊢
    rw [facetGet_enum_prefix _ (fun _ => rfl), facetGet_enum_prefix _ (fun _ => rfl), facetGet_enum_prefix _ (fun _ => rfl),
      facetGet_enum_prefix _ (fun _ => rfl), any_enum_prefix _ (fun _ => rfl), any_enum_prefix _ (fun _ => rfl)]
    exact this

/-- string restrictions are always legal: the length facets are `length` or `minLength`/`maxLength`,
    never both, and (for an ordered character class) the pattern is a regular expression -/
theorem string_facets_legal (F6 : Facts06) (a : Nat) (b : Option Nat) (pat : Option Pattern) (vals : List Text)
    (hw : primWf (.unicode a b pat vals) = true) :
    simpleDefOk { base := .string, facets := primFacets F6 (.unicode a b pat vals) } = true := by
  rw [primFacets_unicode, List.append_assoc]
  apply enum_prefix_legal .string vals _ (by intro e; cases e) (fun _ _ => rfl)
  -- what is left is one of ten concrete facet lists; only a pattern needs the hypothesis
  unfold lenFacets simpleDefOk
  cases pat with
  | none => cases b <;> (repeat' split) <;> rfl
  | some p =>
    have hp : facetApplies .string (.pattern p) = true := by simpa [facetApplies, Builtin.isString, primWf] using hw
    cases b <;> (repeat' split) <;>
      simp only [optFacet, List.cons_append, List.nil_append, List.all_cons, List.all_nil, hp, Bool.and_true, Bool.true_and] <;> rfl


/-- a `type=` is in order when, if it names a component, that component is visible from the referring document and defined -/
theorem refOk_iff {S : Schema} {ns : Text} {t : TypeRef} : S.refOk ns t = true ↔
    ∀ k, t = .named k → S.visible ns k = true ∧ (S.hasSimple k || S.hasComplex k) = true := by
  cases t with
  | builtin b => exact ⟨fun _ _ e => (nomatch e), fun _ => rfl⟩
  | named k => simp only [Schema.refOk, Bool.and_eq_true, TypeRef.named.injEq, forall_eq']

theorem complexDefOk_iff {S : Schema} {e : Key × ComplexDef} : complexDefOk S e = true ↔ ComplexOk S e := by
  unfold complexDefOk
  simp only [Bool.and_eq_true, List.all_eq_true]
  constructor
  · rintro ⟨⟨⟨hb, hc⟩, hp⟩, hd⟩
    refine ⟨fun b hb' => ?_, hc, fun p hp' => ⟨(hp p hp').1, fun m hm => ?_⟩, hd⟩
    · rw [hb'] at hb; exact Bool.and_eq_true_iff.mp hb
    · have := (hp p hp').2; rw [hm] at this; exact of_decide_eq_true this
  · rintro ⟨hb, hc, hp, hd⟩
    refine ⟨⟨⟨?_, hc⟩, fun p hp' => ⟨(hp p hp').1, ?_⟩⟩, hd⟩
    · cases h : e.2.base with
      | none => rfl
      | some b => exact Bool.and_eq_true_iff.mpr (hb b h)
    · cases h : p.occ.maxOccurs with
      | none => rfl
      | some m => exact decide_eq_true ((hp p hp').2 m h)

theorem compiles_iff (S : Schema) : S.compiles = true ↔ Compiles S := by
  simp only [Schema.compiles, Schema.importsHaveDocs, Bool.and_eq_true, List.all_eq_true, Bool.not_eq_true',
    List.contains_iff_mem]
  exact ⟨fun ⟨⟨⟨⟨⟨⟨⟨a, b⟩, c⟩, d⟩, e⟩, f⟩, g⟩, h⟩ => ⟨a, b, c, d, e, f, g, h⟩,
    fun h => ⟨⟨⟨⟨⟨⟨⟨h.1, h.2⟩, h.3⟩, h.4⟩, h.5⟩, h.6⟩, h.7⟩, h.8⟩⟩

theorem chainEnds_gen (A : App) (hc : Closed A) :
    ∀ (f : Nat) (D : ClassDef), D ∈ A.allClasses → chainOk A.iface f D = true →
      chainEnds (gen A).complex f (D.ns, D.name) = true := by
  intro f
  induction f with
  | zero => intro D _ h; simp [chainOk] at h
  | succ f ih =>
    intro D hD hch
    simp only [chainEnds, hc.cplx D hD, classComplex]
    cases hp : parentOf A.iface D with
    | none => rfl
    | some P =>
      simp only [Option.map_some]
      exact ih P (parent_mem A D P hp) (chainOk_parent A.iface f D P hp hch).2

theorem namesDistinct_map {α} (g : α → Text × Particle) (f : α → Text × Ty) (hk : ∀ x, (g x).2.name = (f x).1) :
    ∀ l : List α, namesNodup (l.map f) = true → namesDistinct (l.map g) = true := by
  intro l h
  rw [namesNodup_iff, List.map_map, List.Nodup, List.pairwise_map] at h
  rw [namesDistinct_iff, List.map_map, List.Nodup, List.pairwise_map]
  exact h.imp (fun hne e => hne (by rw [Function.comp, Function.comp, ← hk, ← hk]; exact congrArg Prod.snd e))

theorem ref_defined (A : App) (cns cname k : Text) (t : Ty) (key : Key)
    (hpos : posOk A (gen A) cns cname k t = true) (hr : refOf A cns cname k t = .named key) :
    ((gen A).hasSimple key || (gen A).hasComplex key) = true := by
  cases t with
  | prim p o =>
    rw [refOf_prim] at hr
    simp only [posOk] at hpos
    split at hr
    · rename_i hq
      rw [if_pos hq] at hpos
      injection hr with hr
      subst hr
      simp [Schema.hasSimple, beq_iff_eq.mp hpos]
    · cases hr
  | obj cn ons b fields o =>
    simp only [posOk, Bool.and_eq_true, beq_iff_eq] at hpos
    obtain rfl : (ons, cn) = key := TypeRef.named.inj hr
    simp [Schema.hasComplex, hpos.2]
  | arr m e o =>
    simp only [posOk, Bool.and_eq_true, beq_iff_eq] at hpos
    obtain rfl := TypeRef.named.inj hr
    simp [Schema.hasComplex, hpos.1.2]

/-- what a class refers to — its parent, the types of its members — is visible from the class's document:
    same namespace, or imported by `add_class` -/
theorem visible_of_classRef (A : App) (D : ClassDef) (hD : D ∈ A.allClasses) (k : Key)
    (h : k.1 ∈ (match parentOf A.iface D with | some P => [P.ns] | none => []) ++
      (ownFields A.iface D).filterMap (fun f => refNs (refOf A D.ns D.name f.1 f.2))) :
    (gen A).visible D.ns k = true :=
  visible_of _ _ _ (fun hk => mem_gen_imports.mpr ⟨D, hD, mem_classImports.mpr ⟨rfl, hk, h⟩⟩)

theorem refOk_field (A : App) (D : ClassDef) (hD : D ∈ A.allClasses) (f : Text × Ty)
    (hf : f ∈ ownFields A.iface D) (hpos : posOk A (gen A) D.ns D.name f.1 f.2 = true) :
    (gen A).refOk D.ns (refOf A D.ns D.name f.1 f.2) = true :=
  refOk_iff.mpr fun key hr =>
    ⟨visible_of_classRef A D hD key
        (List.mem_append.mpr (Or.inr (List.mem_filterMap.mpr ⟨f, hf, by rw [hr]; rfl⟩))),
      ref_defined A _ _ _ _ key hpos hr⟩

/-- **compiles, classes**: the complexType written for every class of a well-formed universe passes
    the checks libxml2 applies: the base is a visible complex type and the chain ends, every member
    type resolves to a visible component, occurrence bounds are ordered, the content model is
    deterministic; its global element resolves -/
theorem class_definition_ok (A : App) (hwf : A.wf = true) (D : ClassDef) (hD : D ∈ A.allClasses) :
    complexDefOk (gen A) ((D.ns, D.name), (classComplex A D).2) = true ∧
    (gen A).hasComplex (D.ns, D.name) = true := by
  have hc := closed_of_wf A hwf
  have hcx : ∀ D ∈ A.allClasses, (gen A).hasComplex (D.ns, D.name) = true :=
    fun D hD => by simp [Schema.hasComplex, hc.cplx D hD]
  have hbnd := gen_chainBound A
  refine ⟨complexDefOk_iff.mpr ⟨fun b hb => ?_, chainEnds_gen A hc _ D hD (hc.chain D hD), fun p hp => ?_, ?_⟩, hcx D hD⟩
  · obtain ⟨P, hp, rfl⟩ := Option.map_eq_some_iff.mp hb
    exact ⟨visible_of_classRef A D hD (P.ns, P.name) (by rw [hp]; exact List.mem_append.mpr (Or.inl (by simp))),
      hcx P (parent_mem A D P hp)⟩
  · obtain ⟨f, hf, rfl⟩ := List.mem_map.mp hp
    have hw := tyWf_of_mem D.fields (hc.fwf D hD) f (ownFields_sub _ _ f hf)
    exact ⟨refOk_field A D hD f hf (hc.pos D hD f hf), fun m hm => ((occWf_iff _).mp (occWf_of_tyWf f.2 hw) m hm).2⟩
  · rw [hbnd, effParticles_gen A hc.cplx _ D hD]
    apply namesDistinct_map _ (·.2) (fun _ => rfl)
    rw [declFields_snd A _ D (hc.chain D hD)]
    exact hc.nodup D hD


theorem prim_base_legal (F6 : Facts06) (p : PrimTy) (hw : primWf p = true) :
    simpleDefOk { base := builtinOf p, facets := primFacets F6 p } = true := by
  cases p with
  | integer k r =>
    rw [primFacets_integer_wf F6 k r hw]; exact hw
  | unicode a b c d => exact string_facets_legal F6 a b c d hw
  | enum names =>
    have := enum_prefix_legal .string names [] (by intro e; cases e) (fun _ _ => rfl) rfl
    rwa [List.append_nil] at this
  | bytes e => cases e <;> rfl
  | _ => rfl

/-- **every enumeration literal of the generated schema is in the lexical space of its base type**
    (and the restriction as a whole is legal) -/
theorem prim_def_legalA (A : App) (G : A.leaf.Good) (hvw : A.valuesWf = true) (p : PrimTy) (hw : primWf p = true) :
    simpleDefOk { base := builtinOf p, facets := primFacetsA A p } = true := by
  unfold primFacetsA App.enumLits
  cases he : (A.extraVals p).isEmpty with
  | true =>
    simp only [List.isEmpty_iff] at he
    rw [he]; exact prim_base_legal A.facts p hw
  | false =>
    have hent : (p, A.extraVals p) ∈ A.values := by
      have hlk : A.values.lookup p = some (A.extraVals p) := by
        cases hl : A.values.lookup p with
        | none => cases p <;> simp [App.extraVals, hl] at he
        | some vs => cases p <;> simp_all [App.extraVals]
      exact SpyneModel.mem_of_lookup hlk
    unfold App.valuesWf at hvw
    rw [List.all_eq_true] at hvw
    have hp := hvw _ hent
    simp only [Bool.and_eq_true, decide_eq_true_eq, List.all_eq_true] at hp
    obtain ⟨⟨hnb, _⟩, hvals⟩ := hp
    apply enum_prefix_legal _ _ _ _ _ (prim_base_legal A.facts p hw)
    · intro e
      cases p with
      | boolean => exact hnb rfl
      | bytes enc => cases enc <;> cases e
      | _ => cases e
    · intro l hl
      obtain ⟨v, hv, hs⟩ := List.mem_filterMap.mp hl
      have hvv := hvals v hv
      obtain ⟨s, hs', hn, hok, _⟩ := leaf_literal A.leaf G A.facts p v hvv.1 (rep_of_leaf p v hvv.1 hvv.2)
      rw [hs] at hs'; injection hs' with e; subst e
      rw [hn]; exact hok

theorem tyDefs_simple_ok (A : App) (G : A.leaf.Good) (hvw : A.valuesWf = true) (cns cname k : Text) :
    ∀ t : Ty, tyWf t = true → ∀ e ∈ (tyDefs A cns cname k t).simple, simpleDefOk e.2 = true
  | .prim p o, hw, e, he => by
    simp only [tyWf, Bool.and_eq_true] at hw
    simp only [tyDefs] at he
    split at he
    · simp only [List.mem_singleton] at he
      subst he
      exact prim_def_legalA A G hvw p hw.1
    · cases he
  | .obj _ _ _ _ _, _, e, he => by simp [tyDefs] at he
  | .arr m el o, hw, e, he => by
    have hwe := (tyWf_arr hw).2.2.1
    simp only [tyDefs, Defs.append, List.mem_append] at he
    rcases he with he | he
    · exact tyDefs_simple_ok A G hvw cns cname k el hwe e he
    · cases el with
      | prim p o' =>
        simp only at he
        split at he
        · simp only [List.mem_singleton] at he
          subst he
          simp only [tyWf, Bool.and_eq_true] at hwe
          exact prim_def_legalA A G hvw p hwe.1
        · cases he
      | obj _ _ _ _ _ => cases he
      | arr _ _ _ => cases he

theorem wrapper_ok (A : App) (cns cname k m : Text) (el : Ty) (o : Occ)
    (hw : tyWf (.arr m el o) = true) (ha : arrNsOk A cns cname k (.arr m el o) = true)
    (hpos : posOk A (gen A) cns cname k (.arr m el o) = true) :
    complexDefOk (gen A) (itemKey A cns cname k (.arr m el o),
      { base := none, particles := [{ name := memberLocal m, type := refOf A cns cname k el, occ := el.occ }] }) = true := by
  simp only [posOk, Bool.and_eq_true, beq_iff_eq] at hpos
  obtain ⟨⟨_, hl⟩, hpos⟩ := hpos
  have hbnd := gen_chainBound A
  simp only [arrNsOk, Bool.and_eq_true] at ha
  refine complexDefOk_iff.mpr ⟨fun _ hb => (nomatch hb), by rw [hbnd]; simp only [chainEnds, hl], fun p hp => ?_, ?_⟩
  · obtain rfl := List.mem_singleton.mp hp
    refine ⟨refOk_iff.mpr fun rk (hr : refOf A cns cname k el = .named rk) => ⟨?_, ref_defined A cns cname k el rk hpos hr⟩,
      fun m (hm : el.occ.maxOccurs = some m) => ?_⟩
    · -- an array lives in the namespace of its item type
      have := ha.1
      rw [hr] at this
      simp only [refNs, decide_eq_true_eq] at this
      simp [Schema.visible, this]
    · rw [(tyWf_arr hw).2.1] at hm; cases hm
  · rw [hbnd]
    simp only [effParticles, hl, List.nil_append, List.map_cons, List.map_nil, namesDistinct, List.any_nil, Bool.not_false,
      Bool.and_self]

/-- every complexType a member type contributes — the wrapper of an `Array` nested in it — is legal, when the schema is closed at the member -/
theorem tyDefs_complex_ok (A : App) (cns cname k : Text) :
    ∀ t : Ty, tyWf t = true → arrNsOk A cns cname k t = true → posOk A (gen A) cns cname k t = true →
      ∀ e ∈ (tyDefs A cns cname k t).complex, complexDefOk (gen A) e = true
  | .prim p o, _, _, _, e, he => by
    simp only [tyDefs] at he
    split at he <;> cases he
  | .obj _ _ _ _ _, _, _, _, e, he => by simp [tyDefs] at he
  | .arr m el o, hw, ha, hpos, e, he => by
    simp only [tyDefs, Defs.append, List.mem_append, List.mem_singleton] at he
    rcases he with he | rfl
    · simp only [arrNsOk, posOk, Bool.and_eq_true] at ha hpos
      exact tyDefs_complex_ok A cns cname k el (tyWf_arr hw).2.2.1 ha.2 hpos.2 e he
    · exact wrapper_ok A cns cname k m el o hw ha hpos

end Schema
end SpyneModel
