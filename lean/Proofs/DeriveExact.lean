/-
  C15 proofs: the derived class carries exactly the requested constraints.
-/
import Proofs.DeriveMain
namespace SpyneModel.Derive
variable (F : Facts15)

/-- attribute lookup in a class derived from another: the writes of the keyword loop first, then what the source
    resolves to -/
abbrev overlay (own : Kw) (base : String → Option AVal) (k : String) : Option AVal :=
  match kwLookup own k with
  | some v => some v
  | none => base k

/-- lookup in a fresh `class Attributes(parent)`: own writes first, then whatever the parent resolves to -/
theorem attrAt_fresh (h : Heap) (r : AttrRec) (p : Nat) (hp : r.parent = some p) (hlt : p < h.attrs.length)
    (attrs' : List AttrRec) (hpre : ∀ x, x < h.attrs.length → (attrs'[x]?).map AttrRec.pub = (h.attrs[x]?).map AttrRec.pub)
    (hr : (attrs'[h.attrs.length]?).map AttrRec.pub = some r.pub) (cls' : List Cls) (ps : List Kw) (k : String) :
    attrAt { cls := cls', attrs := attrs', prots := ps } h.attrs.length k = overlay r.own (attrAt h p) k := by
  unfold overlay attrAt chain chainH
  cases hr' : attrs'[h.attrs.length]? with
  | none => simp [hr'] at hr
  | some r' =>
    simp only [hr', Option.map_some, Option.some.injEq, AttrRec.pub, Prod.mk.injEq] at hr
    simp only [chainF, hr', hr.1]
    cases kwLookup r.own k with
    | some v => rfl
    | none =>
      simp only [hr.2.1, hp, hlt, if_true]
      rw [chainF_fuel attrs' _ h.attrs.length (p + 1) p hlt (by omega)]
      exact chainF_pub h.attrs attrs' k (p + 1) p (fun x hx => hpre x (by omega))

theorem simpleCustomize_ok [DeepCopy F] {src : Nat} {kw : Kw} {h h' : Heap} {id : Nat} {sc : Cls}
    (hsc : h.cls[src]? = some sc) (hr : simpleCustomize F src kw h = .ok h' id) :
    ∃ cl : Cls, cl.attrs = h.attrs.length ∧ cl.kind = sc.kind ∧ cl.lo = sc.lo ∧ cl.hi = sc.hi ∧ id = h.cls.length
      ∧ h' = { h with cls := h.cls ++ [cl], attrs := h.attrs ++
          [newAttrRec F h sc.attrs (custKw F h sc kw)] } := by
  obtain ⟨sc', cl, hsc', r⟩ := (run_simpleCustomize (T := []) F src kw).post hr
  cases hsc.symm.trans hsc'
  exact ⟨cl, r⟩

/-- EXACT (primitives): `Integer(ge=0)`, `Unicode.customize(max_len=5)`, ... - every attribute of the returned class
    is the one written by the keyword loop, or else the one the source class resolves to -/
theorem simpleCustomize_exact [DeepCopy F] (src : Nat) (kw : Kw) (h h' : Heap) (id : Nat) (ih : Inv h)
    (sc : Cls) (hsc : h.cls[src]? = some sc) (hr : simpleCustomize F src kw h = .ok h' id) (k : String) :
    attrOf h' id k = overlay (newAttrRec F h sc.attrs (custKw F h sc kw)).own (attrOf h src) k := by
  obtain ⟨cl, ha, _, _, _, rfl, rfl⟩ := simpleCustomize_ok F hsc hr
  unfold attrOf
  simp only [List.getElem?_concat_length, hsc, ha]
  exact attrAt_fresh h _ sc.attrs rfl (inv_range _ ih src _ hsc) _
    (fun x hx => by rw [List.getElem?_append_left hx]) (by simp) _ _ k

/-- EXACT (ComplexModel / Array `customize`, with or without child attributes): the returned class is new, it is
    a class of the same family registered with the same original, and each of its attributes is the value the
    keyword loop wrote for it, or else what the source class resolves to -/
theorem custComplex_exact [DeepCopy F] (fuel src : Nat) (kw : Kw) (ca : Option (List (String × Kw))) (caa : Option Kw)
    (h h' : Heap) (id : Nat) (ih : Inv h) (sc : Cls) (hsc : h.cls[src]? = some sc)
    (hr : custComplex F (fuel + 1) src kw ca caa h = .ok h' id) :
    h.cls.length ≤ id
      ∧ (∃ cl, h'.cls[id]? = some cl ∧ cl.kind = sc.kind ∧ cl.orig = some (sc.orig.getD src))
      ∧ ∀ k, attrOf h' id k = overlay (newAttrRec F h sc.attrs kw).own (attrOf h src) k := by
  -- the frame of the call, and the record and class as they were born
  have k : Run h.cls.length h.attrs.length [] _ h _ := run_custComplex F (fuel + 1) src kw ca caa
  have e := k.frame
  rw [hr] at e
  obtain ⟨_, sc', hsc', rfl, hpub, hcore⟩ := k.post hr
  cases hsc.symm.trans hsc'
  cases hcl : h'.cls[h.cls.length]? with
  | none => simp [hcl] at hcore
  | some cl =>
    simp only [hcl, Option.map_some, Option.some.injEq, Cls.core, Prod.mk.injEq] at hcore
    refine ⟨Nat.le_refl _, ⟨cl, rfl, hcore.1, hcore.2.2⟩, fun k => ?_⟩
    unfold attrOf
    simp only [hcl, hsc, hcore.2.1]
    exact attrAt_fresh h (newAttrRec F h sc.attrs kw) sc.attrs rfl (inv_range h ih src sc hsc) h'.attrs
      (fun y hy => e.attrs y hy) hpub h'.cls h'.prots k

theorem normOne_mandatory (v : AVal) :
    normOne "type_name" v = [] ∧ normOne "min_occurs" v = [("min_occurs", v)]
      ∧ normOne "nillable" v = [("nillable", v)] ∧ normOne "min_len" v = [("min_len", v)] := by
  have sw : ∀ k ∈ ["type_name", "min_occurs", "nillable", "min_len"], k.startsWith "_" = false := by decide +kernel
  simp [normOne, sw]

/-- the writes of `Mandatory`, latest first -/
theorem normKw_mandatoryKw (sc : Cls) :
    normKw (mandatoryKw F sc)
      = (if sc.kind == .unicode then [("min_len", .int 1)] else []) ++ [("nillable", .bool false), ("min_occurs", .int 1)] := by
  unfold mandatoryKw
  cases sc.tn <;> cases (sc.kind == Kind.unicode) <;>
    simp [normKw, normOne_mandatory]

theorem mand_lookup (sc : Cls) :
    kwLookup (normKw (mandatoryKw F sc)) "min_occurs" = some (.int 1)
      ∧ kwLookup (normKw (mandatoryKw F sc)) "nillable" = some (.bool false)
      ∧ (sc.kind = .unicode → kwLookup (normKw (mandatoryKw F sc)) "min_len" = some (.int 1))
      ∧ kwLookup (normKw (mandatoryKw F sc)) "pattern" = none := by
  rw [normKw_mandatoryKw]
  cases hk : (sc.kind == Kind.unicode) <;> simp_all [kwLookup]

theorem numberKw_mandatory (hF : F.mslRule = .followsRequested) (h : Heap) (a : Nat) (sc : Cls) :
    numberKw F h a (mandatoryKw F sc) = mandatoryKw F sc := by
  unfold numberKw mandatoryKw
  cases sc.tn <;> cases (sc.kind == Kind.unicode) <;> simp [kwLookup, odictErase, hF]

/-- `Mandatory` on a primitive is `SimpleModel.customize` with the mandatory keywords -/
theorem mandatory_simple (fuel src : Nat) (h : Heap) (sc : Cls) (hsc : h.cls[src]? = some sc)
    (hk : sc.kind = .number ∨ sc.kind = .unicode ∨ sc.kind = .bytes ∨ sc.kind = .simple) :
    mandatory F (fuel + 2) src h = simpleCustomize F src (mandatoryKw F sc) h := by
  have harr : sc.kind.isArray = false := by rcases hk with h1 | h1 | h1 | h1 <;> simp [h1, Kind.isArray]
  simp only [mandatory, customizeAny, mandMember, Bind.bind, M.bind, Derive.getCls, hsc, harr, Bool.false_and,
    Bool.false_eq_true, if_false, Bool.not_false, if_true]
  rcases hk with h1 | h1 | h1 | h1 <;> simp only [h1] <;> cases simpleCustomize F src (mandatoryKw F sc) h <;> rfl

/-- EXACT (Mandatory on a primitive): the returned class has `min_occurs = 1`, `nillable = False` (and `min_len = 1`
    for Unicode); by `simpleCustomize_exact` everything else the keyword loop does not write is the source's -/
theorem mandatory_simple_exact [DeepCopy F] (hF : F.mslRule = .followsRequested) (fuel src : Nat) (h h' : Heap)
    (id : Nat) (ih : Inv h) (sc : Cls) (hsc : h.cls[src]? = some sc)
    (hk : sc.kind = .number ∨ sc.kind = .unicode ∨ sc.kind = .bytes ∨ sc.kind = .simple)
    (hr : mandatory F (fuel + 2) src h = .ok h' id) :
    attrOf h' id "min_occurs" = some (.int 1) ∧ attrOf h' id "nillable" = some (.bool false)
      ∧ (sc.kind = .unicode → attrOf h' id "min_len" = some (.int 1)) := by
  rw [mandatory_simple F fuel src h sc hsc hk] at hr
  have hex := simpleCustomize_exact F src (mandatoryKw F sc) h h' id ih sc hsc hr
  have hkw : custKw F h sc (mandatoryKw F sc) = mandatoryKw F sc := by
    unfold custKw
    split
    · exact numberKw_mandatory F hF h sc.attrs sc
    · rfl
  rw [hkw] at hex
  unfold overlay at hex
  obtain ⟨m1, m2, m3, hnp⟩ := mand_lookup F sc
  -- no `pattern` among the writes, so the record's own writes start with them
  have hown : ∀ k v, kwLookup (normKw (mandatoryKw F sc)) k = some v →
      kwLookup (newAttrRec F h sc.attrs (mandatoryKw F sc)).own k = some v := by
    intro k v hkv
    simp only [newAttrRec, hnp, List.nil_append]
    simp only [kwLookup, List.find?_append] at hkv ⊢
    cases hf : List.find? (fun p => p.1 == k) (normKw (mandatoryKw F sc)) with
    | none => simp [hf] at hkv
    | some p => simp [hf] at hkv ⊢; exact hkv
  exact ⟨by rw [hex, hown _ _ m1], by rw [hex, hown _ _ m2], fun hu => by rw [hex, hown _ _ (m3 hu)]⟩

/-- with a deep copy, the fresh record holds a dict of its own: the source's keywords plus the loop's writes -/
theorem newAttrRec_col [d : DeepCopy F] (h : Heap) (a : Nat) (kw : Kw) :
    (newAttrRec F h a kw).colArgs = some (applyCol (((colH h a).map (·.2)).getD []) (colWrites kw)) := by
  unfold newAttrRec
  cases colH h a with
  | none => rfl
  | some p => simp [d.deep]

theorem colH_fresh (attrs' : List AttrRec) (cls' : List Cls) (ps : List Kw) (a : Nat) (r : AttrRec) (dd : Kw)
    (hr : (attrs'[a]?).map AttrRec.pub = some r.pub) (hd : r.colArgs = some dd) :
    colH { cls := cls', attrs := attrs', prots := ps } a = some (a, dd) := by
  cases hr' : attrs'[a]? with
  | none => simp [hr'] at hr
  | some r' =>
    simp only [hr', Option.map_some, Option.some.injEq] at hr
    have hc : r'.colArgs = some dd := (AttrRec.pub_eq.mp hr).2.2.1.trans hd
    unfold colH
    rw [chainH_own attrs' colSel a r' (.inl dd) hr' (by simp [colSel, hc])]

/-- EXACT (column keywords, primitives): the derived class's `sqla_column_args[-1]` is a dict of its own holding
    the source's keywords plus `primary_key` / `autoincrement` / `onupdate` / `server_default` as requested -/
theorem simpleCustomize_col [DeepCopy F] (src : Nat) (kw : Kw) (h h' : Heap) (id : Nat)
    (sc : Cls) (hsc : h.cls[src]? = some sc) (hr : simpleCustomize F src kw h = .ok h' id) :
    (obs1 F h' id).map (·.col)
      = some (some (applyCol (((colH h sc.attrs).map (·.2)).getD [])
          (colWrites (custKw F h sc kw)))) := by
  obtain ⟨cl, ha, _, _, _, rfl, rfl⟩ := simpleCustomize_ok F hsc hr
  unfold obs1
  simp only [List.getElem?_concat_length, Option.map_some, ha]
  rw [colH_fresh _ _ _ h.attrs.length
    (newAttrRec F h sc.attrs (custKw F h sc kw)) _
    (by simp) (newAttrRec_col F h sc.attrs _)]
  rfl

theorem simpleCustomize_cls [DeepCopy F] (src : Nat) (kw : Kw) (h h' : Heap) (id : Nat)
    (sc : Cls) (hsc : h.cls[src]? = some sc) (hr : simpleCustomize F src kw h = .ok h' id) :
    ∃ cl, h'.cls[id]? = some cl ∧ cl.kind = sc.kind ∧ cl.lo = sc.lo ∧ cl.hi = sc.hi := by
  obtain ⟨cl, _, hk, hlo, hhi, rfl, rfl⟩ := simpleCustomize_ok F hsc hr
  exact ⟨cl, List.getElem?_concat_length, hk, hlo, hhi⟩

/-- EXACT (verdicts): the verdict function of the derived type is the verdict function of the requested facets on
    top of the source's - validate_native / validate_string on every probe value decide exactly as the attributes
    written by the keyword loop (including the regex the `pattern` setter compiles) and, for the rest, the
    source's attributes call for -/
theorem simpleCustomize_verdicts [DeepCopy F] (src : Nat) (kw : Kw) (h h' : Heap) (id : Nat) (ih : Inv h)
    (sc : Cls) (hsc : h.cls[src]? = some sc) (hr : simpleCustomize F src kw h = .ok h' id) :
    ∃ cl, h'.cls[id]? = some cl ∧ verdicts h' cl = verdictsFn sc.kind sc.lo sc.hi
      (overlay (newAttrRec F h sc.attrs (custKw F h sc kw)).own (attrOf h src)) := by
  obtain ⟨cl, hcl, hk, hlo, hhi⟩ := simpleCustomize_cls F src kw h h' id sc hsc hr
  refine ⟨cl, hcl, ?_⟩
  have hex := simpleCustomize_exact F src kw h h' id ih sc hsc hr
  have hfun : attrAt h' cl.attrs = overlay (newAttrRec F h sc.attrs (custKw F h sc kw)).own (attrOf h src) := by
    funext k
    have := hex k
    simp only [attrOf, hcl] at this
    exact this
  simp only [verdicts, hk, hlo, hhi, hfun]

/-- customising twice (first with the general keywords `d`, then with the specific ones `e`): the specific
    writes win, then the general ones, then the source -/
theorem simpleCustomize_twice_exact [DeepCopy F] (t : Nat) (d e : Kw) (h h1 h2 : Heap) (t1 t2 : Nat)
    (ih : Inv h) (tc : Cls) (htc : h.cls[t]? = some tc)
    (r1 : simpleCustomize F t d h = .ok h1 t1) (r2 : simpleCustomize F t1 e h1 = .ok h2 t2) (k : String) :
    ∃ c1, h1.cls[t1]? = some c1 ∧ c1.kind = tc.kind ∧
      attrOf h2 t2 k = overlay (newAttrRec F h1 c1.attrs (custKw F h1 c1 e)).own
        (overlay (newAttrRec F h tc.attrs (custKw F h tc d)).own (attrOf h t)) k := by
  obtain ⟨c1, hc1, hk1, _, _⟩ := simpleCustomize_cls F t d h h1 t1 tc htc r1
  have ih1 : Inv h1 := by
    have := (run_simpleCustomize (T := []) (h := h) F t d).inv ih
    rw [r1] at this; exact this
  refine ⟨c1, hc1, hk1, ?_⟩
  rw [simpleCustomize_exact F t1 e h1 h2 t2 ih1 c1 hc1 r2 k,
    funext (simpleCustomize_exact F t d h h1 t1 ih tc htc r1)]

end SpyneModel.Derive
