/-
  The lemmas about the model file `SpyneModel.Prim2`, one module per subject: `Numeral` (optional signs, xs:integer),
  `Decimal`, `XsdDateTime`, `XsdDuration`, `XsdAgree` (where `XsdLex` meets the schema model's recognisers), `Uuid`, `Calendar` with `AsTimezone`, `Double`, `DtFormat`, `ByteArray`.

  `SpyneModel.Prim2` declares the structure `SpyneModel.Fields` (the fields `strptime` fills).  The statements of
  Props/C02, C04_hier, C05_hier, C10_hier and C16_hier write `Fields` for `SpyneModel.Hier.Fields`, which they reach through
  `open SpyneModel.Hier`; a name is looked up under the prefixes of the current namespace before the opened ones, so with
  `SpyneModel.Prim2` among their imports `Fields` would be the structure and those statements would no longer type-check.
  Hence nothing below those property files (`Proofs.Text`, `Prim`, `Binary`, `Leaf`, `LeafGood`, the `Hier*` modules) may
  import `SpyneModel.Prim2`, and so none of the modules listed here.
-/
import Proofs.Decimal
import Proofs.XsdDateTime
import Proofs.XsdDuration
import Proofs.XsdAgree
import Proofs.Uuid
import Proofs.AsTimezone
import Proofs.Double
import Proofs.DtFormat
import Proofs.ByteArray
