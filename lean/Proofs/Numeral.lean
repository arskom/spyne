/-
  Optional signs in front of numerals (`splitSign`, `splitMinus`) and the literals of xs:integer.
-/
import SpyneModel.Prim2
import Proofs.Prim
namespace SpyneModel

theorem splitSign_append (sg : Text) (neg : Bool) (hsg : SignPrefix sg neg) (c : Char) (r : Text)
    (hc : c ≠ '-' ∧ c ≠ '+') : splitSign (sg ++ c :: r) = (neg, c :: r) := by
  cases hsg <;> simp [splitSign, hc.1, hc.2]

theorem splitSign_form (s : Text) :
    ∃ (sg : Text) (neg : Bool) (body : Text), s = sg ++ body ∧ splitSign s = (neg, body) ∧ SignPrefix sg neg := by
  cases s with
  | nil => exact ⟨[], false, [], rfl, rfl, .none⟩
  | cons c r =>
    by_cases h1 : c = '-'
    · subst h1; exact ⟨['-'], true, r, rfl, by simp [splitSign], .minus⟩
    · by_cases h2 : c = '+'
      · subst h2; exact ⟨['+'], false, r, rfl, by simp [splitSign], .plus⟩
      · exact ⟨[], false, c :: r, rfl, by simp [splitSign, h1, h2], .none⟩

theorem digit_not_uspace (c : Char) (h : isDigit c = true) : isPyUSpace c = false := by
  simp [isDigit] at h
  simp only [isPyUSpace, Bool.or_eq_false_iff, Bool.and_eq_false_iff, decide_eq_false_iff_not]
  constructor <;> omega

theorem splitMinus_eq (s b : Text) (neg : Bool) (h : splitMinus s = (neg, b)) : s = if neg then '-' :: b else b := by
  cases s with
  | nil => simp [splitMinus] at h; simp [← h.1, ← h.2]
  | cons c r =>
    by_cases hc : c = '-'
    · simp [splitMinus, hc] at h; simp [← h.1, ← h.2, hc]
    · simp [splitMinus, hc] at h; simp [← h.1, ← h.2]

theorem allDigits_iff (ds : Text) : allDigits ds = true ↔ (ds ≠ [] ∧ ds.all isDigit = true) := by
  unfold allDigits
  cases ds <;> simp

theorem pyInt_xsdInteger (s : Text) (h : XsdLex.integer s = true) : pyInt s = some (XsdLex.valueOfInteger s) := by
  obtain ⟨sg, neg, ds, hs, hsplit, hsg⟩ := splitSign_form s
  unfold XsdLex.integer at h
  unfold XsdLex.valueOfInteger
  rw [hsplit] at h ⊢
  obtain ⟨hne, hd⟩ := (allDigits_iff ds).1 h
  rw [hs, pyInt_signed sg neg hsg ds hd hne]

theorem intFromText_xsdInteger (F : Facts08) (k : IntKind) (s : Text) (h : XsdLex.integer s = true)
    (hlen : s.length ≤ F.intMaxStrLen k) : intFromText F k s = .ok (XsdLex.valueOfInteger s) := by
  unfold intFromText
  have : ¬ (s.length > F.intMaxStrLen k) := by omega
  simp [this, pyInt_xsdInteger s h]

end SpyneModel
