/-
  C10 for the element-only codec: with the attribute loop over a child guarded (`childAttrGuard`),
  `from_element` never lets an exception escape. On element-only classes the codec with member kinds is
  this one (Proofs/XmlAttrBridge), and there no member is an attribute or data member to trip over.
-/
import Proofs.XmlAttrNoCrash
import Proofs.XmlAttrBridge
namespace SpyneModel
namespace Xml

/-- any attribute switches with `modifierChildSkipped` set: on element-only classes they are never consulted -/
def elementOnly : FactsAttr :=
  { childAttrsIgnored := true, attrSoftChecked := true, modifierChildSkipped := true, dataTextUnicode := true }

theorem fromElement_nocrash {F : Facts08} (L : LeafLaws F) {X : FactsXml} (hX : X.childAttrGuard = true)
    (cfg : Cfg) (I : Iface) (t : Ty) (x : Node) (e : String) : fromElement F X cfg I t x ≠ .crash e := by
  rw [← fromElementA_ofTy F X elementOnly hX]
  exact fromElementA_nocrash L X rfl cfg _ _ x e

theorem childLoop_nocrash {F : Facts08} (L : LeafLaws F) {X : FactsXml} (hX : X.childAttrGuard = true)
    (cfg : Cfg) (I : Iface) (fields : List (Text × Ty)) :
    (cs : List Node) → (st : List (Text × Val)) → (e : String) → childLoop F X cfg I fields cs st ≠ .crash e := by
  intro cs st e
  rw [← childLoopA_ofFields F X elementOnly hX]
  exact childLoopA_nocrash L X rfl cfg _ _ cs st e

theorem arrayLoop_nocrash {F : Facts08} (L : LeafLaws F) {X : FactsXml} (hX : X.childAttrGuard = true)
    (cfg : Cfg) (I : Iface) (elem : Ty) :
    (cs : List Node) → (e : String) → arrayLoop F X cfg I elem cs ≠ .crash e := by
  intro cs e
  rw [← arrayLoopA_ofTy F X elementOnly hX]
  exact arrayLoopA_nocrash L X rfl cfg _ _ cs e

end Xml
end SpyneModel
