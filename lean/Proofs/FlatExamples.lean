/-
  C03: a concrete signature, spelled value and documents, used by the non-vacuity examples of
  Props/C03.lean.  `f(p: Array(C), q: Boolean)` with `class C: i = Integer; s = Unicode`.
-/
import SpyneModel.FlatSpec
import SpyneModel.Generated.Facts03
namespace SpyneModel.Flat.Ex
open SpyneModel SpyneModel.Flat SpyneModel.Generated

def occ1 : Occ := ⟨false, 0, some 1, true⟩
def occN : Occ := ⟨true, 0, none, true⟩
def pInt : PK := .integer .unbounded {}
def pStr : PK := .unicode 0 none none []
def pBool : PK := .boolean
def clsC : Ty := .obj 2 [("i".toList, occ1, .prim pInt), ("s".toList, occ1, .prim pStr)]
def sig : List Fld := [("p".toList, occN, clsC), ("q".toList, occ1, .prim pBool)]
def dot : Text := ".".toList

/-- `p[2].i=7&p[2].s=x&p[10].i=5&q=true`: sparse indexes -/
def sparse : Members :=
  [("p".toList, .arr [(2, [("i".toList, .leaf (.int 7)), ("s".toList, .leaf (.str "x".toList))]),
                      (10, [("i".toList, .leaf (.int 5))])]),
   ("q".toList, .leaf (.bool true))]

/-- the same with indexes 0, 1 -/
def contig : Members :=
  [("p".toList, .arr [(0, [("i".toList, .leaf (.int 7)), ("s".toList, .leaf (.str "x".toList))]),
                      (1, [("i".toList, .leaf (.int 5))])]),
   ("q".toList, .leaf (.bool true))]

theorem sig_wf : WfSig sig := by simp [WfSig, NamesOk, WfFields, WfTy, sig, clsC]
theorem sig_keys : KeysOk dot sig := by unfold KeysOk; decide
theorem sig_opt : OptFields sig := by simp [OptFields, OptTy, sig, clsC, occ1, occN]

theorem int_ok (i : Int) (h : (intToText i).length ≤ facts03.leaf.intMaxStrLen .unbounded) : LeafOk facts03 pInt (.int i) :=
  ⟨by simp [pInt, PrimTy.valueOk, IntKind.lo, IntKind.hi, Range.holds], by simpa [fitsGuard, pInt] using h⟩

/-- two elements of `p` under any increasing pair of indexes -/
theorem two_wt (i j : Nat) (h : i < j) : WtMembers facts03 sig
    [("p".toList, .arr [(i, [("i".toList, .leaf (.int 7)), ("s".toList, .leaf (.str "x".toList))]),
                        (j, [("i".toList, .leaf (.int 5))])]),
     ("q".toList, .leaf (.bool true))] := by
  refine ⟨by decide, ⟨occN, 2, _, rfl, rfl, ⟨h, trivial⟩, ?_⟩, ⟨by decide, ⟨occ1, pBool, rfl, rfl, ⟨rfl, rfl⟩⟩, trivial⟩⟩
  refine ⟨by simp, ⟨by decide, ⟨occ1, pInt, rfl, rfl, int_ok 7 (by decide +kernel)⟩,
    ⟨by decide, ⟨occ1, pStr, rfl, rfl, ⟨by decide, rfl⟩⟩, trivial⟩⟩, ?_⟩
  exact ⟨by simp, ⟨by decide, ⟨occ1, pInt, rfl, rfl, int_ok 5 (by decide +kernel)⟩, trivial⟩, trivial⟩

theorem sparse_wt : WtMembers facts03 sig sparse := two_wt 2 10 (by decide)

/-- the pairs of `sparse` in another order than the documented request lists them -/
theorem sparse_shuffled :
    ([("q".toList, [some "true".toList]), ("p[10].i".toList, [some "5".toList]),
      ("p[2].s".toList, [some "x".toList]), ("p[2].i".toList, [some "7".toList])] : Doc).Perm
    (docOf facts03 dot sig sparse) := by decide +kernel

theorem contig_wt : WtMembers facts03 sig contig := two_wt 0 1 (by decide)

theorem contig_contig : ContigMembers contig := by
  simp [ContigMembers, ContigVal, ContigElems, contig, List.range, List.range.loop]

theorem contig_inorder : InOrder sig contig := by
  simp [InOrder, InOrderAll, InOrderVal, InOrderElems, contig, sig, clsC, subOf, lookupFld]

/-- 12 elements `p[0].i … p[11].i`, every value `1` (the 9 -> 10 boundary) -/
def twelve : Doc :=
  ["p[0].i", "p[1].i", "p[2].i", "p[3].i", "p[4].i", "p[5].i", "p[6].i", "p[7].i", "p[8].i", "p[9].i",
   "p[10].i", "p[11].i"].map (fun k => (k.toList, [some "1".toList]))

/-- `f(a: Inner, b: Inner)` with `class Inner: x = Integer`: the same class for two arguments -/
def clsInner : Ty := .obj 5 [("x".toList, occ1, .prim pInt)]
def sigAB : List Fld := [("a".toList, occ1, clsInner), ("b".toList, occ1, clsInner)]
def docAB : Doc := [("a.x".toList, [some "1".toList]), ("b.x".toList, [some "2".toList])]
def valAB : Members := [("a".toList, .obj [("x".toList, .leaf (.int 1))]), ("b".toList, .obj [("x".toList, .leaf (.int 2))])]

def isOk {α : Type} : Outcome α → Bool
  | .ok _ => true
  | _ => false

def isFault {α : Type} : Outcome α → Bool
  | .fault => true
  | _ => false

end SpyneModel.Flat.Ex
