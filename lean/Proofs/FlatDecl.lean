/-
  What C03 says of HttpRpc around the codec, each under the fact of the tree that makes it true: the member table
  names every member by its own `sub_name` (`keyedTy_own`); an object that is shared but not cyclic is flattened as
  its tree (`encodeShared_tree`); which query strings ask for the WSDL (`isWsdl_firstName`); the request headers
  as a flat document (`httpHeaders_pairs`).
-/
import SpyneModel.FlatDecl
import SpyneModel.FlatQs
namespace SpyneModel.Flat
open SpyneModel

theorem effPrim_own (F : Facts03) (hB : F.bytesDeclaredWins = true) (d : Bool) (p : PK) : effPrim F d p = ownPrim d p := by
  cases p <;> simp [effPrim, ownPrim, hB]

mutual
theorem keyedTy_own (F : Facts03) (hF : F.subNameScope = .member) (hB : F.bytesDeclaredWins = true) (a : MAttr) (t : DTy) :
    keyedTy F a t = ownTy a t := by
  match t with
  | .prim p => simp only [keyedTy, ownTy, effPrim_own F hB]
  | .obj cid fs => simp only [keyedTy, ownTy, keyedFields_own F hF hB (some a.sub) fs]
theorem keyedFields_own (F : Facts03) (hF : F.subNameScope = .member) (hB : F.bytesDeclaredWins = true)
    (cont : Option (Option Text)) (fs : List DFld) :
    keyedFields F cont fs = ownFields fs := by
  match fs with
  | [] => rfl
  | (n, a, occ, t) :: r =>
    simp only [keyedFields, ownFields, keyedTy_own F hF hB a t, keyedFields_own F hF hB cont r]
    cases cont <;> simp [keyName, hF]
end

mutual
theorem pruneNode_id (seen : List Nat) (t : LNode) (h : ∀ i, i ∈ idsL t → i ∉ seen) :
    pruneNode false seen t = (t, seen) := by
  match t with
  | .none => rfl
  | .leaf v => rfl
  | .leaves vs => rfl
  | .obj id attrs =>
    have hid : seen.contains id = false := by
      have := h id (by simp [idsL])
      simpa using this
    simp only [pruneNode, hid, Bool.false_eq_true, if_false]
    rw [pruneAttrs_id seen attrs (fun i hi => h i (by simp [idsL, hi]))]
  | .arr items =>
    simp only [pruneNode]
    rw [pruneItems_id seen items (fun i hi => h i (by simpa [idsL] using hi))]
theorem pruneAttrs_id (seen : List Nat) (attrs : List (Text × LNode)) (h : ∀ i, i ∈ idsAttrsL attrs → i ∉ seen) :
    pruneAttrs false seen attrs = (attrs, seen) := by
  match attrs with
  | [] => rfl
  | (k, v) :: r =>
    simp only [pruneAttrs]
    rw [pruneNode_id seen v (fun i hi => h i (by simp [idsAttrsL, hi]))]
    simp only
    rw [pruneAttrs_id seen r (fun i hi => h i (by simp [idsAttrsL, hi]))]
theorem pruneItems_id (seen : List Nat) (items : List LNode) (h : ∀ i, i ∈ idsItemsL items → i ∉ seen) :
    pruneItems false seen items = (items, seen) := by
  match items with
  | [] => rfl
  | v :: r =>
    simp only [pruneItems]
    rw [pruneNode_id seen v (fun i hi => h i (by simp [idsItemsL, hi]))]
    simp only
    rw [pruneItems_id seen r (fun i hi => h i (by simp [idsItemsL, hi]))]
end

/-- with the guard on the root only, a value without a reference back to its root is flattened as its tree:
    sharing is invisible -/
theorem encodeShared_tree (F : Facts03) (hF : F.encGuard = .rootOnly) (delim : Text) (fields : List Fld)
    (id : Nat) (attrs : List (Text × LNode)) (h : id ∉ idsAttrsL attrs) :
    encodeShared F delim fields (.obj id attrs) = encode delim fields (stripL (.obj id attrs)) := by
  simp only [encodeShared, hF]
  rw [show decide (EncGuard.rootOnly = EncGuard.visited) = false from by decide]
  rw [pruneAttrs_id [id] attrs (fun i hi => by
    intro hm
    simp only [List.mem_singleton] at hm
    exact h (hm ▸ hi))]

/-- a WSDL request starts with `wsdl` (any case), and that is the whole query or `=` follows -/
theorem isWsdl_firstName (F : Facts03) (hF : F.wsdlRule = .firstName) (qs : Text) (h : isWsdl F qs = true) :
    ∃ w rest, qs = w ++ rest ∧ w.map asciiLower = "wsdl".toList ∧ (rest = [] ∨ ∃ r, rest = '=' :: r) := by
  simp only [isWsdl, hF, decide_eq_true_eq] at h
  refine ⟨qs.takeWhile (fun c => c ≠ '='), qs.dropWhile (fun c => c ≠ '='), (List.takeWhile_append_dropWhile).symm, h, ?_⟩
  cases hd : qs.dropWhile (fun c => c ≠ '=') with
  | nil => exact Or.inl rfl
  | cons c r =>
    have hc := List.head_dropWhile_not (fun c => c ≠ '=') (l := qs) (hd ▸ List.cons_ne_nil c r)
    simp only [hd, List.head_cons, decide_eq_false_iff_not, Decidable.not_not] at hc
    exact Or.inr ⟨r, by rw [hc]⟩

theorem setDoc_new (d : Doc) (k : Text) (v : List (Option Text)) (h : k ∉ d.map Prod.fst) :
    setDoc d k v = d ++ [(k, v)] := by
  induction d with
  | nil => rfl
  | cons a r ih =>
    obtain ⟨k', v'⟩ := a
    simp only [List.map_cons, List.mem_cons, not_or] at h
    simp only [setDoc, Ne.symm h.1, if_false, List.cons_append, ih h.2]

theorem httpHeaders_go (pre : Text) (ps : List (Text × Text)) (acc : Doc)
    (hn : (ps.map (fun p => p.1.map asciiLower)).Nodup)
    (hd : ∀ p, p ∈ ps → p.1.map asciiLower ∉ acc.map Prod.fst) :
    (ps.map fun p => (pre ++ p.1, p.2)).foldl (fun acc kv =>
      if pre.isPrefixOf kv.1 then setDoc acc ((kv.1.drop pre.length).map asciiLower) [some kv.2] else acc) acc =
    acc ++ ps.map fun p => (p.1.map asciiLower, [some p.2]) := by
  induction ps generalizing acc with
  | nil => simp
  | cons p r ih =>
    simp only [List.map_cons, List.nodup_cons] at hn
    simp only [List.map_cons, List.foldl_cons, List.isPrefixOf_iff_prefix.2 (List.prefix_append pre p.1), if_true,
      List.drop_left, setDoc_new acc _ _ (hd p List.mem_cons_self)]
    rw [ih _ hn.2, List.append_assoc]
    · rfl
    · intro q hq
      simp only [List.map_append, List.map_cons, List.map_nil, List.mem_append, List.mem_singleton, not_or]
      exact ⟨hd q (List.mem_cons_of_mem _ hq), fun e => hn.1 (List.mem_map.mpr ⟨q, hq, e⟩)⟩

/-- the request headers `HTTP_<NAME>: value` arrive as the flat document `<name> -> [value]`, names in lower case -/
theorem httpHeaders_pairs (ps : List (Text × Text)) (hn : (ps.map (fun p => p.1.map asciiLower)).Nodup) :
    httpHeaders (ps.map fun p => ("HTTP_".toList ++ p.1, p.2)) = ps.map fun p => (p.1.map asciiLower, [some p.2]) :=
  httpHeaders_go "HTTP_".toList ps [] hn (fun _ _ => List.not_mem_nil)

end SpyneModel.Flat
