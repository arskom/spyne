/-
  What the shared specification of SpyneModel/Types.lean (`conforms` and its companions, the occurrence facets,
  the class registry) says on each form of input. Every codec family proves its own predicates against this
  specification; these are the lemmas through which they read it without unfolding the mutual block.  `Occ.Wf`,
  `Val.isLeaf` and `conformsMember` are vocabulary of these lemmas, defined here and not in the model.
-/
import SpyneModel.Types
namespace SpyneModel

/-! ### occurrence facets -/

theorem Occ.countOk_iff (o : Occ) (n : Nat) :
    o.countOk n = true ↔ o.minOccurs ≤ n ∧ ∀ m, o.maxOccurs = some m → n ≤ m := by
  unfold Occ.countOk
  cases o.maxOccurs <;> simp

theorem Occ.countOk_zero (o : Occ) : o.countOk 0 = true ↔ o.minOccurs = 0 := by
  rw [Occ.countOk_iff]
  exact ⟨fun h => Nat.le_zero.mp h.1, fun h => ⟨Nat.le_of_eq h, fun _ _ => Nat.zero_le _⟩⟩

theorem Occ.repeated_eq_false (o : Occ) : o.repeated = false ↔ ∃ m, o.maxOccurs = some m ∧ m ≤ 1 := by
  unfold Occ.repeated
  cases o.maxOccurs <;> simp

/-- `min_occurs ≤ max_occurs` and `max_occurs ≥ 1`: what each codec's `occWf` checks -/
def Occ.Wf (o : Occ) : Prop := ∀ m, o.maxOccurs = some m → 1 ≤ m ∧ o.minOccurs ≤ m

/-- a well-formed member that is not repeated occurs at most once -/
theorem Occ.Wf.single {o : Occ} (hw : o.Wf) (hr : o.repeated = false) : o.maxOccurs = some 1 ∧ o.minOccurs ≤ 1 := by
  obtain ⟨m, hm, h1⟩ := (Occ.repeated_eq_false o).mp hr
  obtain rfl : m = 1 := Nat.le_antisymm h1 (hw m hm).1
  exact ⟨hm, (hw 1 hm).2⟩

theorem Occ.Wf.countOk_one {o : Occ} (hw : o.Wf) (h : o.minOccurs ≤ 1) : o.countOk 1 = true :=
  (Occ.countOk_iff o 1).mpr ⟨h, fun m hm => (hw m hm).1⟩

theorem Occ.Wf.countOk_single {o : Occ} (hw : o.Wf) (hr : o.repeated = false) : o.countOk 1 = true :=
  hw.countOk_one (hw.single hr).2

/-! ### primitive values -/

def Val.isLeaf : Val → Bool
  | .list _ => false
  | .obj _ _ => false
  | _ => true

/-- the value of a primitive member is never a list or an instance -/
theorem PrimTy.isLeaf_of_valueOk {p : PrimTy} {v : Val} (h : p.valueOk v = true) : v.isLeaf = true := by
  cases v <;> first | rfl | (cases p <;> cases h)

theorem PrimTy.isLeaf_of_kindOk {p : PrimTy} {v : Val} (h : p.kindOk v = true) : v.isLeaf = true := by
  cases v <;> first | rfl | (cases p <;> cases h)

theorem PrimTy.valueOk_ne_none {p : PrimTy} {v : Val} (h : p.valueOk v = true) : v ≠ .none := by
  rintro rfl; cases p <;> cases h

theorem PrimTy.kindOk_ne_none {p : PrimTy} {v : Val} (h : p.kindOk v = true) : v ≠ .none := by
  rintro rfl; cases p <;> cases h

/-- a conformant leaf is one of nine pairs of a primitive and a value of its kind, with the facets as hypotheses;
    use as `induction p, v, h using PrimTy.valueOk_cases` (hypotheses that mention `v` travel along).  The bounds of
    `dur` are `timedelta.min` and `timedelta.max` in microseconds, as `PrimTy.valueOk` writes them; `bytesOk` is
    from SpyneModel/Binary.lean -/
theorem PrimTy.valueOk_cases {motive : (p : PrimTy) → (v : Val) → p.valueOk v = true → Prop}
    (int : ∀ k r i (_ : ∀ lo, k.lo = some lo → lo ≤ i) (_ : ∀ hi, k.hi = some hi → i ≤ hi) (_ : r.holds i = true) h,
      motive (.integer k r) (.int i) h)
    (bool : ∀ b h, motive .boolean (.bool b) h)
    (str : ∀ a b c d s h, motive (.unicode a b c d) (.str s) h)
    (date : ∀ d (h : d.valid = true), motive .date (.date d) h)
    (time : ∀ t (h : t.valid = true), motive .time (.time t) h)
    (dt : ∀ x (h : x.valid = true), motive .dateTime (.dt x) h)
    (dur : ∀ (us : Int) (_ : -86399999913600000000 ≤ us) (_ : us ≤ 86399999999999999999) h, motive .duration (.dur us) h)
    (bytes : ∀ e bs (_ : bytesOk bs) h, motive (.bytes e) (.bytes bs) h)
    (enum : ∀ names n (h : names.contains n = true), motive (.enum names) (.enum n) h)
    (p : PrimTy) (v : Val) (h : p.valueOk v = true) : motive p v h := by
  cases p <;> cases v <;> first | exact absurd h Bool.false_ne_true | skip
  · have h' := h
    simp only [PrimTy.valueOk, Bool.and_eq_true] at h'
    refine int _ _ _ (fun lo e => ?_) (fun hi e => ?_) h'.2 h
    · have := h'.1.1; rw [e] at this; exact of_decide_eq_true this
    · have := h'.1.2; rw [e] at this; exact of_decide_eq_true this
  · exact bool _ h
  · exact str _ _ _ _ _ h
  · exact date _ h
  · exact time _ h
  · exact dt _ h
  · have h' := h
    simp only [PrimTy.valueOk, Bool.and_eq_true, decide_eq_true_eq] at h'
    exact dur _ h'.1 h'.2 h
  · exact bytes _ _ (fun b hb => of_decide_eq_true (List.all_eq_true.1 h b hb)) h
  · exact enum _ _ h

/-! ### one occurrence -/

theorem conformsOne_none (t : Ty) : conformsOne t .none = t.occ.nillable := by
  cases t <;> simp [conformsOne]

theorem conformsOne_prim (p : PrimTy) (o : Occ) (v : Val) (hv : v ≠ .none) :
    conformsOne (.prim p o) v = p.valueOk v := by
  cases v <;> first | exact absurd rfl hv | simp [conformsOne]

theorem conformsOne_obj_obj (n ns : Text) (b : Option Text) (fs : List (Text × Ty)) (o : Occ) (cls : Text)
    (vs : List (Text × Val)) :
    conformsOne (.obj n ns b fs o) (.obj cls vs) = (decide (cls = n) && conformsFields fs vs) := by
  simp only [conformsOne]

theorem conformsOne_arr_list (m : Text) (e : Ty) (o : Occ) (vs : List Val) :
    conformsOne (.arr m e o) (.list vs) = conformsArr e vs := by
  simp only [conformsOne]

theorem conformsOne_obj (n ns : Text) (b : Option Text) (fs : List (Text × Ty)) (o : Occ) (v : Val) (hv : v ≠ .none)
    (h : conformsOne (.obj n ns b fs o) v = true) : ∃ fvs, v = .obj n fvs ∧ conformsFields fs fvs = true := by
  cases v <;> simp [conformsOne] at hv h ⊢
  exact ⟨_, ⟨h.1, rfl⟩, h.2⟩

theorem conformsOne_arr (m : Text) (e : Ty) (o : Occ) (v : Val) (hv : v ≠ .none)
    (h : conformsOne (.arr m e o) v = true) : ∃ vs, v = .list vs ∧ conformsArr e vs = true := by
  cases v <;> simp [conformsOne] at hv h ⊢
  exact h

/-- only a wrapped array holds a list as a single occurrence -/
theorem conformsOne_list_arr {t : Ty} {vs : List Val} (h : conformsOne t (.list vs) = true) : ∃ m e o, t = .arr m e o := by
  cases t with
  | prim p o => simp only [conformsOne] at h; cases p <;> cases h
  | obj a b c d e => simp [conformsOne] at h
  | arr m e o => exact ⟨m, e, o, rfl⟩

/-! ### items -/

/-- the model spells the item check twice, for a repeated member and for an `Array`; it is one function -/
theorem conformsArr_eq (t : Ty) : ∀ vs : List Val, conformsArr t vs = conformsItems t vs
  | [] => by simp only [conformsArr, conformsItems]
  | v :: vs => by simp only [conformsArr, conformsItems, conformsArr_eq t vs]

theorem conformsItems_iff (t : Ty) (vs : List Val) : conformsItems t vs = true ↔ ∀ v ∈ vs, conformsOne t v = true := by
  induction vs with
  | nil => simp [conformsItems]
  | cons v vs ih => simp [conformsItems, ih]

theorem conformsArr_iff (t : Ty) (vs : List Val) : conformsArr t vs = true ↔ ∀ v ∈ vs, conformsOne t v = true := by
  rw [conformsArr_eq, conformsItems_iff]

/-! ### a member value -/

theorem conforms_single (t : Ty) (v : Val) (hr : t.occ.repeated = false) : conforms t v = conformsOne t v := by
  unfold conforms; simp [hr]

/-- a repeated member holds `none` or the list of its occurrences -/
theorem conforms_rep (t : Ty) (v : Val) (hr : t.occ.repeated = true) (hv : v ≠ .none) (h : conforms t v = true) :
    ∃ vs, v = .list vs ∧ t.occ.countOk vs.length = true ∧ conformsItems t vs = true := by
  unfold conforms at h
  simp only [hr, if_true] at h
  cases v <;> simp at hv h ⊢
  exact h

/-- the condition `conformsFields` puts on the value of one member: absent (`none`) is acceptable when the member
    is optional or may be sent as nil -/
def conformsMember (t : Ty) (v : Val) : Bool :=
  match v with
  | .none => decide (t.occ.minOccurs = 0) || (t.occ.nillable && !t.occ.repeated)
  | v => conforms t v

theorem conformsMember_some {t : Ty} {v : Val} (hv : v ≠ .none) : conformsMember t v = conforms t v := by
  cases v <;> first | exact absurd rfl hv | rfl

theorem conformsFields_nil (fvs : List (Text × Val)) : conformsFields [] fvs = true ↔ fvs = [] := by
  rw [conformsFields.eq_def]
  cases fvs <;> simp

theorem conformsFields_cons_eq (n m : Text) (t : Ty) (v : Val) (fs : List (Text × Ty)) (fvs : List (Text × Val)) :
    conformsFields ((n, t) :: fs) ((m, v) :: fvs) = (decide (n = m) && conformsMember t v && conformsFields fs fvs) := by
  rw [conformsFields.eq_def]
  cases v <;> simp [conformsMember]

theorem conformsFields_cons {n : Text} {t : Ty} {fs : List (Text × Ty)} {fvs : List (Text × Val)}
    (h : conformsFields ((n, t) :: fs) fvs = true) :
    ∃ v fvs', fvs = (n, v) :: fvs' ∧ conformsMember t v = true ∧ conformsFields fs fvs' = true := by
  cases fvs with
  | nil => rw [conformsFields.eq_def] at h; simp at h
  | cons mv fvs' =>
    obtain ⟨m, v⟩ := mv
    simp only [conformsFields_cons_eq, Bool.and_eq_true, decide_eq_true_eq] at h
    obtain ⟨⟨rfl, h2⟩, h3⟩ := h
    exact ⟨v, fvs', rfl, h2, h3⟩

/-! ### induction over a value -/

section
variable {P : Val → Prop} (hleaf : ∀ v, v.isLeaf = true → P v) (hlist : ∀ vs, (∀ v ∈ vs, P v) → P (.list vs))
  (hobj : ∀ cls ws, (∀ kv ∈ ws, P kv.2) → P (.obj cls ws))
-- (the linter calls the three unused in `induct_items` and `induct_fields`; they get there through the mutual calls)
include hleaf hlist hobj

mutual
  theorem Val.induct (v : Val) : P v := by
    cases v with
    | list vs => exact hlist vs (Val.induct_items vs)
    | obj cls ws => exact hobj cls ws (Val.induct_fields ws)
    | _ => exact hleaf _ rfl

  theorem Val.induct_items : (vs : List Val) → ∀ v ∈ vs, P v
    | [], _, h => by cases h
    | w :: ws, v, h => by
      cases h with
      | head => exact Val.induct w
      | tail _ h => exact Val.induct_items ws v h

  theorem Val.induct_fields : (ws : List (Text × Val)) → ∀ kv ∈ ws, P kv.2
    | [], _, h => by cases h
    | (k, w) :: ws, kv, h => by
      cases h with
      | head => exact Val.induct w
      | tail _ h => exact Val.induct_fields ws kv h
end
end

/-! ### induction over a type -/

/-- induction over a type with the members of a class as a list: `induction t using Ty.induct` -/
theorem Ty.induct {P : Ty → Prop} (hprim : ∀ p o, P (.prim p o)) (harr : ∀ m e o, P e → P (.arr m e o))
    (hobj : ∀ n ns b fs o, (∀ nt ∈ fs, P nt.2) → P (.obj n ns b fs o)) (t : Ty) : P t :=
  Ty.rec (motive_1 := P) (motive_2 := fun fs => ∀ nt ∈ fs, P nt.2) (motive_3 := fun nt => P nt.2)
    hprim hobj harr (fun _ h => nomatch h)
    (fun _ _ ih ihs _ h => by
      cases h with
      | head => exact ih
      | tail _ h => exact ihs _ h)
    (fun _ _ ih => ih) t

/-! ### the class registry -/

theorem Registry.find?_some {r : Registry} {name : Text} {c : ClassDef} (h : r.find? name = some c) :
    c ∈ r ∧ c.name = name :=
  ⟨List.mem_of_find?_eq_some h, by simpa using List.find?_some h⟩

end SpyneModel
