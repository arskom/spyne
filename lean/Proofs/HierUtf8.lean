/-
  UTF-8: `utf8Dec (utf8Enc t) = some t` for every text (every Unicode scalar value).  `utf8Enc` / `utf8Dec` are the
  byte-level naming functions of the dispatch model (SpyneModel/DispatchBytes.lean: `encodeName`, `decodeName`), both
  mirroring CPython's strict 'utf-8' codec; the round trip is proved there (Proofs/DispatchBytes.lean).
-/
import SpyneModel.Hier
import Proofs.DispatchBytes
namespace SpyneModel.Hier
open SpyneModel

theorem utf8Enc_eq (t : Text) : utf8Enc t = Dispatch.encodeName t := by
  induction t with
  | nil => rfl
  | cons c cs ih => rw [utf8Enc, ih]; rfl

theorem utf8Dec_eq (bs : List Nat) : utf8Dec bs = Dispatch.decodeName bs := by
  have hc : ∀ b, isCont b = Dispatch.isCont b := fun _ => rfl
  unfold Dispatch.decodeName
  fun_induction Dispatch.utf8Decode bs
  case case1 => rfl
  all_goals rw [utf8Dec.eq_def]
  -- the two decoders write the same tests, one with `&&` and `!`, the other with `∧` and `¬`
  all_goals simp (zetaDelta := true) only [*, if_true, if_false, Option.map_map, Option.map_none, Bool.and_eq_true,
    decide_eq_true_eq, Bool.not_eq_true', Bool.eq_false_iff, ne_eq, and_assoc, Bool.false_eq_true, and_self,
    not_false_eq_true]
  all_goals rfl

theorem utf8Dec_utf8Enc (t : Text) : utf8Dec (utf8Enc t) = some t := by
  rw [utf8Enc_eq, utf8Dec_eq, Dispatch.decodeName_encodeName]

end SpyneModel.Hier
