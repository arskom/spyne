/-
  C15 proofs: the frame theorem for every operation and for histories.
-/
import Proofs.DeriveEvolve
namespace SpyneModel.Derive
variable (F : Facts15)

/-- the measured switches at the values C15 needs: `Mandatory` copies, every declared class - with (`varX`) or without
    an `Attributes` of its own - has its own `_variants`, and the three of `DeepCopy` -/
structure GoodFacts (F : Facts15) : Prop where
  mand : F.mandRule = .copies
  var : F.varRule = .ownPerClass
  varX : F.varRuleX = .ownPerClass
  col : F.colCopy = .deep
  prot : F.protCopy = .copied
  subs : F.subsRule = .classStatementsOnly

theorem GoodFacts.deepCopy {F : Facts15} (gf : GoodFacts F) : DeepCopy F := ⟨gf.col, gf.prot, gf.subs⟩

variable {h : Heap}

/-- a class statement: the only existing class it may write is the one it extends (its `_subclasses`); the class it
    returns is new, a declared class with the fields and name of the statement -/
theorem run_subclassOp (hF : F.varRule = .ownPerClass) (hX : F.varRuleX = .ownPerClass)
    (base : Option Nat) (name : String) (ns : Option String)
    (fields : List (String × Nat)) (perm : List Nat) (attrs : Option Kw) (mixins : List Nat) (asMixin : Bool) :
    Run h.cls.length h.attrs.length (touched F h (.subclass base name ns fields perm attrs mixins asMixin))
      (subclassOp F base name ns fields perm attrs mixins asMixin) h (fun id h' => h.cls.length ≤ id
        ∧ ∃ cl, h'.cls[id]? = some cl
          ∧ cl.fields = applyOrder h (prependMixins F (mixinFields h mixins) (declaredFields F perm fields))
          ∧ cl.orig = none ∧ cl.tn = some name ∧ cl.kind = .complex) := by
  unfold subclassOp
  refine Run.getCls_bind _ fun bc hb => Run.liftExcept_bind _ fun ext hx => ?_
  exact run_subclassRest F hF hX _ bc ext name ns fields perm attrs mixins asMixin
    (fun e he => Or.inr (by simp [touched, hb, hx, he]))

/-- FRAME, one step, as a triple: every operation started in a heap with the discipline writes existing classes in
    `touched` only -/
theorem run_opProg (gf : GoodFacts F) (fuel : Nat) (ih : Inv h) (op : Op) :
    Run h.cls.length h.attrs.length (touched F h op) (opProg F fuel op) h TrQ := by
  haveI := gf.deepCopy
  cases hop : op.derives with
  | true => exact (run_opProg_derive F gf.mand fuel op hop).tr
  | false =>
    cases op with
    | append c name t => exact (run_evolveOp name _ (implHas_append F fuel name t) ih c t).tr
    | insert c idx name t => exact (run_evolveOp name _ (implHas_insert F fuel idx name t) ih c t).tr
    | subclass base name ns fields perm attrs mixins asMixin =>
      exact Run.map _ (run_subclassOp F gf.var gf.varX base name ns fields perm attrs mixins asMixin)
        (fun _ _ _ => trivial)
    | customize => simp [Op.derives] at hop
    | array => simp [Op.derives] at hop
    | mandatory => simp [Op.derives] at hop
    | xmlattr => simp [Op.derives] at hop

/-- FRAME, one step: an operation - returning or raising - leaves the record of every existing class outside
    `touched` and the public part of every existing `Attributes` as they were, and keeps the variants discipline -/
theorem step_ext_inv (gf : GoodFacts F) (fuel : Nat) (h : Heap) (ih : Inv h) (op : Op) :
    Ext h.cls.length h.attrs.length (touched F h op) h (apply F fuel h op).heap ∧ Inv (apply F fuel h op).heap :=
  ⟨(run_opProg F gf fuel ih op).frame, (run_opProg F gf fuel ih op).inv ih⟩

theorem derive_new_id [DeepCopy F] (hF : F.mandRule = .copies) (fuel : Nat) (h h' : Heap) (op : Op)
    (hop : op.derives = true) (id : Nat) (hr : apply F fuel h op = .ok h' (some id)) : h.cls.length ≤ id :=
  (run_opProg_derive (T := []) F hF fuel op hop).post hr id rfl

theorem frame_ext (gf : GoodFacts F) (fuel : Nat) (h : Heap) (ih : Inv h) (op : Op) :
    Ext h.cls.length h.attrs.length (touched F h op) h (apply F fuel h op).heap := (step_ext_inv F gf fuel h ih op).1

theorem inv_apply (gf : GoodFacts F) (fuel : Nat) (h : Heap) (op : Op) (ih : Inv h) :
    Inv (apply F fuel h op).heap := (step_ext_inv F gf fuel h ih op).2

theorem inv_runOps (gf : GoodFacts F) (fuel : Nat) (ops : List Op) :
    ∀ h, Inv h → Inv (runOps F fuel h ops) := by
  induction ops with
  | nil => intro h ih; exact ih
  | cons op ops ihops => intro h ih; exact ihops _ (inv_apply F gf fuel h op ih)

theorem frame_obs (gf : GoodFacts F) (fuel : Nat) (h : Heap) (ih : Inv h) (op : Op) (c : Nat)
    (hc : c < h.cls.length) (ht : c ∉ touched F h op) :
    obs1 F (apply F fuel h op).heap c = obs1 F h c :=
  obs1_ext F (frame_ext F gf fuel h ih op) c hc ht (fun cl hcl => inv_range h ih c cl hcl)

/-- a class is never in `touched` along a history -/
def untouched (F : Facts15) (fuel : Nat) (c : Nat) : Heap → List Op → Prop
  | _, [] => True
  | h, op :: ops => c ∉ touched F h op ∧ untouched F fuel c (apply F fuel h op).heap ops

/-- FRAME, histories: whatever is derived from, appended to or inserted into other models, a model that no
    step is entitled to change has, at the end, the observation it had at the start -/
theorem history_frame (F : Facts15) (gf : GoodFacts F) (fuel : Nat) (ops : List Op) :
    ∀ h, Inv h → ∀ c, c < h.cls.length → untouched F fuel c h ops →
      obs1 F (runOps F fuel h ops) c = obs1 F h c := by
  induction ops with
  | nil => intro h _ c _ _; rfl
  | cons op ops ihops =>
    intro h ih c hc hu
    simp only [runOps]
    have e := frame_ext F gf fuel h ih op
    rw [ihops _ (inv_apply F gf fuel h op ih) c (Nat.lt_of_lt_of_le hc e.clsLen) hu.2]
    exact frame_obs F gf fuel h ih op c hc hu.1

theorem getElem?_zipWith_range {β γ : Type} (f : Nat → β → γ) (l : List β) (i : Nat) :
    ((List.range l.length).zipWith f l)[i]? = (l[i]?).map (f i) := by
  rw [List.getElem?_zipWith]
  rcases Nat.lt_or_ge i l.length with hl | hl
  · simp [List.getElem?_range hl, List.getElem?_eq_getElem hl]
  · simp [List.getElem?_eq_none hl]

/-- in the initial pool no class is a customised variant; each sits on the record of its own index, whose own
    `_variants` is `None` -/
theorem inv_init (hF : F.varRuleX = .ownPerClass) : Inv (initHeap F) := by
  have hc : ∀ c k a o, (viewOf (initHeap F)).cls c = some (k, a, o) →
      a = c ∧ o = none ∧ (viewOf (initHeap F)).var a = some (some none) := by
    intro c k a o h
    simp only [viewOf, initHeap, getElem?_zipWith_range, Option.map_map, hF] at h ⊢
    cases hb : F.bases[c]? with
    | none => simp [hb] at h
    | some b =>
      simp only [hb, Option.map_some, Function.comp, Option.some.injEq, Prod.mk.injEq] at h
      obtain ⟨_, rfl, rfl⟩ := h
      simp [hb]
  exact {
    range := fun c k a o h => by simp [(hc c k a o h).2.2]
    inj := fun c1 c2 a o1 o2 h1 h2 => (hc _ _ _ _ h1).1.symm.trans (hc _ _ _ _ h2).1
    own := fun c a o h => by simp [(hc c _ a o h).2.2]
    variant := fun c a r h => nomatch (hc c _ a _ h).2.1
    sound := fun c a o l h hl => by simp [(hc c _ a o h).2.2] at hl
    complete := fun x ax r h => nomatch (hc x _ ax _ h).2.1 }

end SpyneModel.Derive
