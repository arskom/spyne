/-
  `strict_arrays = True`.

  With strict arrays there is no idxmap: an index must be an existing position or the next one.
  Whether a documented request is accepted therefore depends on the order in which the keys are
  processed — the order `sorted(...)` produces. The keys must arrive "index-sorted": whenever two
  keys agree on names and indexes up to some array, the one with the smaller index at that array
  comes first (`KLe`). The keys of an array numbered 0, 1, 2, … then arrive element by element
  (Proofs/FlatPairStrict.lean), and the result is the spelled object.
-/
import Proofs.FlatBasic
import SpyneModel.FlatSpec
namespace SpyneModel.Flat
open SpyneModel

def idxLe : Option Nat → Option Nat → Prop
  | some a, some b => a ≤ b
  | _, _ => True

/-- `a` may be processed before `b`: at the first array where they differ in the index (names and
    earlier indexes being the same), `a` has the smaller index -/
def KLe : List (Text × Option Nat) → List (Text × Option Nat) → Prop
  | s1 :: r1, s2 :: r2 => s1.1 = s2.1 → (idxLe s1.2 s2.2 ∧ (s1.2 = s2.2 → KLe r1 r2))
  | _, _ => True

def KSorted (es : List KEntry) : Prop := es.Pairwise (fun a b => KLe a.segs b.segs)

theorem KSorted.filter {es : List KEntry} (h : KSorted es) (p : KEntry → Bool) : KSorted (es.filter p) :=
  List.Pairwise.filter p h

theorem KSorted.of_push {k : Text} {i : Option Nat} {ys : List KEntry}
    (h : KSorted (ys.map (KEntry.push k i))) : KSorted ys := by
  unfold KSorted at *
  rw [List.pairwise_map] at h
  apply h.imp
  intro a b hab
  simp only [KEntry.push] at hab
  rw [KLe] at hab
  exact (hab rfl).2 rfl

theorem ContigMembers_unpack {ms : Members} (h : ContigMembers ms) : ∀ n sv, (n, sv) ∈ ms → ContigVal sv :=
  fun n sv hmem => forall_mem_of_cons (P := ContigMembers) (Q := fun m => ContigVal m.2) (fun _ _ h => h) ms h (n, sv) hmem

theorem ContigElems_unpack {elems : List (Nat × Members)} (h : ContigElems elems) :
    ∀ i ms, (i, ms) ∈ elems → ContigMembers ms :=
  fun i ms hmem => forall_mem_of_cons (P := ContigElems) (Q := fun el => ContigMembers el.2) (fun _ _ h => h)
    elems h (i, ms) hmem

end SpyneModel.Flat
