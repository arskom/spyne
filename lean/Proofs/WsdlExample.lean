/-
  The applications the witnesses and the non-vacuity examples of C07 are about (`exI`, its variants, `exT`, `exD`),
  the toposort of the class graph of `exI`, and what the model makes of them, each evaluated here once. Declared in
  the namespace of Props/C07.lean, whose statements name them.
-/
import Proofs.WsdlTop
import SpyneModel.Generated.Facts07
namespace SpyneModel.Props.C07
open SpyneModel SpyneModel.Wsdl SpyneModel.Generated

/-- a concrete application (extracted from the real Interface of a generated spyne application) -/
def exI : IState :=
  { tns := "tns.main", name := "App",
    pins := [],
    staticNs := [("xs", "http://www.w3.org/2001/XMLSchema"), ("xsi", "http://www.w3.org/2001/XMLSchema-instance"), ("wsdlsoap11", "http://schemas.xmlsoap.org/wsdl/soap/"), ("wsdl", "http://schemas.xmlsoap.org/wsdl/")],
    classes := [
      ⟨"<class 'spyne.model.primitive.string.Unicode'>", "http://www.w3.org/2001/XMLSchema", "string", .builtin, none, [], none, .unset, none, [], false, false⟩,
      ⟨"<class 'c07app.H'>", "ns.h", "H", .complex, none, [⟨"tok", none, 0, false, false, 0, none, (some "0"), none, true⟩], none, .unset, none, [], false, false⟩,
      ⟨"<class 'c07app.Oops'>", "tns.main", "Oops", .complex, none, [], none, .unset, none, [], false, false⟩,
      ⟨"<class 'spyne.model.primitive.string.Unicode'>", "ns.a", "A_xType", .simple, (some 0), [], none, .unset, none, [], false, false⟩,
      ⟨"<class 'spyne.model.primitive.number.Integer'>", "http://www.w3.org/2001/XMLSchema", "integer", .builtin, none, [], none, .unset, none, [], false, false⟩,
      ⟨"<class 'spyne.model.complex.XmlAttribute'>", "tns.main", "XmlAttribute", .builtin, none, [], none, .unset, none, [], false, false⟩,
      ⟨"<class 'c07app.A'>", "ns.a", "A", .complex, none, [⟨"x", none, 3, false, false, 0, none, (some "0"), none, true⟩, ⟨"n", none, 5, true, false, 4, none, (some "0"), none, true⟩], none, .unset, none, [], false, false⟩,
      ⟨"<class 'c07app.A'>", "ns.a", "A", .complex, none, [⟨"x", none, 3, false, false, 0, none, (some "0"), none, true⟩, ⟨"n", none, 5, true, false, 4, none, (some "0"), none, true⟩], none, .unset, none, [], false, false⟩,
      ⟨"<class 'spyne.model.complex.Array'>", "ns.a", "AArray", .complex, none, [⟨"A", none, 7, false, false, 0, none, (some "0"), (some "unbounded"), true⟩], none, .unset, none, [], false, false⟩,
      ⟨"<class 'c07app.B'>", "ns.b", "B", .complex, (some 6), [⟨"l", none, 8, false, false, 0, none, (some "0"), none, true⟩], none, .unset, none, [], false, false⟩,
      ⟨"<class 'spyne.model.complex.f'>", "tns.main", "f", .complex, none, [⟨"b", none, 9, false, false, 0, none, (some "0"), none, true⟩], none, .unset, none, [], false, false⟩,
      ⟨"<class 'spyne.model.complex.fResponse'>", "tns.main", "fResponse", .complex, none, [⟨"fResult", none, 6, false, false, 0, none, (some "0"), none, true⟩], none, .unset, none, [], false, false⟩,
      ⟨"<class 'spyne.model.primitive.string.Unicode'>", "http://www.w3.org/2001/XMLSchema", "string", .builtin, none, [], (some "g"), .dflt, none, [], false, false⟩,
      ⟨"<class 'spyne.model.primitive.string.Unicode'>", "http://www.w3.org/2001/XMLSchema", "string", .builtin, none, [], (some "gResponse"), .dflt, none, [], false, false⟩],
    deps := [(1, [0]), (0, []), (2, []), (10, [9]), (9, [8, 6]), (6, [5, 3]), (3, [0]), (5, []), (4, []), (8, [7]), (11, [6])],
    imports := [("tns.main", ["ns.a", "ns.b", "ns.h"]), ("ns.h", []), ("ns.b", ["ns.a"]), ("ns.a", ["tns.main"])],
    services := [⟨"S", ["P1", "P2"], [⟨"f", "f", 10, 11, (some [1]), none, [2], (some "P1"), none⟩, ⟨"g", "g", 12, 13, (some [1]), none, [], (some "P2"), none⟩]⟩],
    transport := "http://schemas.xmlsoap.org/soap/http", inSoap12 := false, outSoap12 := false }

/-- the tiers of `exI`, for every application with the same `repr`s and the same dependency graph: the sort is run once,
    on the character codes of the reprs (`skey_ofList`, `reprKey_table`) and under a closed facts record that agrees with
    `F` in the one switch the sort reads (`topo_insertion`), so that the kernel can evaluate it -/
theorem exI_tiers (F : Facts07) (e : Enum) (I : IState) (hF : F.tierTies = .insertion)
    (hr : I.classes.map Cls.repr = exI.classes.map Cls.repr) (hd : I.deps = exI.deps) :
    topo F e I.reprKey I.deps = .ok [[7, 2, 5, 4, 0], [1, 8, 3], [6], [9, 11], [10]] := by
  rw [reprKey_congr hr, hd, reprKey_table,
    topo_insertion F ⟨.sorted, .insertion, .tns, .own, .forcedTns, .perDocument, .spyneBase, true⟩ hF rfl e Enum.id]
  generalize ht : exI.classes.map (fun c => skey c.repr) = t
  simp only [exI, List.map] at ht
  repeat rw [skey_ofList] at ht
  subst ht
  decide +kernel

/-- the same for the application as `build` populates it -/
theorem exI_tiers_built (F : Facts07) (e : Enum) (I : IState) (hF : F.tierTies = .insertion)
    (hr : I.classes.map Cls.repr = exI.classes.map Cls.repr) (hd : I.deps = exI.deps) :
    topo F e ((I.resolveHandlers F).addMethodFaults F).reprKey ((I.resolveHandlers F).addMethodFaults F).deps =
      .ok [[7, 2, 5, 4, 0], [1, 8, 3], [6], [9, 11], [10]] :=
  exI_tiers F e _ hF ((reprs_deps_built F I).1.trans hr) ((reprs_deps_built F I).2.trans hd)

/-- the interface as `add_method` leaves it -/
abbrev populated (I : IState) : IState := (I.resolveHandlers facts07).addMethodFaults facts07

/-- `exI` with its fault declared in a library namespace -/
def exF : IState :=
  { exI with classes := exI.classes.set 2 { exI.cls 2 with ns := "urn:c07:faultlib" },
             imports := exI.imports ++ [("urn:c07:faultlib", [])] }

/-- `exI` split into two services (one port type each) that share the header class `H` -/
def exM : IState :=
  { exI with services := [⟨"S", ["P1"], [⟨"f", "f", 10, 11, (some [1]), none, [2], (some "P1"), none⟩]⟩,
                          ⟨"S2", ["P2"], [⟨"g", "g", 12, 13, (some [1]), none, [], (some "P2"), none⟩]⟩] }

/-- `exI` whose class `A` lists a plain mixin before `ComplexModel`, with `s0` and `s1` pinned by the application -/
def exX : IState :=
  { exI with classes := exI.classes.map (fun c => if c.tn = "A" then { c with mixinFirst := true } else c),
             pins := [(.gen 0, "ns.b"), (.gen 1, "ns.h")] }

/-- `exI` whose class `A` lists a plain mixin after `ComplexModel` -/
def exY : IState :=
  { exI with classes := exI.classes.map (fun c => if c.tn = "A" then { c with mixinLast := true } else c) }

/-- two complex types in two namespaces, each with a restricted string member (same `repr`, same tier) -/
def exT : IState :=
  { tns := "tns.main", name := "App",
    pins := [],
    staticNs := [("xs", "http://www.w3.org/2001/XMLSchema"), ("wsdl", "http://schemas.xmlsoap.org/wsdl/")],
    classes := [
      ⟨"<class 'spyne.model.primitive.string.Unicode'>", "http://www.w3.org/2001/XMLSchema", "string", .builtin, none, [], none, .unset, none, [], false, false⟩,
      ⟨"<class 'spyne.model.primitive.string.Unicode'>", "ns.p", "P_xType", .simple, (some 0), [], none, .unset, none, [], false, false⟩,
      ⟨"<class 'c07app.P'>", "ns.p", "P", .complex, none, [⟨"x", none, 1, false, false, 0, none, (some "0"), none, true⟩], none, .unset, none, [], false, false⟩,
      ⟨"<class 'spyne.model.primitive.string.Unicode'>", "ns.q", "Q_xType", .simple, (some 0), [], none, .unset, none, [], false, false⟩,
      ⟨"<class 'c07app.Q'>", "ns.q", "Q", .complex, none, [⟨"x", none, 3, false, false, 0, none, (some "0"), none, true⟩], none, .unset, none, [], false, false⟩,
      ⟨"<class 'spyne.model.complex.f'>", "tns.main", "f", .complex, none, [⟨"p", none, 2, false, false, 0, none, (some "0"), none, true⟩, ⟨"q", none, 4, false, false, 0, none, (some "0"), none, true⟩], none, .unset, none, [], false, false⟩,
      ⟨"<class 'spyne.model.complex.fResponse'>", "tns.main", "fResponse", .complex, none, [⟨"fResult", none, 0, false, false, 0, none, (some "0"), none, true⟩], none, .unset, none, [], false, false⟩],
    deps := [(5, [2, 4]), (2, [1]), (1, [0]), (0, []), (4, [3]), (3, [0]), (6, [0])],
    imports := [("tns.main", ["ns.p", "ns.q"]), ("ns.p", []), ("ns.q", [])],
    services := [⟨"S", [], [⟨"f", "f", 5, 6, none, none, [], none, none⟩]⟩],
    transport := "http://schemas.xmlsoap.org/soap/http", inSoap12 := false, outSoap12 := false }

/-- a class with text content (`XmlData`) and a required attribute of an enumeration type; a documented method -/
def exD : IState :=
  { tns := "tns.main", name := "App",
    pins := [],
    staticNs := [("xs", "http://www.w3.org/2001/XMLSchema"), ("wsdl", "http://schemas.xmlsoap.org/wsdl/")],
    classes := [
      ⟨"<class 'spyne.model.primitive.number.Decimal'>", "http://www.w3.org/2001/XMLSchema", "decimal", .builtin, none, [], none, .unset, none, [], false, false⟩,
      ⟨"<class 'spyne.model.complex.XmlData'>", "http://www.w3.org/2001/XMLSchema", "decimal", .builtin, none, [], none, .unset, none, [], false, false⟩,
      ⟨"<class 'spyne.model.enum.Enum.<locals>.EnumType'>", "tns.main", "Unit", .enum, none, [], none, .unset, none, ["kg", "lb"], false, false⟩,
      ⟨"<class 'spyne.model.complex.XmlAttribute'>", "tns.main", "XmlAttribute", .builtin, none, [], none, .unset, none, [], false, false⟩,
      ⟨"<class 'c07app.Weight'>", "ns.a", "Weight", .complex, none, [⟨"val", none, 1, false, true, 0, none, (some "0"), none, true⟩, ⟨"unit", none, 3, true, false, 2, (some "required"), (some "0"), none, true⟩], none, .unset, none, [], false, false⟩,
      ⟨"<class 'spyne.model.complex.weigh'>", "tns.main", "weigh", .complex, none, [⟨"w", none, 4, false, false, 0, none, (some "0"), none, true⟩], none, .unset, none, [], false, false⟩,
      ⟨"<class 'spyne.model.complex.weighResponse'>", "tns.main", "weighResponse", .complex, none, [⟨"weighResult", none, 4, false, false, 0, none, (some "0"), none, true⟩], none, .unset, none, [], false, false⟩],
    deps := [(5, [4]), (4, [1, 3]), (1, []), (3, []), (2, []), (6, [4])],
    imports := [("tns.main", ["ns.a"]), ("ns.a", ["tns.main"])],
    services := [⟨"S", [], [⟨"weigh", "weigh", 5, 6, none, none, [], none, (some "Weighs.")⟩]⟩],
    transport := "http://schemas.xmlsoap.org/soap/http", inSoap12 := false, outSoap12 := false }

/-- marking a class as having a mixin base leaves its `repr` alone (no need to run the `if` of `exX`, `exY`) -/
theorem mixin_reprs : exX.classes.map Cls.repr = exI.classes.map Cls.repr ∧
    exY.classes.map Cls.repr = exI.classes.map Cls.repr := by
  constructor <;>
    exact (List.map_map ..).trans (List.map_congr_left fun c _ => by simp only [Function.comp]; split <;> rfl)

/-- "the outcome is a value of which `p` holds", decided by looking at the outcome -/
instance {α : Type} (o : Outcome α) (p : α → Prop) [DecidablePred p] : Decidable (∃ a, o = .ok a ∧ p a) := by
  cases o with
  | ok a => exact decidable_of_iff (p a) ⟨fun h => ⟨a, rfl, h⟩, fun ⟨_, e, h⟩ => Outcome.ok.inj e ▸ h⟩
  | fault => exact isFalse fun ⟨_, e, _⟩ => by cases e
  | crash x => exact isFalse fun ⟨_, e, _⟩ => by cases e

/-- The contract and the document of `exI` and of its three variants, in one evaluation: what such an evaluation
    costs is mostly comparisons of namespace and type names, and what the kernel has evaluated (the table of XSD
    builtins, the namespaces, the classes the variants share) it keeps for one declaration. -/
theorem exI_checks :
    ((populated exI).wfCore = true ∧ (populated exI).wfOps = true ∧
      ∃ d, build facts07 Enum.id exI "http://h/app?wsdl" = .ok d ∧
        (d.closed && d.opsExactlyOnce exI && d.importsCover) = true)
    ∧ (((populated exF).wfCore = true ∧ (exF.cls 2).ns = "urn:c07:faultlib" ∧ ((populated exF).cls 2).ns = "tns.main") ∧
      ∃ d, build facts07 Enum.id exF "u" = .ok d ∧ (d.closed && !d.headerRefs.isEmpty) = true)
    ∧ (((populated exM).wfCore = true ∧ (populated exM).wfOps = true) ∧
      ∃ d, build facts07 Enum.id exM "u" = .ok d ∧ (d.closed && d.wellDefined && d.messages.length == 6) = true)
    ∧ (((populated exX).wfCore = true ∧ (populated exX).wfOps = true) ∧
      ∃ d, build facts07 Enum.id exX "u" = .ok d ∧ (d.closed && d.wellDefined &&
        d.nsdecl.lookup (.gen 2) == some "ns.a" && d.nsdecl.lookup (.gen 0) == some "ns.b") = true) := by
  rw [build, build, build, build, gen, gen, gen, gen, buildSchemas, buildSchemas, buildSchemas, buildSchemas,
    exI_tiers_built, exI_tiers_built, exI_tiers_built, exI_tiers_built _ _ exX rfl mixin_reprs.1 rfl]
  · decide +kernel
  all_goals rfl

/-- What each deviating fact does to the document of the application, or of the variant it shows on: one evaluation. -/
theorem exI_deviations :
    (∃ d, gen { facts07 with headerMsgNs := .headerNs } Enum.id exI "u" = .ok d ∧ d.dangling = true)
    ∧ (∃ d, gen { facts07 with opPortType := .lastDeclared } Enum.id exI "u" = .ok d ∧ d.opsExactlyOnce exI = false)
    ∧ (∃ d, build { facts07 with faultNs := .keptDeclared } Enum.id exF "u" = .ok d ∧ d.dangling = true)
    ∧ (∃ d, build { facts07 with messageDedup := .perService } Enum.id exM "u" = .ok d ∧ d.wellDefined = false)
    ∧ (∃ d, build { facts07 with handlerLookup := .lastBase } Enum.id exY "u" = .ok d ∧ d.dangling = true)
    ∧ (∃ d, build { facts07 with handlerLookup := .firstBase } Enum.id exX "u" = .ok d ∧ d.dangling = true) := by
  rw [build, build, build, build, gen, gen, gen, gen, gen, gen, buildSchemas, buildSchemas, buildSchemas, buildSchemas,
    buildSchemas, buildSchemas, exI_tiers, exI_tiers, exI_tiers_built, exI_tiers_built,
    exI_tiers_built _ _ exY rfl mixin_reprs.2 rfl, exI_tiers_built _ _ exX rfl mixin_reprs.1 rfl]
  · decide +kernel
  all_goals rfl

/-- The contracts of `exT` and `exD` and the document of `exD`, in one evaluation; the sort keys come from the
    characters of the `repr` literals, as in `exI_tiers`. -/
theorem exD_checks :
    ((populated exD).wfCore = true ∧ (populated exD).wfOps = true)
    ∧ ((populated exT).wfCore = true ∧ exT.wfOps = true)
    ∧ ∃ d, build facts07 Enum.id exD "u" = .ok d ∧
      (d.closed && d.wellDefined && (d.typeRefs.any (fun q => q == ⟨nsXsd, "decimal"⟩)) &&
        (d.portTypes.flatMap (·.ops)).all (fun o => o.doc == some "Weighs.")) = true := by
  rw [build, gen, buildSchemas, reprKey_congr (reprs_deps_built facts07 exD).1, reprKey_table]
  generalize ht : exD.classes.map (fun c => skey c.repr) = t
  simp only [exD, List.map] at ht
  repeat rw [skey_ofList] at ht
  subst ht
  decide +kernel

end SpyneModel.Props.C07
