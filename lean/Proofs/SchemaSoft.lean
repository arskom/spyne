/-
  C06 lemmas: on documents in the common form, soft validation accepts exactly the
  documents that are valid for the schema type the class denotes (`soft_eq_validS`).
-/
import Proofs.SchemaMain
import Proofs.XmlRules
namespace SpyneModel
namespace Schema
open Xml

theorem softCfg_soft : softCfg.soft = true := rfl
theorem softCfg_xsi : softCfg.parseXsiType = true := rfl

theorem isOk_map {α β} (f : α → β) (o : Outcome α) : isOk (o.map f) = isOk o := by
  cases o <;> rfl

/-- `leafFromElement` under soft validation for a leaf whose text gets no special treatment: missing text, then
    `validate_string`, the parser, `validate_native` -/
def plainSoft (F : Facts08) (p : PrimTy) (o : Occ) (text : Option Text) : Outcome Val :=
  match text with
  | none => if softCfg.soft && !o.nillable then .fault else .ok .none
  | some s =>
    if softCfg.soft && !validateString F p s then .fault
    else match leafFromText F p s with
      | .ok v => if softCfg.soft && !validateNative p v then .fault else .ok v
      | .fault => .fault
      | .crash e => .crash e

/-- `lexAgree` for such a leaf: there is text, and it parses exactly when its normal form is in the lexical space of
    the built-in -/
def plainAgree (F : Facts08) (p : PrimTy) (text : Option Text) : Bool :=
  match text with
  | none => false
  | some s =>
    match leafFromText F p s with
    | .ok _ => (builtinOf p).lexOk ((builtinOf p).norm s)
    | _ => !(builtinOf p).lexOk ((builtinOf p).norm s)

/-- leaves whose soft validators (`validate_string`, `validate_native`) check nothing: accepted iff
    the text parses; the schema side has no facets, so it checks the lexical space only -/
theorem plain_leaf_agree (F : Facts08) (X : FactsXml) (F6 : Facts06) (p : PrimTy) (o : Occ) (text : Option Text)
    (hvs : ∀ s, validateString F p s = true) (hvn : ∀ v, validateNative p v = true)
    (hfac : primFacets F6 p = [])
    (hshape : leafFromElement F X softCfg p o text = plainSoft F p o text)
    (hl : plainAgree F p text = true) :
    isOk (leafFromElement F X softCfg p o text) = simpleOk (builtinOf p) (primFacets F6 p) (text.getD []) := by
  rw [hshape, hfac]
  unfold plainSoft
  unfold plainAgree at hl
  cases text with
  | none => simp at hl
  | some s =>
    simp only [hvs, Bool.not_true, Bool.and_false, Bool.false_eq_true, if_false, Option.getD_some, simpleOk, facetsOk_nil,
      Bool.and_true] at hl ⊢
    cases hp : leafFromText F p s with
    | ok v => rw [hp] at hl; simp only [hvn, Bool.not_true, Bool.and_false, Bool.false_eq_true, if_false, isOk]; exact hl.symm
    | fault => rw [hp] at hl; simp only [isOk]; simpa using hl
    | crash e => rw [hp] at hl; simp only [isOk]; simpa using hl

/-- the integer leaf checks the declared range first; the facets state it last -/
theorem bool3 (v : Val) (A B C : Bool) :
    isOk (if (!(A && B && C)) = true then (Outcome.fault : Outcome Val) else .ok v) = (B && C && A) := by
  cases A <;> cases B <;> cases C <;> rfl

/-- the leaf case of `soft_eq_validS`: where parser and lexical space agree on the text (`lexAgree`), soft validation
    accepts exactly what the generated simple type accepts -/
theorem leaf_agree (F : Facts08) (X : FactsXml) (F6 : Facts06) (p : PrimTy) (o : Occ) (text : Option Text)
    (hw : primWf p = true) (hl : lexAgree F X p text = true) :
    isOk (leafFromElement F X softCfg p o text) = simpleOk (builtinOf p) (primFacets F6 p) (text.getD []) := by
  cases p with
  | unicode a b c d =>
    simp only [lexAgree, Bool.or_eq_true] at hl
    have hs : (if X.emptyStringText then some (text.getD []) else text) = some (text.getD []) := by
      rcases hl with h | h
      · simp [h]
      · cases text with
        | none => simp at h
        | some s => simp
    have hv : (validateString F (.unicode a b c d) (text.getD []) && validateNative (.unicode a b c d) (.str (text.getD []))) =
        (PrimTy.unicode a b c d).valueOk (.str (text.getD [])) := by
      simp only [validateString, validateNative, PrimTy.valueOk, Bool.and_assoc]
      rfl
    simp only [simpleOk, builtinOf, Builtin.norm, Builtin.isString, if_true, Builtin.lexOk, Bool.true_and]
    rw [facetsOk_unicode, ← hv]
    simp only [leafFromElement, hs, softCfg, Cfg.soft, beq_self_eq_true, Bool.true_and]
    generalize validateString F (.unicode a b c d) (text.getD []) = x
    generalize validateNative (.unicode a b c d) (.str (text.getD [])) = y
    cases x <;> cases y <;> rfl
  | enum names =>
    simp only [primWf, Bool.and_eq_true, Bool.not_eq_true'] at hw
    simp only [lexAgree, Bool.or_eq_true, Bool.not_eq_true'] at hl
    simp only [simpleOk, builtinOf, Builtin.norm, Builtin.isString, if_true, Builtin.lexOk, Bool.true_and, primFacets,
      facetsOk, filterMap_enumeration, all_enumeration, Bool.and_true, hw.1, Bool.false_or, leafFromElement]
    cases text with
    | none =>
      have hne : names.contains [] = false := hw.2
      simp only [Option.getD_none, isOk, hne]
    | some s =>
      simp only [Option.getD_some]
      by_cases hc : names.contains s = true
      · simp only [hc, if_true, isOk]
      · have hc' : names.contains s = false := by simpa using hc
        simp only [hc', Bool.false_eq_true, if_false, isOk]
  | integer k r =>
    simp only [lexAgree] at hl
    cases text with
    | none => simp at hl
    | some s =>
      dsimp only at hl
      simp only [Option.getD_some, simpleOk, builtinOf, Builtin.norm, Builtin.isString, Bool.false_eq_true, if_false,
        Builtin.lexOk]
      show isOk (leafFromElement F X softCfg (.integer k r) o (some s)) = _
      rw [primFacets_integer_wf F6 k r hw, facetsOk_intFacets]
      simp only [leafFromElement, softCfg, Cfg.soft, beq_self_eq_true, Bool.true_and, leafFromText]
      cases hi : intFromText F k s with
      | ok i =>
        rw [hi] at hl
        simp only [Bool.and_eq_true, decide_eq_true_eq] at hl
        have hlen := intFromText_len F k s i hi
        simp only [validateString, hlen, decide_true, Bool.not_true, Bool.false_eq_true, if_false, Outcome.map, validateNative]
        rw [hl.1, hl.2]
        simp only [inKind, Bool.true_and]
        exact bool3 (Val.int i) (r.holds i) _ _
      | _ =>
        rw [hi] at hl
        simp only [Bool.not_eq_true'] at hl
        rw [hl]
        simp only [Bool.false_and]
        split <;> simp [isOk, Outcome.map]
  | _ => exact plain_leaf_agree F X F6 _ o text (fun _ => rfl) (fun _ => rfl) rfl (by cases text <;> rfl) (by cases text <;> exact hl)


theorem mem_of_dropWhile {α} (p : α → Bool) (l : List α) (x : α) (h : x ∈ l.dropWhile p) : x ∈ l :=
  List.Sublist.mem h (List.dropWhile_sublist p)

theorem inOrder_mem (ks : List Text) (l : List Text) (h : inOrder ks l = true) : ∀ n ∈ l, n ∈ ks := by
  induction ks generalizing l with
  | nil =>
    simp only [inOrder, List.isEmpty_iff] at h
    subst h; intro n hn; cases hn
  | cons k r ih =>
    intro n hn
    obtain ⟨m, hs⟩ := run_split k l
    rw [hs] at hn
    rcases List.mem_append.mp hn with h1 | h1
    · exact List.eq_of_mem_replicate h1 ▸ List.mem_cons_self
    · exact List.mem_cons_of_mem _ (ih _ h n h1)

/-- names in member order: the greedy sequence match succeeds iff every member's count is admissible -/
theorem seqOk_inOrder (F6 : Facts06) (tns ns : Text) (fields : List (Text × Ty)) (hn : namesNodup fields = true) :
    ∀ names : List Text, inOrder (fields.map (·.1)) names = true →
      seqOk (slotsS (denoteFields (primFacets F6) tns ns fields)) (names.map (fun n => (ns, n))) =
        fields.all (fun f => f.2.occ.countOk (names.count f.1)) := by
  induction fields with
  | nil =>
    intro names h
    simp only [List.map_nil, inOrder, List.isEmpty_iff] at h
    subst h; rfl
  | cons f fs ih =>
    obtain ⟨k, t⟩ := f
    intro names h
    simp only [namesNodup, Bool.and_eq_true, Bool.not_eq_true', List.any_eq_false, decide_eq_true_eq] at hn
    simp only [List.map_cons, inOrder] at h
    -- the names are a run of `k` followed by names of the later members
    obtain ⟨n, hsplit⟩ := run_split k names
    generalize names.dropWhile (fun c => decide (c = k)) = rest at h hsplit
    subst hsplit
    have hrest : ∀ g ∈ fs, g.1 ≠ k := hn.1
    have hk : k ∉ rest := fun hm => by
      obtain ⟨g, hg, eg⟩ := List.mem_map.mp (inOrder_mem _ _ h k hm)
      exact hn.1 g hg eg
    simp only [denoteFields, slotsS, List.map_cons, List.map_append, List.map_replicate, List.all_cons]
    rw [seqOk_block _ _ _ _ _ (fun x hx e => by
        obtain ⟨y, hy, rfl⟩ := List.mem_map.mp hx
        exact hk ((Prod.mk.inj e).2 ▸ hy)),
      List.count_append, List.count_replicate_self, List.count_eq_zero.mpr hk, Nat.add_zero]
    have := ih hn.2 _ h
    simp only [slotsS] at this
    rw [this]
    congr 1
    refine all_congr_mem (fun g hg => ?_)
    rw [List.count_append, List.count_replicate, if_neg (by simpa using (hrest g hg).symm), Nat.zero_add]

theorem commonForm_attrs (F : Facts08) (X : FactsXml) (tns ctx : Text) (t : Ty) (c : Node)
    (h : commonForm F X tns ctx t c = true) : c.attrs = [] ∨ ∃ v, c.attrs = [(xsiNilKey, v)] := by
  cases c with
  | elem ns name attrs text children =>
    unfold commonForm at h
    cases attrs with
    | nil => exact Or.inl rfl
    | cons a r =>
      cases r with
      | nil =>
        obtain ⟨k, v⟩ := a
        simp only [Bool.and_eq_true, decide_eq_true_eq] at h
        right; exact ⟨v, by simp [Node.attrs, h.1.1.1.1]⟩
      | cons b r' => simp at h

theorem lookup_nil_key (fields : List (Text × Ty)) (h : fieldsWf fields = true) : lookupField fields xsiNilKey = none := by
  induction fields with
  | nil => rfl
  | cons f r ih =>
    obtain ⟨k, t⟩ := f
    simp only [fieldsWf, Bool.and_eq_true, decide_eq_true_eq] at h
    have hk : (xsiNilKey == k) = false := by
      simp only [beq_eq_false_iff_ne, ne_eq]; exact fun e => h.1.1.1 e.symm
    simp only [lookupField, List.lookup, hk] at ih ⊢
    exact ih h.2

theorem no_attr_crash (F : Facts08) (X : FactsXml) (tns ctx : Text) (t : Ty) (c : Node) (fields : List (Text × Ty))
    (hw : fieldsWf fields = true) (h : commonForm F X tns ctx t c = true) : childAttrCrash X fields c.attrs = false := by
  unfold childAttrCrash
  rcases commonForm_attrs F X tns ctx t c h with e | ⟨v, e⟩
  · rw [e]; simp
  · rw [e]; simp [lookup_nil_key fields hw]

theorem commonChildren_all (F : Facts08) (X : FactsXml) (tns ns : Text) (fields : List (Text × Ty)) :
    ∀ cs, commonChildren F X tns ns fields cs = cs.all (fun c =>
      match lookupField fields c.name with
      | some mt => decide (c.ns = ns) && commonForm F X tns ns mt c
      | none => false) :=
  all_of_rec (by rw [commonChildren]) (fun _ _ => by rw [commonChildren]; rfl)

theorem commonItems_all (F : Facts08) (X : FactsXml) (tns ctx ens member : Text) (elem : Ty) :
    ∀ cs, commonItems F X tns ctx ens member elem cs = cs.all (fun c =>
      decide (c.ns = ens) && decide (c.name = member) && commonForm F X tns ctx elem c) :=
  all_of_rec (by rw [commonItems]) (fun _ _ => by rw [commonItems])

section
variable {F : Facts08} {X : FactsXml} {cfg : Cfg} {I : Iface}

/-- the member loop returns a value exactly when every child that names a member is read and carries no
    attribute that crashes the attribute loop; the state plays no part in the verdict -/
theorem isOk_childLoop (fields : List (Text × Ty)) : ∀ (cs : List Node) (st : List (Text × Val)),
    isOk (childLoop F X cfg I fields cs st) = cs.all (fun c =>
      match lookupField fields c.name with
      | none => true
      | some mt => isOk (fromElement F X cfg I mt c) && !childAttrCrash X fields c.attrs)
  | [], _ => rfl
  | c :: cs, st => by
    rw [childLoop, List.all_cons]
    cases lookupField fields c.name with
    | none => exact (isOk_childLoop fields cs st).trans (Bool.true_and _).symm
    | some mt =>
      dsimp only
      cases fromElement F X cfg I mt c with
      | ok v =>
        cases childAttrCrash X fields c.attrs with
        | true => rfl
        | false => exact (isOk_childLoop fields cs _).trans (Bool.true_and _).symm
      | fault => rfl
      | crash e => rfl

theorem isOk_arrayLoop (elem : Ty) : ∀ cs : List Node,
    isOk (arrayLoop F X cfg I elem cs) = cs.all (fun c => isOk (fromElement F X cfg I elem c))
  | [] => rfl
  | c :: cs => by
    rw [arrayLoop, List.all_cons, ← isOk_arrayLoop elem cs]
    cases fromElement F X cfg I elem c with
    | ok v => cases arrayLoop F X cfg I elem cs <;> rfl
    | fault => rfl
    | crash e => rfl
end

theorem childLoop_validS (F : Facts08) (X : FactsXml) (F6 : Facts06) (I : Iface) (ns : Text) (fields : List (Text × Ty))
    (hw : fieldsWf fields = true) (cs : List Node) (st : List (Text × Val))
    (hih : ∀ c ∈ cs, ∀ mt, tyWf mt = true → commonForm F X I.tns ns mt c = true →
        isOk (fromElement F X softCfg I mt c) = validS (denote (primFacets F6) I.tns ns mt) mt.occ.nillable c)
    (hcc : commonChildren F X I.tns ns fields cs = true) :
    isOk (childLoop F X softCfg I fields cs st) = validChildrenS (denoteFields (primFacets F6) I.tns ns fields) cs := by
  rw [isOk_childLoop, validChildrenS_all]
  rw [commonChildren_all, List.all_eq_true] at hcc
  refine all_congr_mem (fun c hc => ?_)
  have hc1 := hcc c hc
  rw [childOkS]
  cases hl : lookupField fields c.name with
  | none => rw [hl] at hc1; cases hc1
  | some mt =>
    rw [hl] at hc1
    simp only [Bool.and_eq_true, decide_eq_true_eq] at hc1
    rw [nodeKey_eq, hc1.1, findS_of_lookupField, hl, no_attr_crash F X I.tns ns mt c fields hw hc1.2]
    exact (Bool.and_true _).trans
      (hih c hc mt (tyWf_of_mem fields hw _ (SpyneModel.mem_of_lookup hl)) hc1.2)

theorem arrayLoop_validS (F : Facts08) (X : FactsXml) (F6 : Facts06) (I : Iface) (ctx mns mloc : Text) (elem : Ty)
    (cs : List Node)
    (hih : ∀ c ∈ cs, commonForm F X I.tns ctx elem c = true →
        isOk (fromElement F X softCfg I elem c) = validS (denote (primFacets F6) I.tns ctx elem) elem.occ.nillable c)
    (hcc : commonItems F X I.tns ctx mns mloc elem cs = true) :
    isOk (arrayLoop F X softCfg I elem cs) =
        validChildrenS [((mns, mloc), elem.occ, denote (primFacets F6) I.tns ctx elem)] cs ∧
      ∀ x ∈ cs.map nodeKey, x = (mns, mloc) := by
  rw [commonItems_all, List.all_eq_true] at hcc
  simp only [Bool.and_eq_true, decide_eq_true_eq] at hcc
  have hkey : ∀ c ∈ cs, nodeKey c = (mns, mloc) := fun c hc => by rw [nodeKey_eq, (hcc c hc).1.1, (hcc c hc).1.2]
  refine ⟨?_, List.forall_mem_map.mpr hkey⟩
  rw [isOk_arrayLoop, validChildrenS_all]
  refine all_congr_mem (fun c hc => ?_)
  rw [childOkS, hkey c hc, hih c hc (hcc c hc).2]
  simp [findS]

theorem countP_name (cs : List Node) (k : Text) :
    cs.countP (fun c => decide (c.name = k)) = (cs.map Node.name).count k := by
  rw [List.count_eq_countP, List.countP_map]
  exact List.countP_congr (fun c _ => by simp)

theorem keys_of_common (F : Facts08) (X : FactsXml) (tns ns : Text) (fields : List (Text × Ty)) (cs : List Node)
    (h : commonChildren F X tns ns fields cs = true) : cs.map nodeKey = (cs.map Node.name).map (fun n => (ns, n)) := by
  rw [commonChildren_all, List.all_eq_true] at h
  rw [List.map_map]
  refine List.map_congr_left (fun c hc => ?_)
  have := h c hc
  split at this
  · rw [nodeKey_eq, of_decide_eq_true (Bool.and_eq_true_iff.mp this).1]; rfl
  · cases this

/-- both known `xsi:nil` rules read `true` and `1` as nil -/
theorem isNil_true (X : FactsXml) (v : Text) (hnr : nilReads X = true) (hv : (v = "true".toList || v = "1".toList) = true) :
    isNil X [(xsiNilKey, v)] = true := by
  rw [isNil_cons]
  cases hr : X.nilRule with
  | xsdBoolean => exact hv
  | anyNonEmpty => simp only [(nil_true_cases v hv).2, Bool.not_false]
  | other => rw [nilReads, hr] at hnr; cases hnr

theorem fromElement_nil (F : Facts08) (X : FactsXml) (I : Iface) (t : Ty) (ns name : Text) (attrs : List (Text × Text))
    (text : Option Text) (children : List Node) (h : isNil X attrs = true) :
    isOk (fromElement F X softCfg I t (.elem ns name attrs text children)) = t.occ.nillable := by
  rw [Xml.fromElement_nil h]
  cases t.occ.nillable <;> rfl

theorem fromElement_plain (F : Facts08) (X : FactsXml) (I : Iface) (t : Ty) (ns name : Text) (text : Option Text)
    (children : List Node) :
    isOk (fromElement F X softCfg I t (.elem ns name [] text children)) =
      match t with
      | .prim p o => isOk (leafFromElement F X softCfg p o text)
      | .obj _ _ _ fields _ => isOk (childLoop F X softCfg I fields children (initState fields)) && freqOk fields children
      | .arr _ elem _ => isOk (arrayLoop F X softCfg I elem children) := by
  have hnil : isNil X [] = false := rfl
  simp only [fromElement, hnil, Bool.false_eq_true, if_false, softCfg_xsi, softCfg_soft, List.lookup, if_true, Bool.true_and]
  cases t with
  | prim p o => rfl
  | obj cn ons b fields o =>
    dsimp only
    cases childLoop F X softCfg I fields children (initState fields) with
    | ok st => cases freqOk fields children <;> rfl
    | _ => rfl
  | arr m e o =>
    dsimp only
    cases arrayLoop F X softCfg I e children <;> rfl

/-- the decoder side of C06 (`lxml_soft_agree`): on the common form, soft validation and validity for the denoted schema type coincide -/
theorem soft_eq_validS (F : Facts08) (X : FactsXml) (F6 : Facts06) (I : Iface) : ∀ x : Node, SoftAgrees F X F6 I x := by
  intro x
  induction x using Node.rec (motive_2 := fun cs => ∀ c ∈ cs, SoftAgrees F X F6 I c) with
  | nil => rename_i c hm; cases hm
  | cons head tail ih1 ih2 => rename_i c hm; exact List.forall_mem_cons.mpr ⟨ih1, ih2⟩ c hm
  | elem ns name attrs text children ih =>
    intro t ctx hw hcf
    unfold commonForm at hcf
    cases attrs with
    | cons a r =>
      cases r with
      | cons b r' => simp at hcf
      | nil =>
        obtain ⟨k, v⟩ := a
        simp only [Bool.and_eq_true, decide_eq_true_eq] at hcf
        obtain ⟨⟨⟨⟨hk, hv⟩, hnr⟩, htext⟩, hch⟩ := hcf
        subst hk
        have hna := (nil_true_cases v hv).1
        have hnil := isNil_true X v hnr hv
        rw [fromElement_nil F X I t _ _ _ _ _ hnil]
        rw [validS_nil _ _ _ _ _ _ _ hna, htext, hch, Bool.and_true, Bool.and_true]
    | nil =>
      rw [fromElement_plain, validS_plain]
      cases t with
      | prim p o =>
        simp only [Bool.and_eq_true] at hcf
        simp only [tyWf, Bool.and_eq_true] at hw
        simp only [denote, hcf.1, Bool.true_and]
        exact leaf_agree F X F6 p o text hw.1 hcf.2
      | obj cn ons b fields o =>
        simp only [Bool.and_eq_true] at hcf
        obtain ⟨⟨htx, hord⟩, hcc⟩ := hcf
        simp only [tyWf, Bool.and_eq_true] at hw
        obtain ⟨⟨_, hnd⟩, hfw⟩ := hw
        have hfreq : freqOk fields children = fields.all (fun f => f.2.occ.countOk ((children.map Node.name).count f.1)) := by
          unfold freqOk
          exact all_congr_mem (fun f _ => by rw [countP_name])
        simp only [denote, denoteFields_isEmpty, htx, Bool.true_and]
        rw [keys_of_common F X I.tns ons fields children hcc,
          seqOk_inOrder F6 I.tns ons fields hnd (children.map Node.name) hord, ← hfreq,
          childLoop_validS F X F6 I ons fields hfw children (initState fields) (fun c hc mt hwm hcm => ih c hc mt ons hwm hcm) hcc]
        exact Bool.and_comm _ _
      | arr m e o =>
        simp only [Bool.and_eq_true] at hcf
        obtain ⟨htx, hci⟩ := hcf
        obtain ⟨hmin, hmax, hwe, _⟩ := tyWf_arr hw
        have hal := arrayLoop_validS F X F6 I ctx (memberNs I.tns ctx m e) (memberLocal m) e children
          (fun c hc hcm => ih c hc e ctx hwe hcm) hci
        have htxt : textOk ([((memberNs I.tns ctx m e, memberLocal m), e.occ, denote (primFacets F6) I.tns ctx e)] : List (Key × Occ × STy)).isEmpty text = true := by
          simpa [textOk] using htx
        have hseq : seqOk (slotsS [((memberNs I.tns ctx m e, memberLocal m), e.occ, denote (primFacets F6) I.tns ctx e)]) (children.map nodeKey) = true :=
          seqOk_one_slot _ _ _ hal.2 (countOk_unbounded _ hmin hmax _)
        simp only [denote, htxt, hseq, Bool.true_and, hal.1]

theorem primFacetsA_no_values (A : App) (h : A.values = []) : primFacetsA A = primFacets A.facts := by
  funext p
  have : A.extraVals p = [] := by cases p <;> simp [App.extraVals, h]
  simp [primFacetsA, App.enumLits, this]

/-- **lxml_soft_agree** for documents -/
theorem lxml_soft_agree_gen (F : Facts08) (X : FactsXml) (A : App) (hwf : A.wf = true)
    (hsn : A.sameNsChains = true) (hnv : A.values = [])
    (C : ClassDef) (hC : C ∈ A.iface.classes) (ns name : Text) (text : Option Text) (children : List Node)
    (hkey : (ns, name) = (C.ns, C.name))
    (hcf : commonForm F X A.tns C.ns (ClassDef.toTy C) (.elem ns name [] text children) = true) :
    (gen A).valid (.elem ns name [] text children) =
      softAccepts F X A.iface (ClassDef.toTy C) (.elem ns name [] text children) := by
  rw [valid_gen_same A hwf hsn C hC _ (by simpa [nodeKey] using hkey),
    validS_no_attrs _ false (ClassDef.toTy C).occ.nillable, primFacetsA_no_values A hnv]
  refine (soft_eq_validS F X A.facts A.iface _ _ C.ns (tyWf_toTy A hwf C (List.mem_append.mpr (Or.inl hC))) hcf).symm.trans ?_
  unfold softAccepts isOk softCfg
  cases fromElement F X { validator := .soft } A.iface (ClassDef.toTy C) (.elem ns name [] text children) <;> rfl

end Schema
end SpyneModel
