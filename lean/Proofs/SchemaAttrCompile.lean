import Proofs.SchemaDocs
import Proofs.SchemaAttr
/-!
  C06, member kinds (attributes, XmlData, choice groups): the extended set of documents compiles.
-/
namespace SpyneModel
namespace Schema
open Xml

theorem namesNodupA_iff (fs : List (Text × MKind × TyA)) : namesNodupA fs = true ↔ (fs.map (·.1)).Nodup :=
  nodup_map_iff_of_rec (·.1) rfl (fun a r => by cases a; simp [namesNodupA]) fs

theorem attrNamesDistinct_iff (l : List AttrDecl) : attrNamesDistinct l = true ↔ (l.map (·.name)).Nodup :=
  nodup_map_iff_of_rec (·.name) rfl (fun a r => by simp [attrNamesDistinct]) l

/-- the attributes a list of members declares carry names of the list, in its order -/
theorem attrOf_names_sublist (A : AppA) (C : ClassDefA) (fs : List (Text × MKind × TyA)) :
    ((fs.filterMap (attrOf A C)).map (·.name)).Sublist (fs.map (·.1)) := by
  induction fs with
  | nil => exact List.Sublist.slnil
  | cons f r ih =>
    obtain ⟨k, kind, t⟩ := f
    cases kind <;> cases t <;> simp only [List.filterMap_cons, attrOf, List.map_cons] <;>
      first | exact ih.cons _ | exact ih.cons_cons _

/-- the chain condition compares names, kinds and whether a member wraps a primitive; the names are what is used here -/
theorem map_fst_of_nk {l l' : List (Text × MKind × TyA)} (h : l.map nk = l'.map nk) : l.map (·.1) = l'.map (·.1) := by
  have := congrArg (List.map (fun e : Text × MKind × Bool => e.1)) h
  simpa only [List.map_map, Function.comp_def, nk] using this

theorem parentOf_elem (I : IfaceA) (C : ClassDefA) :
    parentOf (elemIface I) (elemClass C) = (parentOfA I C).map elemClass := by
  unfold parentOf parentOfA
  have hbase : (elemClass C).base = C.base := rfl
  rw [hbase]
  cases C.base with
  | none => rfl
  | some b =>
    show Registry.find? (I.classes.map elemClass) b = _
    unfold Registry.find?
    rw [List.find?_map]
    rfl

theorem parentOfA_mem (I : IfaceA) (C P : ClassDefA) (h : parentOfA I C = some P) : P ∈ I.classes := by
  unfold parentOfA at h
  cases hb : C.base with
  | none => rw [hb] at h; cases h
  | some b => rw [hb] at h; exact List.mem_of_find?_eq_some h

theorem elemClass_mem (A : AppA) (C : ClassDefA) (hC : C ∈ A.iface.classes) : elemClass C ∈ A.elemApp.allClasses :=
  List.mem_append.mpr (Or.inl (List.mem_map.mpr ⟨C, hC, rfl⟩))

/-- the attributes an element of a class may carry are named after members of its flattened member list, in order -/
theorem effX_attrs_sublist (A : AppA) (hc : Closed A.elemApp)
    (hk : nodupKeys (A.iface.classes.map (fun C => ((C.ns, C.name), ()))) = true) :
    ∀ (f : Nat) (C : ClassDefA), C ∈ A.iface.classes → chainOkA A.iface f C = true →
      ((effX (genA A) f (C.ns, C.name)).attrs.map (·.name)).Sublist (C.fields.map (·.1)) := by
  intro f
  induction f with
  | zero => intro C _ h; simp [chainOkA] at h
  | succ f ih =>
    intro C hC hch
    have hl : (genA A).core.complex.lookup (C.ns, C.name) = some (classComplex A.elemApp (elemClass C)).2 :=
      hc.cplx (elemClass C) (elemClass_mem A C hC)
    simp only [effX, hl, genA_ext_lookup A hk C hC, Option.getD_some, classComplex]
    rw [show parentOf A.elemApp.iface (elemClass C) = (parentOfA A.iface C).map elemClass from parentOf_elem A.iface C]
    unfold chainOkA at hch
    cases hb : C.base with
    | none =>
      have hpa : parentOfA A.iface C = none := by simp [parentOfA, hb]
      simp only [hpa, Option.map_none, List.nil_append, classExt, ownFieldsA]
      exact attrOf_names_sublist A C C.fields
    | some b =>
      rw [hb] at hch
      dsimp only at hch
      cases hf : A.iface.classes.find? (fun c => c.name = b) with
      | none => rw [hf] at hch; cases hch
      | some P =>
        rw [hf] at hch
        simp only [Bool.and_eq_true, decide_eq_true_eq] at hch
        obtain ⟨⟨_, hpre⟩, hchP⟩ := hch
        have hpa : parentOfA A.iface C = some P := by simp [parentOfA, hb, hf]
        simp only [hpa, Option.map_some, elemClass, List.map_append, classExt, ownFieldsA]
        -- the inherited attributes are named in the first `P.fields.length` members, the own ones in the rest
        rw [← List.take_append_drop P.fields.length C.fields, List.map_append, map_fst_of_nk hpre,
          List.take_append_drop]
        exact (ih P (parentOfA_mem A.iface C P hpa) hchP).append (attrOf_names_sublist A C _)

/-- a simple type of the extended set lives in a namespace that has a document -/
theorem hasSimple_has_doc (A : AppA) (k : Key) (h : (genA A).hasSimple k = true) : k.1 ∈ (genA A).docNs := by
  rcases Bool.or_eq_true_iff.mp h with h | h
  · exact mem_genA_docNs.mpr (Or.inl (defined_has_doc _ k (Bool.or_eq_true_iff.mpr (Or.inl h))))
  · obtain ⟨v, hv⟩ := lookup_isSome_mem h
    exact mem_genA_docNs.mpr (Or.inr ⟨(k, v), hv, rfl⟩)

theorem modRef_ok (A : AppA) (hdt : A.facts.dataTypeDefined = true) (C : ClassDefA) (hC : C ∈ A.iface.classes)
    (f : Text × MKind × TyA) (hf : f ∈ ownFieldsA A.iface C) (p : PrimTy) (o : Occ) (ht : f.2.2 = .prim p o)
    (hkind : f.2.1 = .attribute ∨ f.2.1 = .data) :
    (genA A).simpleRefOk C.ns (attrRef A C f.1 p o) = true ∧
    (∀ key, attrRef A C f.1 p o = .named key → key.1 ∈ (genA A).docNs) := by
  obtain ⟨k, kind, t⟩ := f
  simp only at ht hkind
  subst ht
  cases hr : attrRef A C k p o with
  | builtin b => exact ⟨rfl, fun key e => by cases e⟩
  | named key =>
    obtain ⟨hcond, hkey⟩ : (isEnum p || !isDefaultA A.elemApp p) = true ∧
        key = itemKey A.elemApp (A.modNsOf p) C.name k (.prim p o) := by
      unfold attrRef at hr
      rw [refOf_prim] at hr
      split at hr
      · exact ⟨‹_›, (TypeRef.named.inj hr).symm⟩
      · cases hr
    have hraw : (key, ({ base := builtinOf p, facets := primFacetsA A.elemApp p } : SimpleDef)) ∈ rawModDefs A := by
      unfold rawModDefs
      refine List.mem_flatMap.mpr ⟨C, hC, List.mem_flatMap.mpr ⟨(k, kind, .prim p o), hf, ?_⟩⟩
      have : (key, ({ base := builtinOf p, facets := primFacetsA A.elemApp p } : SimpleDef)) ∈ attrDefs A C k p o := by
        unfold attrDefs tyDefs
        rw [if_pos hcond, hkey]
        simp
      rcases hkind with e | e
      · subst e; simpa [modDefs] using this
      · subst e; simpa [modDefs, hdt] using this
    have hsimple : (genA A).hasSimple key = true := genA_hasSimple hraw
    refine ⟨?_, fun key' e => TypeRef.named.inj e ▸ hasSimple_has_doc A key hsimple⟩
    simp only [SchemaX.simpleRefOk, Bool.and_eq_true]
    refine ⟨visible_of _ _ _ (fun hns => List.mem_append.mpr (Or.inr ?_)), hsimple⟩
    refine mem_genA_ximports.mpr ⟨C, hC, (k, kind, .prim p o), hf, ?_⟩
    rcases hkind with e | e <;> subst e <;> simp [modImport, hr, hns, importOf, refImport]

theorem elemFields_nil_of_no_element : ∀ fs : List (Text × MKind × TyA),
    fs.all (fun f => decide (f.2.1 ≠ MKind.element)) = true → elemFields fs = []
  | [], _ => rfl
  | (k, kind, t) :: r, h => by
    simp only [List.all_cons, Bool.and_eq_true, decide_eq_true_eq] at h
    cases kind with
    | element => exact absurd rfl h.1
    | «attribute» => simp [elemFields, elemFields_nil_of_no_element r h.2]
    | data => simp [elemFields, elemFields_nil_of_no_element r h.2]

theorem modDefs_mem (A : AppA) (hdt : A.facts.dataTypeDefined = true) (C : ClassDefA) (f : Text × MKind × TyA)
    (e : Key × SimpleDef) (h : e ∈ modDefs A C f) :
    ∃ p o, f.2.2 = .prim p o ∧ (f.2.1 = .attribute ∨ f.2.1 = .data) ∧ e ∈ attrDefs A C f.1 p o := by
  obtain ⟨k, kind, t⟩ := f
  cases kind <;> cases t <;> simp [modDefs, hdt] at h
  · exact ⟨_, _, rfl, Or.inl rfl, h⟩
  · exact ⟨_, _, rfl, Or.inr rfl, h⟩

theorem modImport_mem (A : AppA) (C : ClassDefA) (f : Text × MKind × TyA) (i : Text × Text) (h : i ∈ modImport A C f) :
    ∃ p o, f.2.2 = .prim p o ∧ (f.2.1 = .attribute ∨ f.2.1 = .data) ∧ i ∈ refImport C (attrRef A C f.1 p o) := by
  obtain ⟨k, kind, t⟩ := f
  cases kind <;> cases t <;> simp [modImport] at h
  · exact ⟨_, _, rfl, Or.inl rfl, h⟩
  · exact ⟨_, _, rfl, Or.inr rfl, h⟩

/-- **genA_compiles**: the documents of a well-formed application with attribute, XmlData and choice
    members compile (given that the generator defines the simple type of a customised XmlData member,
    `Facts06.dataTypeDefined`) -/
theorem genA_compiles (A : AppA) (G : A.leaf.Good) (hdt : A.facts.dataTypeDefined = true) (hwf : A.wf = true) :
    (genA A).compiles = true := by
  unfold AppA.wf at hwf
  simp only [Bool.and_eq_true] at hwf
  obtain ⟨⟨⟨⟨hE, hkeys⟩, hcls⟩, hnext⟩, hclash⟩ := hwf
  rw [List.all_eq_true] at hcls hnext hclash
  have hc := closed_of_wf A.elemApp hE
  have hcore : (gen A.elemApp).compiles = true := Schema.gen_compiles A.elemApp G hE
  have hclsC : ∀ C ∈ A.iface.classes,
      chainOkA A.iface (A.iface.classes.length + 1) C = true ∧ namesNodupA C.fields = true ∧ kindsWf C.fields = true ∧
      (∀ f ∈ C.fields, modPrimWf f = true) ∧ (hasData C = true → C.base = none) := by
    intro C hC
    have := hcls C hC
    simp only [Bool.and_eq_true, Bool.or_eq_true, Bool.not_eq_true', List.all_eq_true] at this
    refine ⟨this.1.1.1.1, this.1.1.1.2, this.1.1.2, this.1.2, ?_⟩
    intro hd
    rcases this.2 with h | h
    · rw [hd] at h; cases h
    · exact Option.isNone_iff_eq_none.mp h
  unfold SchemaX.compiles
  simp only [Bool.and_eq_true]
  refine ⟨⟨⟨⟨⟨hcore, ?_⟩, ?_⟩, ?_⟩, ?_⟩, ?_⟩
  · exact genA_xsimple_nodup A
  ·
    rw [List.all_eq_true]
    intro e he
    obtain ⟨hraw, hns⟩ := mem_genA_xsimple he
    simp only [Bool.and_eq_true]
    refine ⟨⟨by rw [show (genA A).core = gen A.elemApp from rfl, hns]; rfl, hclash e hraw⟩, ?_⟩
    unfold rawModDefs at hraw
    obtain ⟨C, hC, hm⟩ := List.mem_flatMap.mp hraw
    obtain ⟨f, hf, hd⟩ := List.mem_flatMap.mp hm
    obtain ⟨p, o, ht, hkind, hin⟩ := modDefs_mem A hdt C f e hd
    have hpw : Schema.primWf p = true := by
      have := (hclsC C hC).2.2.2.1 _ (ownFieldsA_sub _ _ _ hf)
      unfold modPrimWf at this
      rw [ht] at this
      rcases hkind with hk | hk <;> (rw [hk] at this; exact this)
    unfold attrDefs tyDefs at hin
    split at hin
    · rw [List.mem_singleton.mp hin]
      exact prim_def_legalA A.elemApp G hc.valuesWf p hpw
    · cases hin
  · exact nodupKeys_map_keys A.iface.classes (fun C => (C.ns, C.name)) (classExt A) hkeys
  ·
    rw [List.all_eq_true]
    intro e he
    obtain ⟨C, hC, rfl⟩ := List.mem_map.mp he
    obtain ⟨hch, hnn, hkw, hpw, hdata⟩ := hclsC C hC
    have hl : (gen A.elemApp).complex.lookup (C.ns, C.name) = some (classComplex A.elemApp (elemClass C)).2 :=
      hc.cplx (elemClass C) (elemClass_mem A C hC)
    unfold classExtOk
    simp only [Bool.and_eq_true]
    refine ⟨⟨⟨?_, ?_⟩, ?_⟩, ?_⟩
    · show (gen A.elemApp).hasComplex (C.ns, C.name) = true
      simp [Schema.hasComplex, hl]
    · rw [List.all_eq_true]
      intro a ha
      simp only [classExt, List.mem_filterMap] at ha
      obtain ⟨f, hf, hfa⟩ := ha
      obtain ⟨k, kind, t⟩ := f
      cases kind <;> cases t <;> simp [attrOf] at hfa
      subst hfa
      exact (modRef_ok A hdt C hC _ hf _ _ rfl (Or.inl rfl)).1
    · -- "Duplicate attribute use": the attribute names are a sublist of the member names, which are distinct
      rw [show (genA A).core.chainBound = A.iface.classes.length + 1 from
        (gen_chainBound A.elemApp).trans (by simp [AppA.elemApp, elemIface])]
      exact (attrNamesDistinct_iff _).mpr (((namesNodupA_iff _).mp hnn).sublist (effX_attrs_sublist A hc hkeys _ C hC hch))
    ·
      cases hd : (classExt A C).data with
      | none => rfl
      | some t =>
        simp only [classExt] at hd
        obtain ⟨f, hf, hfd⟩ := List.exists_of_findSome?_eq_some hd
        obtain ⟨k, kind, ty⟩ := f
        have hfC := ownFieldsA_sub _ _ _ hf
        cases kind <;> cases ty <;> simp [dataOf] at hfd
        subst hfd
        have hhas : hasData C = true := by
          unfold hasData
          exact List.any_eq_true.mpr ⟨_, hfC, by simp⟩
        have hbase := hdata hhas
        simp only [Bool.and_eq_true]
        refine ⟨⟨(modRef_ok A hdt C hC _ hf _ _ rfl (Or.inr rfl)).1, ?_⟩, ?_⟩
        · show (match (gen A.elemApp).complex.lookup (C.ns, C.name) with
              | some d => d.base.isNone && d.particles.isEmpty | none => false) = true
          rw [hl]
          have hne : C.fields.all (fun f => decide (f.2.1 ≠ MKind.element)) = true := by
            unfold kindsWf at hkw
            simp only [Bool.and_eq_true, Bool.or_eq_true, decide_eq_true_eq] at hkw
            rcases hkw.2.2 with h0 | h0
            · exfalso
              have : C.fields.countP (fun f => decide (f.2.1 = MKind.data)) > 0 :=
                List.countP_pos_iff.mpr ⟨_, hfC, by simp⟩
              omega
            · exact h0
          have hpar : parentOf A.elemApp.iface (elemClass C) = none := by
            simp [parentOf, elemClass, hbase]
          have hef : (elemClass C).fields = [] := elemFields_nil_of_no_element C.fields hne
          simp only [classComplex, hpar, ownFields, hef]
          simp
        · rw [List.all_eq_true]
          intro c hcx
          have := hnext c hcx
          rw [List.all_eq_true] at this
          have := this C hC
          simp only [Bool.or_eq_true, Bool.not_eq_true', hhas, decide_eq_true_eq] at this
          rcases this with h | h
          · cases h
          · simpa using h
  ·
    rw [List.all_eq_true]
    rintro ⟨a, n⟩ hi
    obtain ⟨C, hC, f, hf, hd⟩ := mem_genA_ximports.mp hi
    obtain ⟨p, o, ht, hkind, hin⟩ := modImport_mem A C f _ hd
    apply List.contains_iff_mem.mpr
    have hnamed := (modRef_ok A hdt C hC f hf p o ht hkind).2
    cases hr : attrRef A C f.1 p o with
    | named key' =>
      rw [hr] at hin
      simp only [refImport, importOf] at hin
      split at hin
      · cases hin
      · simp only [List.mem_singleton, Prod.mk.injEq] at hin
        rw [hin.2]; exact hnamed key' hr
    | builtin bb =>
      rw [hr] at hin
      cases hin

end Schema
end SpyneModel
