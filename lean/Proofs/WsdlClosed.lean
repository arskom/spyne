/- C07: what the tables of the schema phase hold when it ends, as the closure theorem of Proofs.WsdlFinal needs it: every
   entry is that of a tagged class (`From`), the target namespace comes first (`HeadTns`), no key occurs twice
   (`KeysNodup`), each carried through the four steps of `add` by `addCls_preserves`; then what the loop over the
   namespaces and `add_missing_elements_for_methods` make of the tables. -/
import Proofs.WsdlSchema
import Proofs.WsdlTable
namespace SpyneModel.Wsdl
open SpyneModel
variable (F : Facts07) (I : IState)

/-- the type entry `t`, filed under `ns`, is that of a tagged class -/
def TypeR (I : IState) (tags : List Nat) (ns : String) (t : String × TypeDef) : Prop :=
  ∃ j ∈ tags, (I.cls j).kind ≠ .builtin ∧ ns = (I.cls j).ns ∧ t = ((I.cls j).tn, nodeOf I (I.cls j))

/-- the element entry `t`, filed under `ns`, is that of a tagged complex class -/
def ElemR (I : IState) (tags : List Nat) (ns : String) (t : String × ElemDecl) : Prop :=
  ∃ j ∈ tags, (I.cls j).kind = .complex ∧ ns = (I.cls j).elemNs I.tns ∧
    t = ((I.cls j).elemName, ⟨(I.cls j).elemName, typeQN (I.cls j)⟩)

def TypesFrom (I : IState) (st : SSt) : Prop := ∀ kv ∈ st.infos, ∀ t ∈ kv.2.types, TypeR I st.tags kv.1 t

def ElemsFrom (I : IState) (st : SSt) : Prop := ∀ kv ∈ st.infos, ∀ t ∈ kv.2.elements, ElemR I st.tags kv.1 t

/-- every type and every element in the tables was put there for a tagged class -/
def From (I : IState) (st : SSt) : Prop := TypesFrom I st ∧ ElemsFrom I st

theorem from_same_infos (a b : SSt) (hi : b.infos = a.infos) (ht : ∀ j ∈ a.tags, j ∈ b.tags)
    (h : From I a) : From I b := by
  constructor
  · intro kv hkv t htt
    rw [hi] at hkv
    obtain ⟨j, hj, r⟩ := h.1 kv hkv t htt
    exact ⟨j, ht j hj, r⟩
  · intro kv hkv t htt
    rw [hi] at hkv
    obtain ⟨j, hj, r⟩ := h.2 kv hkv t htt
    exact ⟨j, ht j hj, r⟩

/-- a description `R` of the entries of one table (`sel`), namespace by namespace, survives an update of one namespace
    whose new entries fit the description -/
theorem entries_modify {β : Type} (sel : SInfo → List (String × β)) (hsel : sel ⟨[], []⟩ = [])
    (R : String → String × β → Prop) (ns : String) (f : SInfo → SInfo) (infos : List (String × SInfo))
    (hf : ∀ old t, t ∈ sel (f old) → t ∈ sel old ∨ R ns t)
    (h : ∀ kv ∈ infos, ∀ t ∈ sel kv.2, R kv.1 t) : ∀ kv ∈ modifyInfo ns f infos, ∀ t ∈ sel kv.2, R kv.1 t := by
  intro kv hkv t htt
  rcases mem_modifyInfo _ _ _ kv hkv with hold | ⟨h1, old, h2, h3⟩
  · exact h kv hold t htt
  · rw [h1]
    rw [h3] at htt
    rcases hf old t htt with ho | hr
    · rcases h2 with rfl | h2
      · rw [hsel] at ho; cases ho
      · exact h _ h2 t ho
    · exact hr

theorem from_addType (st : SSt) (i : Nat) (hi : i ∈ st.tags) (hk : (I.cls i).kind ≠ .builtin)
    (h : From I st) : From I (addType st (I.cls i) (nodeOf I (I.cls i))) :=
  ⟨entries_modify SInfo.types rfl (TypeR I st.tags) _ _ _
      (fun _ t ht => (mem_upsert _ _ _ t ht).elim (fun e => Or.inr ⟨i, hi, hk, rfl, e⟩) Or.inl) h.1,
   entries_modify SInfo.elements rfl (ElemR I st.tags) _ _ _ (fun _ _ ht => Or.inl ht) h.2⟩

theorem from_addElement (st : SSt) (i : Nat) (hi : i ∈ st.tags) (hk : (I.cls i).kind = .complex)
    (h : From I st) : From I (addElement I.tns st (I.cls i) ⟨(I.cls i).elemName, typeQN (I.cls i)⟩) :=
  ⟨entries_modify SInfo.types rfl (TypeR I st.tags) _ _ _ (fun _ _ ht => Or.inl ht) h.1,
   entries_modify SInfo.elements rfl (ElemR I st.tags) _ _ _
      (fun _ t ht => (mem_upsert _ _ _ t ht).elim (fun e => Or.inr ⟨i, hi, hk, rfl, e⟩) Or.inl) h.2⟩


theorem from_addCls (fuel : Nat) : ∀ i st, From I st → From I (addCls I fuel i st) :=
  addCls_preserves I fuel (From I) (fun st _ h => from_same_infos I st _ rfl (fun _ hj => List.mem_cons_of_mem _ hj) h)
    (fun st _ h => from_same_infos I st _ rfl (fun _ hj => hj) h) (from_addType I) (from_addElement I)


theorem from_mainLoop (order : List Nat) (st : SSt) (h : From I st) : From I (mainLoop I order st) :=
  mainLoop_preserves I (From I) (from_addCls I _) order st h

/-- the first entry of `XmlSchema.namespaces` is the target namespace -/
def HeadTns (I : IState) (st : SSt) : Prop := ∃ info rest, st.infos = (I.tns, info) :: rest

theorem headTns_modify (tns ns : String) (f : SInfo → SInfo) (infos : List (String × SInfo))
    (h : ∃ info rest, infos = (tns, info) :: rest) : ∃ info rest, modifyInfo ns f infos = (tns, info) :: rest := by
  obtain ⟨info, rest, rfl⟩ := h
  simp only [modifyInfo]
  split
  · rename_i heq
    have heq' : tns = ns := heq
    exact ⟨f info, rest, by rw [heq']⟩
  · exact ⟨info, _, rfl⟩

theorem headTns_mainLoop (order : List Nat) (st : SSt) (h : HeadTns I st) : HeadTns I (mainLoop I order st) :=
  mainLoop_preserves I (HeadTns I)
    (addCls_preserves I _ (HeadTns I) (fun _ _ h => h) (fun _ _ h => h) (fun _ _ _ _ h => headTns_modify I.tns _ _ _ h)
      (fun _ _ _ _ h => headTns_modify I.tns _ _ _ h)) order st h


theorem upsert_keys_nodup {κ β : Type} [DecidableEq κ] (k : κ) (v : β) (l : List (κ × β)) (h : (l.map (·.1)).Nodup) :
    ((upsert k v l).map (·.1)).Nodup := by
  rw [upsert_keys]
  split
  · exact h
  · rename_i hk
    exact nodup_append_single _ _ h hk

/-- one entry per namespace, and in it one per type name and one per element name -/
def KeysNodup (st : SSt) : Prop :=
  (st.infos.map (·.1)).Nodup ∧ ∀ kv ∈ st.infos, (kv.2.types.map (·.1)).Nodup ∧ (kv.2.elements.map (·.1)).Nodup

theorem keysNodup_modify (ns : String) (f : SInfo → SInfo) (infos : List (String × SInfo))
    (hf : ∀ old, ((old.types.map (·.1)).Nodup ∧ (old.elements.map (·.1)).Nodup) →
      (((f old).types.map (·.1)).Nodup ∧ ((f old).elements.map (·.1)).Nodup))
    (h1 : (infos.map (·.1)).Nodup)
    (h2 : ∀ kv ∈ infos, (kv.2.types.map (·.1)).Nodup ∧ (kv.2.elements.map (·.1)).Nodup) :
    ((modifyInfo ns f infos).map (·.1)).Nodup ∧
    ∀ kv ∈ modifyInfo ns f infos, (kv.2.types.map (·.1)).Nodup ∧ (kv.2.elements.map (·.1)).Nodup := by
  constructor
  · rw [modifyInfo_eq_upsert]
    exact upsert_keys_nodup _ _ _ h1
  · intro kv hkv
    rcases mem_modifyInfo ns f infos kv hkv with h | ⟨_, old, ho, he⟩
    · exact h2 kv h
    · rw [he]
      apply hf
      rcases ho with rfl | ho
      · exact ⟨List.nodup_nil, List.nodup_nil⟩
      · exact h2 _ ho

theorem keysNodup_addType (st : SSt) (c : Cls) (node : TypeDef) (h : KeysNodup st) : KeysNodup (addType st c node) :=
  keysNodup_modify c.ns _ st.infos (fun _ ho => ⟨upsert_keys_nodup _ _ _ ho.1, ho.2⟩) h.1 h.2

theorem keysNodup_addElement (tns : String) (st : SSt) (c : Cls) (node : ElemDecl) (h : KeysNodup st) :
    KeysNodup (addElement tns st c node) :=
  keysNodup_modify (c.elemNs tns) _ st.infos (fun _ ho => ⟨ho.1, upsert_keys_nodup _ _ _ ho.2⟩) h.1 h.2

theorem keysNodup_mainLoop (order : List Nat) (st : SSt) (h : KeysNodup st) : KeysNodup (mainLoop I order st) :=
  mainLoop_preserves I KeysNodup
    (addCls_preserves I _ KeysNodup (fun _ _ h => h) (fun _ _ h => h) (fun _ _ _ _ h => keysNodup_addType _ _ _ h)
      (fun _ _ _ _ h => keysNodup_addElement _ _ _ _ h)) order st h

theorem from_schemaState (tiers : List (List Nat)) : From I (schemaState I tiers) :=
  from_mainLoop I _ _
    ⟨fun kv hkv t ht => (by simp only [List.mem_singleton] at hkv; subst hkv; cases ht),
     fun kv hkv t ht => (by simp only [List.mem_singleton] at hkv; subst hkv; cases ht)⟩

theorem headTns_schemaState (tiers : List (List Nat)) : HeadTns I (schemaState I tiers) :=
  headTns_mainLoop I _ _ ⟨_, _, rfl⟩

theorem keysNodup_schemaState (tiers : List (List Nat)) : KeysNodup (schemaState I tiers) :=
  keysNodup_mainLoop I _ _
    ⟨by simp, fun kv hkv => by simp only [List.mem_singleton] at hkv; subst hkv; exact ⟨List.nodup_nil, List.nodup_nil⟩⟩

/-- namespace, type nodes and element nodes: what a rendered schema (`projS`) and a row of the tables (`projI`) are
    compared by -/
def projS (s : Schema) : String × List TypeDef × List ElemDecl := (s.tns, s.types, s.elements)
def projI (kv : String × SInfo) : String × List TypeDef × List ElemDecl :=
  (kv.1, kv.2.types.map (·.2), kv.2.elements.map (·.2))

theorem schemaLoop_ok (e : Enum) (I : IState) (infos : List (String × SInfo)) (ss : List Schema)
    (tr : List String) (h : schemaLoop F e I infos = .ok (ss, tr)) : ss.map projS = infos.map projI := by
  induction infos generalizing ss tr with
  | nil => simp only [schemaLoop] at h; injection h with h; injection h with h1 h2; subst h1; rfl
  | cons kv rest ih =>
    obtain ⟨ns, info⟩ := kv
    simp only [schemaLoop] at h
    cases hl : I.imports.lookup ns with
    | none => rw [hl] at h; cases h
    | some imps =>
      rw [hl] at h
      simp only at h
      cases hr : schemaLoop F e I rest with
      | fault => rw [hr] at h; cases h
      | crash x => rw [hr] at h; cases h
      | ok r =>
        obtain ⟨ss', tr'⟩ := r
        rw [hr] at h
        simp only at h
        injection h with h
        injection h with h1 h2
        subst h1
        simp only [List.map_cons, ih ss' tr' hr]
        rfl

theorem missingLoop_fst (ps : List (String × Nat)) (acc : List (String × ElemDecl) × List String) :
    (missingLoop I ps acc).1 =
      ps.foldl (fun l p => insertNew (·.1) (p.1, (⟨p.1, typeQN (I.cls p.2)⟩ : ElemDecl)) l) acc.1 := by
  induction ps generalizing acc with
  | nil => rfl
  | cons p ps ih =>
    obtain ⟨name, i⟩ := p
    rw [List.foldl_cons, missingLoop]
    split
    · rw [ih, insertNew, if_pos ‹_›]
    · rw [ih, insertNew, if_neg ‹_›]

/-- `add_missing_elements_for_methods` keeps the names distinct, adds only elements of messages, keeps what was
    there, and leaves an element for every message -/
theorem missingLoop_spec (ps : List (String × Nat)) (acc : List (String × ElemDecl) × List String) :
    ((acc.1.map (·.1)).Nodup → ((missingLoop I ps acc).1.map (·.1)).Nodup) ∧
    (∀ kv ∈ (missingLoop I ps acc).1, kv ∈ acc.1 ∨ ∃ p ∈ ps, kv = (p.1, ⟨p.1, typeQN (I.cls p.2)⟩)) ∧
    (∀ kv ∈ acc.1, kv ∈ (missingLoop I ps acc).1) ∧
    (∀ x, x ∈ (missingLoop I ps acc).1.map (·.1) ↔ x ∈ acc.1.map (·.1) ∨ ∃ p ∈ ps, x = p.1) := by
  rw [missingLoop_fst]
  exact foldl_insertNew (·.1) _ ps acc.1

theorem missingLoop_trace (I : IState) (pairs : List (String × Nat)) (acc : List (String × ElemDecl) × List String)
    (x : String) (h : x ∈ acc.2) : x ∈ (missingLoop I pairs acc).2 := by
  induction pairs generalizing acc with
  | nil => exact h
  | cons p' ps ih =>
    obtain ⟨name, i⟩ := p'
    simp only [missingLoop]
    split
    · exact ih acc h
    · exact ih _ (List.mem_append_left _ h)

theorem buildSchemas_ok (e : Enum) (I : IState) (schemas : List Schema) (tr : List String)
    (h : buildSchemas F e I = .ok (schemas, tr)) :
    ∃ tiers ss tr' s0 rest, topo F e I.reprKey I.deps = .ok tiers ∧
      schemaLoop F e I (schemaState I tiers).infos = .ok (ss, tr') ∧ ss = s0 :: rest ∧
      schemas = { s0 with elements := (missingLoop I (missingPairs I)
          ((((schemaState I tiers).infos.lookup I.tns).getD ⟨[], []⟩).elements, [])).1.map (·.2) } :: rest ∧
      tr = (schemaState I tiers).trace ++ tr' ++ (missingLoop I (missingPairs I)
          ((((schemaState I tiers).infos.lookup I.tns).getD ⟨[], []⟩).elements, [])).2 := by
  unfold buildSchemas at h
  cases ht : topo F e I.reprKey I.deps with
  | fault => rw [ht] at h; cases h
  | crash x => rw [ht] at h; cases h
  | ok tiers =>
    rw [ht] at h
    simp only at h
    cases hs : schemaLoop F e I (schemaState I tiers).infos with
    | fault => rw [hs] at h; cases h
    | crash x => rw [hs] at h; cases h
    | ok r =>
      obtain ⟨ss, tr'⟩ := r
      rw [hs] at h
      simp only at h
      cases ss with
      | nil => cases h
      | cons s0 rest =>
        simp only at h
        injection h with h
        injection h with h1 h2
        exact ⟨tiers, s0 :: rest, tr', s0, rest, rfl, hs, rfl, h1.symm, h2.symm⟩

theorem nodeOf_name (c : Cls) : (nodeOf I c).name = c.tn := by
  unfold nodeOf
  cases c.kind <;> rfl

end SpyneModel.Wsdl
