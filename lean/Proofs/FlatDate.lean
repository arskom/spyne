/-
  The HTTP date of a DateTime out-header denotes the same instant as
  the value that was set (`_header_to_bytes`: aware values are converted to GMT, naive ones are
  taken as GMT). The day number of the HTTP date model is the proleptic Gregorian ordinal `toOrdinal` of the
  xs:date arithmetic (from year 1 on), so the day before and the day after come from there.
-/
import SpyneModel.FlatQs
import Proofs.Calendar
namespace SpyneModel.Flat
open SpyneModel

theorem isLeap_iff (y : Nat) : isLeap y = true ↔ (y % 4 = 0 ∧ (y % 100 ≠ 0 ∨ y % 400 = 0)) :=
  SpyneModel.isLeap_iff y

/-- the two month tables agree on every month number but 0 -/
theorem daysBeforeMonth_eq (y m : Nat) (hm : 1 ≤ m) : Flat.daysBeforeMonth y m = SpyneModel.daysBeforeMonth y m := by
  unfold Flat.daysBeforeMonth SpyneModel.daysBeforeMonth
  congr 1
  rcases Nat.lt_or_ge m 13 with h | h
  · revert hm; revert h; revert m; decide
  · obtain ⟨k, rfl⟩ : ∃ k, m = k + 13 := ⟨m - 13, by omega⟩
    simp

theorem dayNumber_eq (d : Date) (hy : 1 ≤ d.y) (hm : 1 ≤ d.m) : (dayNumber d : Int) = toOrdinal d := by
  unfold dayNumber toOrdinal daysBeforeYear
  rw [daysBeforeMonth_eq _ _ hm]
  -- with the year before named, neither side subtracts any more before it divides
  obtain ⟨k, hk⟩ : ∃ k, d.y = k + 1 := ⟨d.y - 1, by omega⟩
  rw [hk, Nat.add_sub_cancel, Int.natCast_succ, Int.add_sub_cancel]
  omega

theorem dayNumber_nextDay (d : Date) (hv : d.valid = true) : dayNumber (nextDay d) = dayNumber d + 1 := by
  obtain ⟨hw, hy⟩ := Date.valid_wf d hv
  obtain ⟨h, hw'⟩ := toOrdinal_nextDay d hw
  have hy' : 1 ≤ (SpyneModel.nextDay d).y := by
    unfold SpyneModel.nextDay; split <;> (try split) <;> simp only <;> omega
  have := dayNumber_eq _ hy' hw'.1
  have := dayNumber_eq _ hy hw.1
  show dayNumber (SpyneModel.nextDay d) = _
  omega

theorem dayNumber_prevDay (d : Date) (hv : d.valid = true) (hfirst : ¬ (d.y = 1 ∧ d.m = 1 ∧ d.d = 1)) :
    dayNumber (prevDay d) + 1 = dayNumber d := by
  obtain ⟨hw, hy⟩ := Date.valid_wf d hv
  obtain ⟨h, hw'⟩ := toOrdinal_prevDay d hw hy
  have hy' : 1 ≤ (SpyneModel.prevDay d).y := by
    have := hw.1; have := hw.2.2.1
    unfold SpyneModel.prevDay; split <;> (try split) <;> simp only <;> omega
  have := dayNumber_eq _ hy' hw'.1
  have := dayNumber_eq _ hy hw.1
  show dayNumber (SpyneModel.prevDay d) + 1 = _
  omega

/-- the value `_header_to_bytes` formats is in GMT and denotes the instant of the value that was set -/
theorem toUtc_instant (x : DateTime) (hv : x.valid = true)
    (hfirst : ¬ (x.date.y = 1 ∧ x.date.m = 1 ∧ x.date.d = 1)) :
    instantSec (toUtc x) = instantSec x ∧ (toUtc x).tz = some 0 ∧
      (toUtc x).time.h < 24 ∧ (toUtc x).time.mi < 60 ∧ (toUtc x).time.s = x.time.s := by
  simp only [DateTime.valid, Bool.and_eq_true] at hv
  obtain ⟨⟨hd, ht⟩, htz⟩ := hv
  simp only [Time.valid, Bool.and_eq_true, decide_eq_true_eq] at ht
  obtain ⟨⟨⟨hh, hmi⟩, hs⟩, _⟩ := ht
  unfold toUtc
  cases htzv : x.tz with
  | none =>
    simp [instantSec, htzv, hh, hmi]
  | some m =>
    rw [htzv] at htz
    simp only [Bool.and_eq_true, decide_eq_true_eq] at htz
    simp only
    by_cases h1 : ((x.time.h * 60 + x.time.mi : Nat) : Int) - m < 0
    · simp only [h1, if_true, instantSec, Option.getD, htzv]
      have := dayNumber_prevDay x.date hd hfirst
      refine ⟨?_, trivial, ?_, ?_, trivial⟩ <;> omega
    · by_cases h2 : ((x.time.h * 60 + x.time.mi : Nat) : Int) - m ≥ 1440
      · simp only [h1, h2, if_true, if_false, instantSec, Option.getD, htzv]
        have := dayNumber_nextDay x.date hd
        refine ⟨?_, trivial, ?_, ?_, trivial⟩ <;> omega
      · simp only [h1, h2, if_false, instantSec, Option.getD, htzv]
        refine ⟨?_, trivial, ?_, ?_, trivial⟩ <;> omega

end SpyneModel.Flat
