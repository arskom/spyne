/-
  Spellings of a document: the configured parser hands the deserialiser the tree the document denotes, and
  that tree does not depend on comments, processing instructions, CDATA sections or the way the character
  data is cut into pieces. Chunked byte values are written as their concatenation.
-/
import SpyneModel.XmlSpelling
namespace SpyneModel
namespace Xml

theorem leadTextP_eq (D : FactsDoc) (hC : D.commentsRemoved = true) (hP : D.pisRemoved = true) :
    (items : List RawItem) → leadTextP D items = leadText items
  | [] => rfl
  | .text s :: r => by simp [leadTextP, leadText, leadTextP_eq D hC hP r]
  | .cdata s :: r => by simp [leadTextP, leadText, leadTextP_eq D hC hP r]
  | .comment s :: r => by simp [leadTextP, leadText, hC, leadTextP_eq D hC hP r]
  | .pi t s :: r => by simp [leadTextP, leadText, hP, leadTextP_eq D hC hP r]
  | .child e :: r => rfl

mutual
  theorem parserView_eq_denote (D : FactsDoc) (hC : D.commentsRemoved = true) (hP : D.pisRemoved = true) :
      (r : Raw) → parserView D r = denote r
    | .elem ns name attrs items => by
      simp only [parserView, denote, leadTextP_eq D hC hP items, parserKids_eq D hC hP items]

  theorem parserKids_eq (D : FactsDoc) (hC : D.commentsRemoved = true) (hP : D.pisRemoved = true) :
      (items : List RawItem) → parserKids D items = denoteKids items
    | [] => rfl
    | .child e :: r => by simp only [parserKids, denoteKids, parserView_eq_denote D hC hP e, parserKids_eq D hC hP r]
    | .text s :: r => by simp only [parserKids, denoteKids, parserKids_eq D hC hP r]
    | .cdata s :: r => by simp only [parserKids, denoteKids, parserKids_eq D hC hP r]
    | .comment s :: r => by simp only [parserKids, denoteKids, hC, if_true, parserKids_eq D hC hP r]
    | .pi t s :: r => by simp only [parserKids, denoteKids, hP, if_true, parserKids_eq D hC hP r]
end


def isNoise : RawItem → Bool
  | .comment _ => true
  | .pi _ _ => true
  | _ => false

/-- character data is character data however it is cut and whether or not a piece is a CDATA section -/
def piece (cd : Bool) (s : Text) : RawItem := if cd then .cdata s else .text s

theorem denoteKids_append : (pre r : List RawItem) → denoteKids (pre ++ r) = denoteKids pre ++ denoteKids r
  | [], _ => rfl
  | .child e :: p, r => by simp only [List.cons_append, denoteKids, denoteKids_append p r]
  | .text _ :: p, r => by simp only [List.cons_append, denoteKids, denoteKids_append p r]
  | .cdata _ :: p, r => by simp only [List.cons_append, denoteKids, denoteKids_append p r]
  | .comment _ :: p, r => by simp only [List.cons_append, denoteKids, denoteKids_append p r]
  | .pi _ _ :: p, r => by simp only [List.cons_append, denoteKids, denoteKids_append p r]

/-- behind a prefix, the leading text sees the rest only through the rest's own leading text -/
theorem leadText_append_congr {a b : List RawItem} (h : leadText a = leadText b) :
    (pre : List RawItem) → leadText (pre ++ a) = leadText (pre ++ b)
  | [] => h
  | .child _ :: _ => rfl
  | .text _ :: p => by simp only [List.cons_append, leadText, leadText_append_congr h p]
  | .cdata _ :: p => by simp only [List.cons_append, leadText, leadText_append_congr h p]
  | .comment _ :: p => by simp only [List.cons_append, leadText, leadText_append_congr h p]
  | .pi _ _ :: p => by simp only [List.cons_append, leadText, leadText_append_congr h p]

theorem denote_congr (ns name : Text) (attrs : List (Text × Text)) (pre : List RawItem) {a b : List RawItem}
    (ht : leadText a = leadText b) (hk : denoteKids a = denoteKids b) :
    denote (.elem ns name attrs (pre ++ a)) = denote (.elem ns name attrs (pre ++ b)) := by
  simp only [denote, leadText_append_congr ht pre, denoteKids_append, hk]

/-- a comment or processing instruction anywhere among the content of an element — inside its text, between
    its children, before the first or after the last — does not change what the element denotes -/
theorem denote_insert_noise (ns name : Text) (attrs : List (Text × Text)) (pre post : List RawItem) (x : RawItem)
    (hx : isNoise x = true) :
    denote (.elem ns name attrs (pre ++ x :: post)) = denote (.elem ns name attrs (pre ++ post)) :=
  denote_congr ns name attrs pre (by cases x <;> first | exact Bool.noConfusion hx | rfl)
    (by cases x <;> first | exact Bool.noConfusion hx | simp only [denoteKids])

theorem denote_split_text (ns name : Text) (attrs : List (Text × Text)) (pre post : List RawItem) (a b : Text)
    (c1 c2 c3 : Bool) :
    denote (.elem ns name attrs (pre ++ piece c1 (a ++ b) :: post)) =
      denote (.elem ns name attrs (pre ++ piece c2 a :: piece c3 b :: post)) :=
  denote_congr ns name attrs pre
    (by cases c1 <;> cases c2 <;> cases c3 <;> simp [piece, leadText, List.append_assoc])
    (by cases c1 <;> cases c2 <;> cases c3 <;> simp [piece, denoteKids])

/-- … at any depth: respelling a child respells the parent -/
theorem denote_child_congr (ns name : Text) (attrs : List (Text × Text)) (pre post : List RawItem) (e e' : Raw)
    (h : denote e = denote e') :
    denote (.elem ns name attrs (pre ++ .child e :: post)) = denote (.elem ns name attrs (pre ++ .child e' :: post)) :=
  denote_congr ns name attrs pre rfl (by simp only [denoteKids, h])


theorem chunksText_join (F : Facts08) (D : FactsDoc) (hJ : D.bytesJoinBeforeEncode = true) (enc : BinEnc)
    (chunks : List (List Nat)) : chunksText F D enc chunks = leafToText F (.bytes enc) (.bytes chunks.flatten) := by
  unfold chunksText
  split
  · rename_i h; rw [hJ] at h; cases h
  · rfl

end Xml
end SpyneModel
