/-
  C12 proofs: what holds of every program.

  `step` of SpyneModel/Conc.lean is read once as a relation, `Eff`, that lists what an instruction can do
  (`step_eff`, `step_none`); everything else about a step — the other threads are left alone, only `storeCache`
  writes the cache, where the program counter goes — is a case distinction on `Eff`.  Proofs/Conc.lean, the
  invariant of the one handler `expectedSkeleton`, rests on these and does not open `step`.
-/
import SpyneModel.Conc
namespace SpyneModel.Conc


theorem setLoc_loc (s : State) (i : Nat) (l : Local) (j : Nat) :
    (s.setLoc i l).loc j = if j = i then l else s.loc j := rfl

theorem setLoc_self (s : State) (i : Nat) : s.setLoc i (s.loc i) = s := by
  unfold State.setLoc
  congr
  funext j
  split
  · next h => rw [h]
  · rfl

theorem run_append (c : Cfg) (p : Prog) (a b : List Nat) :
    ∀ s, run c p s (a ++ b) = run c p (run c p s a) b := by
  induction a with
  | nil => intro s; rfl
  | cons i rest ih => intro s; simp only [List.cons_append, run]; exact ih _

/-- where an exception takes a thread: to the enclosing handler, or out of the callable -/
def Local.raised (len : Nat) (l : Local) : Local :=
  match l.handler with
  | some h => { l with pc := h, handler := none }
  | none => { l with resp := some .crash, pc := len }

theorem raise_eq (p : Prog) (s : State) (i : Nat) (l : Local) : raise p s i l = s.setLoc i (l.raised p.length) := by
  unfold raise Local.raised
  cases l.handler <;> rfl

section
variable (c : Cfg) (len i : Nat) (s : State) (l : Local)

/-- `Eff c len i s l ins s₁ l'`: thread `i`, in state `l`, executes `ins`; `s₁` are the shared cells afterwards (the
    thread table is left alone) and `l'` is the thread's new state.  One constructor is one control-flow edge, so
    the conditional jumps, `acquire`, `buildBegin`, `buildPorts` and `buildPublish` have two, each with its guard
    as a hypothesis.  A proof by cases on `Eff` therefore never meets an `if` in the new `pc`; an assertion that
    is a `match` on the program counter (`At`) then costs as much to re-establish after a jump as after a straight
    step. -/
inductive Eff : Instr → State → Local → Prop
  | loadCache (r : Reg) : Eff (.loadCache r) s { l.set r s.cache with pc := l.pc + 1 }
  | loadPub (r : Reg) : Eff (.loadPub r) s { l.set r s.pub with pc := l.pc + 1 }
  | storeCache (r : Reg) : Eff (.storeCache r) { s with cache := l.get r } { l with pc := l.pc + 1 }
  | mov (d r : Reg) : Eff (.mov d r) s { l.set d (l.get r) with pc := l.pc + 1 }
  | someTaken (r : Reg) (tgt : Nat) (d : Doc) (h : l.get r = some d) : Eff (.jmpIfSome r tgt) s { l with pc := tgt }
  | someFalls (r : Reg) (tgt : Nat) (h : l.get r = none) : Eff (.jmpIfSome r tgt) s { l with pc := l.pc + 1 }
  | noneTaken (r : Reg) (tgt : Nat) (h : l.get r = none) : Eff (.jmpIfNone r tgt) s { l with pc := tgt }
  | noneFalls (r : Reg) (tgt : Nat) (d : Doc) (h : l.get r = some d) : Eff (.jmpIfNone r tgt) s { l with pc := l.pc + 1 }
  | jmp (tgt : Nat) : Eff (.jmp tgt) s { l with pc := tgt }
  | acquire (h : s.lock = none) : Eff .acquire { s with lock := some i } { l with pc := l.pc + 1 }
  | blocked (j : Nat) (h : s.lock = some j) : Eff .acquire s l
  | release : Eff .release { s with lock := none } { l with pc := l.pc + 1 }
  | beginRaises (h : c.fail s.builds = .early) :
      Eff .buildBegin { s with builds := s.builds + 1, filled := if c.resets then false else s.filled }
        (Local.raised len { l with mine := false, failing := c.fail s.builds })
  | begin (h : c.fail s.builds ≠ .early) :
      Eff .buildBegin { s with builds := s.builds + 1, filled := if c.resets then false else s.filled }
        { l with mine := false, failing := c.fail s.builds, pc := l.pc + 1 }
  | portsReused (h : s.filled = true) : Eff .buildPorts s { l with pc := l.pc + 1 }
  | ports (h : s.filled = false) : Eff .buildPorts { s with filled := true } { l with mine := true, pc := l.pc + 1 }
  | publishRaises (h : l.failing = .late) : Eff .buildPublish s (l.raised len)
  | publish (h : l.failing ≠ .late) :
      Eff .buildPublish { s with pub := some (if l.mine then .whole else .truncated), succ := s.succ + 1 }
        { l with pc := l.pc + 1 }
  | respond (r : Reg) : Eff (.respond r) s { l with resp := some (.doc (l.get r)), pc := len }
  | tryEnter (h : Nat) : Eff (.tryEnter h) s { l with handler := some h, pc := l.pc + 1 }
  | tryLeave : Eff .tryLeave s { l with handler := none, pc := l.pc + 1 }
  | respondErr : Eff .respondErr s { l with resp := some .error, pc := len }
  | reraise : Eff .reraise s { l with resp := some .crash, pc := len }
  | opaque : Eff .opaque s { l with pc := l.pc + 1 }

end


theorem step_none (c : Cfg) {p : Prog} {s : State} {i : Nat} (h : p[(s.loc i).pc]? = none) : step c p s i = s := by
  unfold step
  simp only [h]

/-- `step` is `Eff` on the instruction the thread is at -/
theorem step_eff (c : Cfg) {p : Prog} {s : State} {i : Nat} {ins : Instr} (h : p[(s.loc i).pc]? = some ins) :
    ∃ s₁ l', Eff c p.length i s (s.loc i) ins s₁ l' ∧ s₁.loc = s.loc ∧ step c p s i = s₁.setLoc i l' := by
  unfold step
  simp only [h, raise_eq]
  cases ins with
  | jmpIfSome r tgt =>
    cases hr : (s.loc i).get r with
    | none => exact ⟨_, _, .someFalls r tgt hr, rfl, by simp [hr]⟩
    | some d => exact ⟨_, _, .someTaken r tgt d hr, rfl, by simp [hr]⟩
  | jmpIfNone r tgt =>
    cases hr : (s.loc i).get r with
    | none => exact ⟨_, _, .noneTaken r tgt hr, rfl, by simp [hr]⟩
    | some d => exact ⟨_, _, .noneFalls r tgt d hr, rfl, by simp [hr]⟩
  | acquire =>
    cases hl : s.lock with
    | none => exact ⟨_, _, .acquire hl, rfl, rfl⟩
    | some j => exact ⟨_, _, .blocked j hl, rfl, (setLoc_self s i).symm⟩
  | buildBegin =>
    by_cases hf : c.fail s.builds = .early
    · exact ⟨_, _, .beginRaises hf, rfl, by simp [hf]⟩
    · exact ⟨_, _, .begin hf, rfl, by simp [hf]⟩
  | buildPorts =>
    cases hf : s.filled with
    | true => exact ⟨_, _, .portsReused hf, rfl, by simp⟩
    | false => exact ⟨_, _, .ports hf, rfl, by simp⟩
  | buildPublish =>
    by_cases hf : (s.loc i).failing = .late
    · exact ⟨_, _, .publishRaises hf, rfl, by simp [hf]⟩
    · exact ⟨_, _, .publish hf, rfl, by simp [hf]⟩
  | _ =>
    refine ⟨_, _, ?_, ?_, rfl⟩
    · constructor
    · rfl


theorem step_other (c : Cfg) (p : Prog) (s : State) (i j : Nat) (h : j ≠ i) :
    (step c p s i).loc j = s.loc j := by
  cases hins : p[(s.loc i).pc]? with
  | none => rw [step_none c hins]
  | some ins =>
    obtain ⟨s₁, l', -, hloc, hs⟩ := step_eff c hins
    rw [hs, setLoc_loc, if_neg h, hloc]

theorem step_cache (c : Cfg) (p : Prog) (s : State) (i : Nat) :
    (step c p s i).cache = s.cache ∨
      ∃ r, p[(s.loc i).pc]? = some (.storeCache r) ∧ (step c p s i).cache = (s.loc i).get r := by
  cases hins : p[(s.loc i).pc]? with
  | none => rw [step_none c hins]; exact .inl rfl
  | some ins =>
    obtain ⟨s₁, l', he, -, hs⟩ := step_eff c hins
    rw [hs]
    cases he with
    | storeCache r => exact .inr ⟨r, rfl, rfl⟩
    | _ => exact .inl rfl

/-- a fact about every instruction of a program text, `decide`d once as a statement over `p.zipIdx`, read off at
    the instruction a thread is at (`store_at`, `acquire_at`, `forward_at` of Proofs/Conc) -/
theorem Prog.all {p : Prog} {f : Nat → Instr → Bool} (h : ∀ x ∈ p.zipIdx, f x.2 x.1 = true) {pc : Nat} {ins : Instr}
    (hp : p[pc]? = some ins) : f pc ins = true :=
  h (ins, pc) (List.mem_zipIdx_iff_getElem?.2 hp)

/-- where an instruction that does not raise takes its thread: to the next one, to its jump target, or to the end of
    the program (an answer) -/
def Instr.succs (len pc : Nat) : Instr → List Nat
  | .jmpIfSome _ t | .jmpIfNone _ t => [t, pc + 1]
  | .jmp t => [t]
  | .respond _ | .respondErr | .reraise => [len]
  | _ => [pc + 1]

def Instr.raises : Instr → Bool
  | .buildBegin | .buildPublish => true
  | _ => false

theorem step_pc (c : Cfg) (p : Prog) (s : State) (i : Nat) (ins : Instr) (h : p[(s.loc i).pc]? = some ins)
    (hs : stuck p s i = false) :
    ((step c p s i).loc i).pc ∈ ins.succs p.length (s.loc i).pc ∨
      ins.raises = true ∧ ((step c p s i).loc i).pc = (s.loc i).handler.getD p.length := by
  obtain ⟨s₁, l', he, -, hst⟩ := step_eff c h
  rw [hst, setLoc_loc, if_pos rfl]
  unfold stuck at hs
  rw [h] at hs
  cases he with
  | blocked j hj => simp [hj] at hs
  | beginRaises | publishRaises =>
    refine .inr ⟨rfl, ?_⟩
    unfold Local.raised
    cases (s.loc i).handler <;> rfl
  | _ => exact .inl (by simp [Instr.succs])

theorem localRun_is_run (c : Cfg) (p : Prog) (i : Nat) (fuel : Nat) :
    ∀ s, ∃ k, localRun c p fuel s i = run c p s (List.replicate k i) := by
  induction fuel with
  | zero => intro s; exact ⟨0, rfl⟩
  | succ n ih =>
    intro s
    simp only [localRun]
    split
    · obtain ⟨k, hk⟩ := ih (step c p s i)
      exact ⟨k + 1, by rw [hk]; rfl⟩
    · exact ⟨0, rfl⟩

/-- a macro step (what one baton hand-over of the real scheduler executes) is a sequence of
    ordinary steps of the same thread -/
theorem macroStep_is_run (c : Cfg) (p : Prog) (s : State) (i : Nat) :
    ∃ l, macroStep c p s i = run c p s l := by
  unfold macroStep
  obtain ⟨k1, h1⟩ := localRun_is_run c p i p.length s
  obtain ⟨k2, h2⟩ := localRun_is_run c p i p.length (step c p (localRun c p p.length s i) i)
  refine ⟨List.replicate k1 i ++ ([i] ++ List.replicate k2 i), ?_⟩
  rw [h2, h1, run_append, run_append]
  rfl

theorem runMacro_is_run (c : Cfg) (p : Prog) (sched : List Nat) :
    ∀ s, ∃ l, runMacro c p s sched = run c p s l := by
  induction sched with
  | nil => intro s; exact ⟨[], rfl⟩
  | cons i rest ih =>
    intro s
    obtain ⟨l1, h1⟩ := macroStep_is_run c p s i
    obtain ⟨l2, h2⟩ := ih (macroStep c p s i)
    exact ⟨l1 ++ l2, by simp only [runMacro]; rw [h2, h1, run_append]⟩

end SpyneModel.Conc
