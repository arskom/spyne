/-
  C10 / C04 for whole dict documents: for EVERY document, `_from_dict_value` / `_doc_to_object` do not let an
  exception escape (any validator), and under soft validation the result is a value of the declared type
  (`hasTyOne`: None, the declared primitive kind, an instance of the declared class or of a registered subclass
  with that class's members, lists of such): the invariant `safeInv` of the decoders (`HierInv`), with the member
  slots `accOk`. General in `F`, `G`.
-/
import Proofs.HierSafeLeaf
namespace SpyneModel.Hier
open SpyneModel
variable {F : Facts08} {G : Facts02} {cfg : Cfg}

variable (R : Registry)

/-- the clause of `hasTyFields` for one member value (`hasTyFields_cons_eq`) -/
def slotOk (t : Ty) (v : Val) : Bool :=
  match v with
  | .none => true
  | .list vs => if t.occ.repeated then hasTyItems R t vs else hasTyOne R t (.list vs)
  | v => !t.occ.repeated && hasTyOne R t v

/-- `hasTyFields` on the slots of an instance under construction: the names in declaration order, every value `slotOk`;
    the occurrence counts are not looked at -/
def accOk : Fields → Acc → Bool
  | (n, t) :: fs, (m, v, _) :: ss => decide (n = m) && slotOk R t v && accOk fs ss
  | [], [] => true
  | _, _ => false

theorem accOk_init (fs : Fields) : accOk R fs (initAcc fs) = true := by
  induction fs with
  | nil => rfl
  | cons nt fs ih => simpa only [initAcc, List.map_cons, accOk, slotOk, decide_true, Bool.true_and] using ih

theorem hasTyFields_cons_eq (n m : Text) (t : Ty) (v : Val) (fs : Fields) (fvs : List (Text × Val)) :
    hasTyFields R ((n, t) :: fs) ((m, v) :: fvs) = (decide (n = m) && slotOk R t v && hasTyFields R fs fvs) := by
  rw [hasTyFields.eq_def]
  cases v <;> rfl

theorem hasTyFields_of_accOk : ∀ (fs : Fields) (a : Acc), accOk R fs a = true →
    hasTyFields R fs (a.map (fun s => (s.1, s.2.1))) = true
  | [], [], _ => by simp [hasTyFields]
  | [], _ :: _, h => by simp [accOk] at h
  | _ :: _, [], h => by simp [accOk] at h
  | (n, t) :: fs, (m, v, c) :: ss, h => by
    simp only [accOk, Bool.and_eq_true] at h
    simp only [List.map_cons, hasTyFields_cons_eq, h.1.1, h.1.2, hasTyFields_of_accOk fs ss h.2, Bool.and_self]

theorem accOk_putSlot : ∀ (fs : Fields) (a : Acc) (n : Text) (t : Ty) (f : Val → Val) (k : Nat),
    accOk R fs a = true → lookupField fs n = some t → (∀ old, slotOk R t old = true → slotOk R t (f old) = true) →
    accOk R fs (putSlot a n f k) = true := by
  intro fs
  induction fs with
  | nil => intro a n t f k _ hl; simp [lookupField] at hl
  | cons nt fs ih =>
    obtain ⟨m, u⟩ := nt
    intro a n t f k h hl hf
    cases a with
    | nil => simp [accOk] at h
    | cons s ss =>
      obtain ⟨m', v, c⟩ := s
      simp only [accOk, Bool.and_eq_true, decide_eq_true_eq] at h
      obtain ⟨⟨rfl, hs⟩, hr⟩ := h
      simp only [lookupField] at hl
      by_cases hmn : m = n
      · subst hmn
        simp only [if_true, Option.some.injEq] at hl
        subst hl
        simp [putSlot, accOk, hf v hs, hr]
      · simp only [hmn, if_false] at hl
        simp [putSlot, hmn, accOk, hs, ih ss n t f k hr hl hf]

theorem hasTyItems_eq_all (t : Ty) (vs : List Val) : hasTyItems R t vs = vs.all (hasTyOne R t) :=
  all_of_rec (by rw [hasTyItems]) (fun _ _ => by rw [hasTyItems]) vs

theorem hasTyItems_iff (t : Ty) (vs : List Val) : hasTyItems R t vs = true ↔ ∀ v ∈ vs, hasTyOne R t v = true := by
  rw [hasTyItems_eq_all, List.all_eq_true]

theorem hasTyItems_append (t : Ty) (a b : List Val) :
    hasTyItems R t (a ++ b) = (hasTyItems R t a && hasTyItems R t b) := by
  simp only [hasTyItems_eq_all, List.all_append]

theorem slotOk_single (t : Ty) (x : Val) (hr : t.occ.repeated = false) (h : hasTyOne R t x = true) :
    slotOk R t x = true := by
  cases x <;> simp [slotOk, hr, h]

theorem slotOk_items (t : Ty) (old : Val) (vs : List Val) (hr : t.occ.repeated = true)
    (ho : slotOk R t old = true) (h : hasTyItems R t vs = true) :
    slotOk R t (.list (oldItems old ++ vs)) = true := by
  simp only [slotOk, hr, if_true, hasTyItems_append, h, Bool.and_true]
  cases old <;> simp [oldItems, hasTyItems, slotOk, hr] at ho ⊢
  exact ho

/-- what `wfTy` demands of the members of a declared class, for every class a wrapper key can select instead -/
def regWf (R : Registry) : Prop :=
  ∀ cd ∈ R, namesDistinct (cd.fields.map (·.1)) = true ∧ wfFields cd.fields = true

/-- what `_doc_to_object` builds for class `cls` with members `fs` -/
def IsInst (cls : Text) (fs : Fields) (v : Val) : Prop :=
  ∃ vals, v = .obj cls vals ∧ hasTyFields R fs vals = true

theorem finish_safe (cls : Text) (fs : Fields) (a : Acc) (h : cfg.soft = true → accOk R fs a = true) :
    Safe cfg (IsInst R cls fs) (finish cfg cls fs a) := by
  unfold finish
  split
  · exact Safe.fault'
  · exact Safe.good (fun hs => ⟨_, rfl, hasTyFields_of_accOk R fs a (h hs)⟩)

theorem hasTyOne_prim (p : PrimTy) (o : Occ) (v : Val) (h : v = .none ∨ p.kindOk v = true) :
    hasTyOne R (.prim p o) v = true := by
  rcases h with rfl | h
  · simp [hasTyOne]
  · cases v <;> first | (simp [hasTyOne]; done) | (simpa [hasTyOne] using h) | cases PrimTy.isLeaf_of_kindOk h

theorem hasTyOne_inst (name ns : Text) (b : Option Text) (fs : Fields) (o : Occ) (cf : Text × Fields)
    (hc : ClassOk R name fs cf) (v : Val) (hv : IsInst R cf.1 cf.2 v) :
    hasTyOne R (.obj name ns b fs o) v = true := by
  obtain ⟨vals, rfl, hvals⟩ := hv
  rcases hc with ⟨h1, h2⟩ | ⟨hne, hsub, cd, hfind, _, hf⟩
  · rw [h1] ; rw [h2] at hvals; simp [hasTyOne, hvals]
  · rw [hf] at hvals
    simp [hasTyOne, hne, hsub, hfind, hvals]

/-- C04 / C10 as an invariant of the decoders: values of the declared type -/
def safeInv (L : LeafLaws F) (hG : G.Good) (hR : regWf R) : DecInv F G cfg R where
  T t := wfTy t = true
  P t v := hasTyOne R t v = true
  A fs a := accOk R fs a = true
  I := IsInst R
  T_arr := wfTy_arr
  T_obj h := ⟨(wfTy_obj h).1, (wfFields_iff _).1 (wfTy_obj h).2⟩
  prim p o d := (primIn_safe L hG p o d).mono (hasTyOne_prim R p o)
  none t _ _ := by cases t <;> simp [hasTyOne]
  arr hl := by simpa [hasTyOne] using (hasTyItems_iff R _ _).2 hl
  sub hT h := by
    have hc := resolveClass_good h
    refine ⟨?_, hasTyOne_inst R _ _ _ _ _ _ hc⟩
    rcases hc with ⟨_, h2⟩ | ⟨_, _, cd, _, hmem, hf⟩
    · rw [h2]; exact ⟨(wfTy_obj hT).1, (wfFields_iff _).1 (wfTy_obj hT).2⟩
    · rw [hf]; exact ⟨(hR cd hmem).1, (wfFields_iff _).1 (hR cd hmem).2⟩
  init := accOk_init R
  put ha hl hr hx := accOk_putSlot R _ _ _ _ _ _ ha hl (fun _ _ => slotOk_single R _ _ hr hx)
  putItems ha hl hr hx :=
    accOk_putSlot R _ _ _ _ _ _ ha hl (fun old ho => slotOk_items R _ old _ hr ho ((hasTyItems_iff R _ _).2 hx))
  finish _ h := finish_safe R _ _ _ h

theorem decode_safe (L : LeafLaws F) (hG : G.Good) (hR : regWf R) : ∀ (d : Doc) (t : Ty), wfTy t = true →
    Safe cfg (fun v => hasTyOne R t v = true) (decode F G cfg R t d) :=
  decode_inv (safeInv R L hG hR) hG

theorem decodeWrapped_safe (L : LeafLaws F) (hG : G.Good) (hR : regWf R) : ∀ (kvs : List (Key × Doc)) (n ns : Text) (b : Option Text) (fields : Fields) (o : Occ),
    wfTy (.obj n ns b fields o) = true →
    Safe cfg (fun v => hasTyOne R (.obj n ns b fields o) v = true) (decodeWrapped F G cfg R n fields o kvs) :=
  decodeWrapped_inv (safeInv R L hG hR) hG

theorem decodeBody_safe (L : LeafLaws F) (hG : G.Good) (hR : regWf R) : ∀ (d : Doc) (cls : Text) (fs : Fields),
    namesDistinct (fs.map (·.1)) = true → wfFields fs = true →
    Safe cfg (IsInst R cls fs) (decodeBody F G cfg R cls fs d) :=
  fun d cls fs hd hwf => decodeBody_inv (safeInv R L hG hR) hG d cls fs hd ((wfFields_iff fs).1 hwf)

theorem decodeItems_safe (L : LeafLaws F) (hG : G.Good) (hR : regWf R) : ∀ (ds : List Doc) (t : Ty), wfTy t = true →
    Safe cfg (fun l => hasTyItems R t l = true) (decodeItems F G cfg R t ds) :=
  fun ds t hwf => (decodeItems_inv (safeInv R L hG hR) hG ds t hwf).mono (fun l => (hasTyItems_iff R t l).2)

theorem decodeKvs_safe (L : LeafLaws F) (hG : G.Good) (hR : regWf R) : ∀ (kvs : List (Key × Doc)) (fs : Fields) (a : Acc), wfFields fs = true →
    (cfg.soft = true → accOk R fs a = true) →
    Safe cfg (fun a' => accOk R fs a' = true) (decodeKvs F G cfg R fs kvs a) :=
  fun kvs fs a hwf => decodeKvs_inv (safeInv R L hG hR) hG kvs fs a ((wfFields_iff fs).1 hwf)

theorem decodePos_safe (L : LeafLaws F) (hG : G.Good) (hR : regWf R) : ∀ (ds : List Doc) (all pre fs : Fields) (a : Acc), all = pre ++ fs →
    namesDistinct (all.map (·.1)) = true → wfFields fs = true → (cfg.soft = true → accOk R all a = true) →
    Safe cfg (fun a' => accOk R all a' = true) (decodePos F G cfg R all fs ds a) :=
  fun ds all _ fs a hall hnd hwf =>
    decodePos_inv (safeInv R L hG hR) hG ds all fs a (lookupField_of_mem hall hnd) ((wfFields_iff fs).1 hwf)

/-- C10 / C04 for a whole request: no exception escapes; under soft validation the user function is called with
    an argument tuple of the declared types -/
theorem decodeRequest_safe (L : LeafLaws F) (hG : G.Good) (hbody : G.missingBodyFault = true) (hR : regWf R)
    (name ns : Text) (base : Option Text) (fields : Fields) (o : Occ)
    (hwf : wfTy (.obj name ns base fields o) = true) (d : Doc) :
    Safe cfg (fun v => hasTyOne R (.obj name ns base fields o) v = true ∨ v = .obj name [])
      (decodeRequest F G cfg R (.obj name ns base fields o) d) :=
  decodeRequest_of_decode hG hbody R name ns base fields o _ (fun d => decode_safe R L hG hR d _ hwf) d

theorem createInDocument_safe (hparse : G.parseErrorsFault = true) (p : Parsed) : Safe cfg (fun (_ : Doc) => True) (createInDocument G p) := by
  cases p <;> simp only [createInDocument]
  · exact Safe.good (fun _ => trivial)
  · exact Safe.fault'
  · simp only [hparse, if_true]; exact Safe.fault'

theorem rpcCheck_safe (hparse : G.parseErrorsFault = true) (name : Text) (t m params : Doc) :
    Safe cfg (fun (_ : Doc) => True) (rpcCheck G name t m params) := by
  unfold rpcCheck
  simp only [hparse, if_true]
  split
  · exact Safe.fault'
  · split
    · split <;> exact Safe.fault'
    · cases m <;> simp only [] <;> first | exact Safe.fault' | skip
      case str s => split <;> first | exact Safe.good (fun _ => trivial) | exact Safe.fault'
      case bytes bs =>
        split
        · split <;> first | exact Safe.good (fun _ => trivial) | exact Safe.fault'
        · exact Safe.fault'

theorem rpcParams_safe (hparse : G.parseErrorsFault = true) (name : Text) (d : Doc) :
    Safe cfg (fun (_ : Doc) => True) (rpcParams G name d) := by
  unfold rpcParams
  split <;> first | exact rpcCheck_safe hparse name _ _ _ | exact Safe.fault'

/-- C10 for the whole input side: whatever the parser makes of the request bytes — a document of any shape, its
    documented decode error or any other exception — the server ends in a call or a client fault -/
theorem serverRun_safe (L : LeafLaws F) (hG : G.Good) (hbody : G.missingBodyFault = true)
    (hparse : G.parseErrorsFault = true) (hR : regWf R)
    (name ns : Text) (base : Option Text) (fields : Fields) (o : Occ)
    (hwf : wfTy (.obj name ns base fields o) = true) (p : Parsed) :
    Safe cfg (fun v => hasTyOne R (.obj name ns base fields o) v = true ∨ v = .obj name [])
      (serverRun F G cfg R (.obj name ns base fields o) p) := by
  unfold serverRun
  apply Safe.bind (createInDocument_safe hparse p)
  intro d _
  cases hp : cfg.proto <;> simp only []
  case msgpackRpc =>
    apply Safe.bind (rpcParams_safe hparse name d)
    intro params _
    exact decodeRequest_safe R L hG hbody hR name ns base fields o hwf params
  all_goals exact decodeRequest_safe R L hG hbody hR name ns base fields o hwf d

end SpyneModel.Hier
