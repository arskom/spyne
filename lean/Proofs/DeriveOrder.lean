/-
  C15 proofs: field order (ordered dict, flat type info, class statement) and deep snapshots.
-/
import SpyneModel.DeriveApply
namespace SpyneModel.Derive
variable (F : Facts15)

theorem keysOf_odictSet {β : Type} (d : List (String × β)) (k : String) (v : β) :
    keysOf (odictSet d k v) = if k ∈ keysOf d then keysOf d else keysOf d ++ [k] := by
  induction d with
  | nil => simp [odictSet, keysOf]
  | cons p rest ih =>
    simp only [odictSet]
    by_cases he : (p.1 == k) = true
    · have : p.1 = k := by simpa using he
      simp [keysOf, this]
    · have hne : ¬ p.1 = k := by simpa using he
      have hne' : ¬ k = p.1 := fun x => hne x.symm
      simp only [he, Bool.false_eq_true, if_false, keysOf, List.map_cons, List.mem_cons, hne', false_or] at ih ⊢
      rw [ih]
      by_cases hm : k ∈ List.map (fun x => x.1) rest
      · simp [hm]
      · simp [hm]

theorem keysOf_odictErase {β : Type} (d : List (String × β)) (k : String) :
    keysOf (odictErase d k) = (keysOf d).filter (fun x => !(x == k)) := by
  simp [odictErase, keysOf, List.filter_map, Function.comp_def]

theorem keysOf_listInsertAt {β : Type} (d : List (String × β)) (i : Nat) (k : String) (v : β) :
    keysOf (listInsertAt d i (k, v)) = listInsertAt (keysOf d) i k := by
  induction d generalizing i with
  | nil => cases i <;> simp [listInsertAt, keysOf]
  | cons p rest ih =>
    cases i with
    | zero => simp [listInsertAt, keysOf]
    | succ i => simp only [listInsertAt, keysOf, List.map_cons] at ih ⊢; rw [ih]

/-- `insert_field(i, k, ...)`: the key is taken out if present and put at position `i` (clipped) -/
theorem keysOf_odictInsert {β : Type} (d : List (String × β)) (i : Nat) (k : String) (v : β) :
    keysOf (odictInsert d i k v) = listInsertAt ((keysOf d).filter (fun x => !(x == k))) i k := by
  unfold odictInsert
  rw [keysOf_listInsertAt, keysOf_odictErase]

theorem mem_keys_odictSet {β : Type} (d : List (String × β)) (k : String) (v : β) : k ∈ keysOf (odictSet d k v) := by
  rw [keysOf_odictSet]
  split
  · assumption
  · exact List.mem_append_right _ List.mem_cons_self

theorem mem_listInsertAt {β : Type} (l : List β) (i : Nat) (x : β) : x ∈ listInsertAt l i x := by
  induction l generalizing i with
  | nil => cases i <;> simp [listInsertAt]
  | cons y l ih =>
    cases i with
    | zero => simp [listInsertAt]
    | succ i => simp only [listInsertAt, List.mem_cons]; right; exact ih i

theorem mem_keys_odictInsert {β : Type} (d : List (String × β)) (i : Nat) (k : String) (v : β) :
    k ∈ keysOf (odictInsert d i k v) := by
  rw [keysOf_odictInsert]
  exact mem_listInsertAt _ _ _

theorem foldl_odictSet_keys {β : Type} (l : List (String × β)) :
    ∀ acc : List (String × β), keysOf (l.foldl (fun a p => odictSet a p.1 p.2) acc) = mergeKeys (keysOf acc) (keysOf l) := by
  induction l with
  | nil => intro acc; simp [mergeKeys, keysOf]
  | cons p rest ih =>
    intro acc
    simp only [List.foldl_cons, keysOf, List.map_cons, mergeKeys] at ih ⊢
    rw [ih]
    congr 1
    have := keysOf_odictSet acc p.1 p.2
    simp only [keysOf] at this
    rw [this]
    by_cases hm : p.1 ∈ List.map (fun x => x.1) acc
    · simp [hm]
    · simp [hm]

theorem mergeKeys_nodup (ks : List String) :
    ∀ base : List String, ks.Nodup → mergeKeys base ks = base ++ ks.filter (fun k => !base.contains k) := by
  induction ks with
  | nil => intro base _; simp [mergeKeys]
  | cons k ks ih =>
    intro base hn
    have hk : k ∉ ks := (List.nodup_cons.mp hn).1
    have hn' : ks.Nodup := (List.nodup_cons.mp hn).2
    simp only [mergeKeys, List.foldl_cons] at ih ⊢
    by_cases hc : base.contains k = true
    · simp only [hc, if_true]
      rw [ih base hn']
      simp only [List.filter_cons, hc, Bool.not_true, Bool.false_eq_true, if_false]
    · simp only [hc, Bool.false_eq_true, if_false]
      rw [ih (base ++ [k]) hn']
      have : ks.filter (fun x => !(base ++ [k]).contains x) = ks.filter (fun x => !base.contains x) := by
        apply List.filter_congr
        intro x hx
        have : x ≠ k := fun e => hk (e ▸ hx)
        simp [this]
      rw [this]
      have hc' : base.contains k = false := by simpa using hc
      simp only [List.filter_cons, hc', Bool.not_false, if_true, List.append_assoc, List.singleton_append]

theorem mergeKeys_prefix (ks : List String) : ∀ base : List String, base <+: mergeKeys base ks := by
  induction ks with
  | nil => intro base; simp [mergeKeys]
  | cons k ks ih =>
    intro base
    simp only [mergeKeys, List.foldl_cons] at ih ⊢
    split
    · exact ih base
    · exact List.IsPrefix.trans (List.prefix_append base [k]) (ih (base ++ [k]))

/-- a class statement with distinct names: `_type_info` lists them as written -/
theorem keysOf_odictFromList {β : Type} (l : List (String × β)) (hn : (keysOf l).Nodup) :
    keysOf (odictFromList l) = keysOf l := by
  unfold odictFromList
  rw [foldl_odictSet_keys, mergeKeys_nodup _ _ hn]
  simp [keysOf]

theorem listInsertAt_zero {β : Type} (l : List β) (x : β) : listInsertAt l 0 x = x :: l := by
  cases l <;> rfl

/-- mixin fields first, in their order, then the declared fields the mixins do not have -/
theorem keysOf_prepend (mf d : List (String × Nat)) (hn : (keysOf mf).Nodup) :
    keysOf (mf.reverse.foldl (fun (acc : List (String × Nat)) (p : String × Nat) => odictInsert acc 0 p.1 p.2) d)
      = keysOf mf ++ (keysOf d).filter (fun k => !(keysOf mf).contains k) := by
  rw [List.foldl_reverse]
  induction mf with
  | nil =>
    simp only [keysOf, List.map_nil, List.foldr_nil, List.nil_append, List.contains_nil, Bool.not_false]
    exact (List.filter_eq_self.mpr (fun _ _ => rfl)).symm
  | cons p rest ih =>
    have hp : p.1 ∉ keysOf rest := (List.nodup_cons.mp hn).1
    have hr : (keysOf rest).Nodup := (List.nodup_cons.mp hn).2
    simp only [List.foldr_cons]
    rw [keysOf_odictInsert, listInsertAt_zero, ih hr]
    simp only [keysOf, List.map_cons, List.cons_append, List.cons.injEq, true_and, List.filter_append]
    congr 1
    · apply List.filter_eq_self.mpr
      intro x hx
      have : x ≠ p.1 := fun e => hp (by simpa [keysOf, e] using hx)
      simp [this]
    · rw [List.filter_filter]
      apply List.filter_congr
      intro x _
      by_cases e : x = p.1 <;> simp [e]

/-- with ordered class namespaces the enumeration of an unordered container plays no part -/
theorem declaredFields_ordered {β : Type} (F : Facts15) (hF : F.dictOrdered = true) (perm : List Nat)
    (fields : List (String × β)) : declaredFields F perm fields = odictFromList fields := by
  simp [declaredFields, hF]

theorem kwLookup_odictErase (l : Kw) (k : String) : kwLookup (odictErase l k) k = none := by
  simp [kwLookup, odictErase, List.find?_eq_none]

theorem flatKeysF_succ (fuel : Nat) (h : Heap) (c : Nat) (cl : Cls) (hc : h.cls[c]? = some cl) :
    flatKeysF (fuel + 1) h c
      = mergeKeys (match cl.ext with | some e => flatKeysF fuel h e | none => []) (keysOf cl.fields) := by
  simp only [flatKeysF, hc]
  rfl

/-- the classes a shallow observation refers to -/
def succs (o : Obs1) : List Nat :=
  o.fields.map (·.2) ++ o.ext.toList ++ o.orig.toList ++ o.target.toList ++ o.subs.getD []

theorem obs1_some (h : Heap) (c : Nat) (o : Obs1) (ho : obs1 F h c = some o) :
    ∃ cl, h.cls[c]? = some cl ∧ o.fields = cl.fields ∧ o.ext = cl.ext ∧ o.tn = cl.tn := by
  unfold obs1 at ho
  cases hc : h.cls[c]? with
  | none => simp [hc] at ho
  | some cl =>
    simp only [hc, Option.some.injEq] at ho
    subst ho
    exact ⟨cl, rfl, rfl, rfl, rfl⟩

theorem obs1_none (h : Heap) (c : Nat) (ho : obs1 F h c = none) : h.cls[c]? = none := by
  unfold obs1 at ho
  cases hc : h.cls[c]? with
  | none => rfl
  | some cl => simp [hc] at ho

theorem flatKeysF_congr (h h' : Heap) (S : Nat → Prop)
    (hs : ∀ x, S x → obs1 F h' x = obs1 F h x)
    (hclosed : ∀ x o, S x → obs1 F h x = some o → ∀ y, y ∈ succs o → S y) :
    ∀ fuel c, S c → flatKeysF fuel h' c = flatKeysF fuel h c := by
  intro fuel
  induction fuel with
  | zero => intro c _; rfl
  | succ fuel ih =>
    intro c hc
    have ho' := hs c hc
    cases ho : obs1 F h c with
    | none =>
      rw [ho] at ho'
      simp only [flatKeysF, obs1_none F h c ho, obs1_none F h' c ho']
    | some o =>
      rw [ho] at ho'
      obtain ⟨cl, h1, hf, he, _⟩ := obs1_some F h c o ho
      obtain ⟨cl', h2, hf', he', _⟩ := obs1_some F h' c o ho'
      simp only [flatKeysF, h1, h2, ← hf, ← hf', ← he, ← he']
      cases hext : o.ext with
      | none => rfl
      | some e =>
        simp only
        rw [ih e (hclosed c o hc ho e (by simp [succs, hext]))]

theorem tnOf_congr (h h' : Heap) (r : Nat) (ho : obs1 F h' r = obs1 F h r) : tnOf h' r = tnOf h r := by
  unfold tnOf
  cases hr : obs1 F h r with
  | none =>
    rw [hr] at ho
    simp [obs1_none F h r hr, obs1_none F h' r ho]
  | some o =>
    rw [hr] at ho
    obtain ⟨cl, h1, _, _, ht⟩ := obs1_some F h r o hr
    obtain ⟨cl', h2, _, _, ht'⟩ := obs1_some F h' r o ho
    simp [h1, h2, ← ht, ← ht']

theorem obsRefs_sub (o : Obs1) : ∀ p, p ∈ obsRefs o → p.2 ∈ succs o := by
  intro p hp
  unfold obsRefs at hp
  split at hp
  · rename_i t _ ht
    simp only [List.mem_singleton] at hp
    subst hp
    simp [succs, ht]
  · simp only [succs, List.mem_append, List.mem_map]
    left; left; left; left; exact ⟨p, hp, rfl⟩

/-- DEEP FRAME: the deep snapshot of a model is unchanged when the shallow observation of every model it
    (transitively) refers to is unchanged -/
theorem deepObs_congr (h h' : Heap) (S : Nat → Prop)
    (hs : ∀ x, S x → obs1 F h' x = obs1 F h x)
    (hclosed : ∀ x o, S x → obs1 F h x = some o → ∀ y, y ∈ succs o → S y) :
    ∀ fuel c, S c → deepObs F fuel h' c = deepObs F fuel h c := by
  intro fuel
  induction fuel with
  | zero => intro c _; rfl
  | succ fuel ih =>
    intro c hc
    simp only [deepObs]
    rw [hs c hc]
    cases ho : obs1 F h c with
    | none => rfl
    | some o =>
      simp only
      have hcl := hclosed c o hc ho
      have htn : ∀ r, r ∈ succs o → tnOf h' r = tnOf h r := fun r hr => tnOf_congr F h h' r (hs r (hcl r hr))
      have hdeep : ∀ y, y ∈ succs o → deepObs F fuel h' y = deepObs F fuel h y := fun y hy => ih y (hcl y hy)
      rw [flatKeysF_congr F h h' S hs hclosed (fuel + 1) c hc,
        Option.map_congr (g := tnOf h) (fun r hor => htn r (by simp [succs, hor])),
        Option.map_congr (g := fun e => deepObs F fuel h e) (fun e he => hdeep e (by simp [succs, he])),
        List.map_congr_left (g := fun p : String × Nat => (p.1, deepObs F fuel h p.2))
          (fun p hp => by rw [hdeep p.2 (obsRefs_sub o p hp)]),
        Option.map_congr (g := fun l : List Nat => l.map (tnOf h)) (fun l hsb =>
          List.map_congr_left (fun r hr => htn r (by simp [succs, hsb, hr])))]

end SpyneModel.Derive
