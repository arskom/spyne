/-
  The memo of `get_flat_type_info` is invisible as long as the class tree does not change: using a class
  fills the memo with what would be computed anyway.
-/
import SpyneModel.XmlHistory
namespace SpyneModel
namespace Xml

theorem TreeState.use_flatInfo (s : TreeState) (c d : Text) : (s.use c).flatInfo d = s.flatInfo d := by
  unfold TreeState.use
  cases hc : s.memo.lookup c with
  | some l => rfl
  | none =>
    simp only [TreeState.flatInfo, List.lookup, TreeState.fresh]
    cases hb : (d == c) with
    | true => rw [beq_iff_eq.mp hb, hc]
    | false => rfl

end Xml
end SpyneModel
