/-
  xs:base64Binary literals denote byte strings; which encoding a ByteArray is written and read with.
-/
import SpyneModel.Prim2
import Proofs.Binary
namespace SpyneModel
open Base64

theorem b64_literal_denotes : ∀ (t : Text), xsdBase64Binary t = true →
    ∃ bs, b64dec false t = some bs ∧ bytesOk bs ∧ b64enc false bs = t := by
  intro t
  fun_induction xsdBase64Binary t with
  | case1 => intro _; exact ⟨[], by simp [b64dec], by simp [bytesOk], by simp [b64enc]⟩
  | case2 c1 c2 =>
    intro h
    simp only [Bool.and_eq_true] at h
    obtain ⟨v1, e1⟩ := Option.isSome_iff_exists.1 h.1
    cases e2 : b64Val? false c2 with
    | none => simp [e2] at h
    | some v2 =>
      have h2 := h.2
      simp [e2] at h2
      obtain ⟨l1, r1⟩ := b64Char_b64Val false c1 v1 e1
      obtain ⟨l2, r2⟩ := b64Char_b64Val false c2 v2 e2
      obtain ⟨o1, -, -⟩ := octets_lt (v3 := 0) (v4 := 0) l1 l2 (by decide) (by decide)
      obtain ⟨a1, a2, -, -⟩ := sextets_octets (v1 := v1) (v3 := 0) (v4 := 0) l2 (by decide) (by decide)
      simp only [h2, Nat.zero_div, Nat.zero_mul, Nat.add_zero] at a2
      refine ⟨[v1 * 4 + v2 / 16], by simp [b64dec, e1, e2], by simp [bytesOk, o1], ?_⟩
      simp only [b64enc, a1, a2, r1, r2]
  | case3 c1 c2 c3 hne =>
    intro h
    simp only [Bool.and_eq_true] at h
    obtain ⟨v1, e1⟩ := Option.isSome_iff_exists.1 h.1.1
    obtain ⟨v2, e2⟩ := Option.isSome_iff_exists.1 h.1.2
    cases e3 : b64Val? false c3 with
    | none => simp [e3] at h
    | some v3 =>
      have h3 := h.2
      simp [e3] at h3
      obtain ⟨l1, r1⟩ := b64Char_b64Val false c1 v1 e1
      obtain ⟨l2, r2⟩ := b64Char_b64Val false c2 v2 e2
      obtain ⟨l3, r3⟩ := b64Char_b64Val false c3 v3 e3
      obtain ⟨o1, o2, -⟩ := octets_lt (v4 := 0) l1 l2 l3 (by decide)
      obtain ⟨a1, a2, a3, -⟩ := sextets_octets (v1 := v1) (v4 := 0) l2 l3 (by decide)
      refine ⟨[v1 * 4 + v2 / 16, v2 % 16 * 16 + v3 / 4], ?_, by simp [bytesOk, o1, o2], ?_⟩
      · rw [b64dec]
        · simp [e1, e2, e3]
        · exact ne_pad_of_val e3
      · simp only [h3, Nat.zero_div, Nat.zero_mul, Nat.add_zero] at a3
        simp only [b64enc, a1, a2, a3, r1, r2, r3]
  | case4 c1 c2 c3 c4 r hn1 hn2 ih =>
    intro h
    simp only [Bool.and_eq_true] at h
    obtain ⟨⟨⟨⟨h1, h2⟩, h3⟩, h4⟩, h5⟩ := h
    obtain ⟨bs, hd, hok, he⟩ := ih h5
    obtain ⟨v1, e1⟩ := Option.isSome_iff_exists.1 h1
    obtain ⟨v2, e2⟩ := Option.isSome_iff_exists.1 h2
    obtain ⟨v3, e3⟩ := Option.isSome_iff_exists.1 h3
    obtain ⟨v4, e4⟩ := Option.isSome_iff_exists.1 h4
    obtain ⟨l1, r1⟩ := b64Char_b64Val false c1 v1 e1
    obtain ⟨l2, r2⟩ := b64Char_b64Val false c2 v2 e2
    obtain ⟨l3, r3⟩ := b64Char_b64Val false c3 v3 e3
    obtain ⟨l4, r4⟩ := b64Char_b64Val false c4 v4 e4
    obtain ⟨o1, o2, o3⟩ := octets_lt l1 l2 l3 l4
    obtain ⟨a1, a2, a3, a4⟩ := sextets_octets (v1 := v1) l2 l3 l4
    refine ⟨_, by rw [b64dec_group r e1 e2 e3 e4, hd]; rfl, ?_, ?_⟩
    · simp only [bytesOk_cons, hok, and_true, o1, o2, o3]
    · simp only [b64enc, a1, a2, a3, a4, r1, r2, r3, r4, he]
  | case5 t hn1 hn2 hn3 hn4 => intro h; cases h

theorem dropXmlSpace_idem (s : Text) : dropXmlSpace (dropXmlSpace s) = dropXmlSpace s := by
  simp [dropXmlSpace, List.filter_filter]

theorem decodeWith_encodeWith (e : BaEnc) (bs : List Nat) (h : bytesOk bs) : decodeWith e (encodeWith e bs) = some bs := by
  cases e
  · exact hexdec_hexenc bs h
  · exact b64dec_b64enc false bs h
  · exact b64dec_b64enc true bs h

theorem advertisedLex_encodeWith (e : BaEnc) (bs : List Nat) (h : bytesOk bs) : advertisedLex e (encodeWith e bs) = true := by
  cases e
  · exact xsdHexBinary_hexenc bs h
  · exact xsdBase64Binary_b64enc bs h
  · rfl

/-- a ByteArray that declares its encoding is written in it whatever the protocol suggests, the text is a literal
    of the schema type that encoding advertises, and the same protocol reads it back -/
theorem byteArray_declared (F : Facts08x) (hF : F.declaredBeatsSuggested = true) (e : BaEnc)
    (suggested protoDefault : Option BaEnc) (bs : List Nat) (h : bytesOk bs) :
    byteArrayToTextP F (some e) suggested protoDefault bs = some (encodeWith e bs) ∧
    advertisedLex e (encodeWith e bs) = true ∧
    byteArrayFromTextP (some e) suggested (encodeWith e bs) = some bs := by
  refine ⟨by simp [byteArrayToTextP, pickWriteEncoding, hF], advertisedLex_encodeWith e bs h, ?_⟩
  simp [byteArrayFromTextP, pickReadEncoding, decodeWith_encodeWith e bs h]

/-- an undeclared ByteArray is written and read with the protocol's suggestion -/
theorem byteArray_suggested (F : Facts08x) (e : BaEnc) (protoDefault : Option BaEnc) (bs : List Nat) (h : bytesOk bs) :
    byteArrayToTextP F none (some e) protoDefault bs = some (encodeWith e bs) ∧
    byteArrayFromTextP none (some e) (encodeWith e bs) = some bs := by
  refine ⟨?_, by simp [byteArrayFromTextP, pickReadEncoding, decodeWith_encodeWith e bs h]⟩
  unfold byteArrayToTextP pickWriteEncoding
  split <;> simp

end SpyneModel
