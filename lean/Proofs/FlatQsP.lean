/-
  The query string. Percent coding is lossless
  (`unquote (quote s) = s` for every text), and `_parse_qs` reads a rendered list of pairs back as
  the pairs, grouped by key in order of first occurrence.
-/
import SpyneModel.FlatQs
import Proofs.Utf8Digits
namespace SpyneModel.Flat
open SpyneModel SpyneModel.Utf8

theorem hexVal_hexUp : ∀ n, n < 16 → hexVal (hexUp n) = some n := by decide

theorem hexUp_ne : ∀ n, n < 16 → hexUp n ≠ '%' ∧ hexUp n ≠ '+' ∧ hexUp n ≠ '=' ∧ hexUp n ≠ '&' ∧ hexUp n ≠ ';' := by
  decide

theorem char_range (c : Char) : c.toNat < 0xD800 ∨ (0xDFFF < c.toNat ∧ c.toNat < 0x110000) := by
  have := c.valid
  simp only [UInt32.isValidChar, Nat.isValidChar] at this
  exact this

/-- a continuation byte `10xxxxxx` inside the window, with more to come -/
theorem utf8DecGo_cont (need acc lo hi x : Nat) (r : List Nat) (h1 : lo ≤ 0x80 + x) (h2 : 0x80 + x < hi) (hn : need ≠ 1) :
    utf8DecGo (.pend need acc lo hi) ((0x80 + x) :: r) = utf8DecGo (.pend (need - 1) (acc * 64 + x) 0x80 0xC0) r := by
  simp [utf8DecGo, h1, h2, hn]

theorem utf8DecGo_last (acc lo hi x : Nat) (r : List Nat) (h1 : lo ≤ 0x80 + x) (h2 : 0x80 + x < hi) :
    utf8DecGo (.pend 1 acc lo hi) ((0x80 + x) :: r) = Char.ofNat (acc * 64 + x) :: utf8DecGo .idle r := by
  simp [utf8DecGo, h1, h2]

theorem utf8DecGo_lead (b : Nat) (r : List Nat) (st : U8) (h : u8Lead b = ([], st)) :
    utf8DecGo .idle (b :: r) = utf8DecGo st r := by
  simp [utf8DecGo, h]

theorem u8Lead_two (a : Nat) (h1 : 2 ≤ a) (h2 : a < 32) : u8Lead (0xC0 + a) = ([], .pend 1 a 0x80 0xC0) := by
  have a1 : ¬ 0xC0 + a < 0x80 := by omega
  have a2 : ¬ 0xC0 + a < 0xC2 := by omega
  have a3 : 0xC0 + a < 0xE0 := by omega
  simp only [u8Lead, a1, a2, a3, if_true, if_false, Nat.add_sub_cancel_left]

theorem u8Lead_three (a : Nat) (h : a < 16) :
    u8Lead (0xE0 + a) = ([], .pend 2 a (if a = 0 then 0xA0 else 0x80) (if a = 13 then 0xA0 else 0xC0)) := by
  have a1 : ¬ 0xE0 + a < 0x80 := by omega
  have a2 : ¬ 0xE0 + a < 0xC2 := by omega
  have a3 : ¬ 0xE0 + a < 0xE0 := by omega
  have a4 : 0xE0 + a < 0xF0 := by omega
  simp only [u8Lead, a1, a2, a3, a4, if_true, if_false, Nat.add_sub_cancel_left, Nat.add_eq_left,
    show (0xE0 + a = 0xED) = (a = 13) from propext (by omega)]

theorem u8Lead_four (a : Nat) (h : a < 5) :
    u8Lead (0xF0 + a) = ([], .pend 3 a (if a = 0 then 0x90 else 0x80) (if a = 4 then 0x90 else 0xC0)) := by
  have a1 : ¬ 0xF0 + a < 0x80 := by omega
  have a2 : ¬ 0xF0 + a < 0xC2 := by omega
  have a3 : ¬ 0xF0 + a < 0xE0 := by omega
  have a4 : ¬ 0xF0 + a < 0xF0 := by omega
  have a5 : 0xF0 + a < 0xF5 := by omega
  simp only [u8Lead, a1, a2, a3, a4, a5, if_true, if_false, Nat.add_sub_cancel_left, Nat.add_eq_left,
    show (0xF0 + a = 0xF4) = (a = 4) from propext (by omega)]

theorem utf8_char (c : Char) (rest : List Nat) :
    utf8DecGo .idle (utf8EncNat c.toNat ++ rest) = c :: utf8DecGo .idle rest := by
  have hr := char_range c
  have hc : Char.ofNat c.toNat = c := Char.ofNat_toNat c
  generalize c.toNat = n at hr hc
  have lo : ∀ k, 0x80 ≤ 0x80 + k % 64 := fun k => Nat.le_add_right _ _
  have hi : ∀ k, 0x80 + k % 64 < 0xC0 := fun k => Nat.add_lt_add_left (mod64_lt k) _
  unfold utf8EncNat
  split
  · next h1 => simp only [List.cons_append, List.nil_append, utf8DecGo, u8Lead, h1, if_true, hc]
  · next h1 =>
    split
    · next h2 =>
      rw [List.cons_append, utf8DecGo_lead _ _ _ (u8Lead_two _ (lead2 h1 h2).1 (lead2 h1 h2).2), List.cons_append,
        utf8DecGo_last _ _ _ _ _ (lo n) (hi n), Nat.div_add_mod' n 64, hc]
      rfl
    · split
      · next h3 =>
        rw [List.cons_append, utf8DecGo_lead _ _ _ (u8Lead_three _ (lead3 h3)), List.cons_append,
          utf8DecGo_cont _ _ _ _ _ _ (by split <;> omega) (by split <;> omega) (by decide), List.cons_append,
          utf8DecGo_last _ _ _ _ _ (lo n) (hi n), horner3, hc]
        rfl
      · rw [List.cons_append, utf8DecGo_lead _ _ _ (u8Lead_four _ (lead4 (by omega))), List.cons_append,
          utf8DecGo_cont _ _ _ _ _ _ (by split <;> omega) (by split <;> omega) (by decide), List.cons_append,
          utf8DecGo_cont _ _ _ _ _ _ (lo _) (hi _) (by decide), List.cons_append,
          utf8DecGo_last _ _ _ _ _ (lo n) (hi n), horner4, hc]
        rfl

theorem utf8Dec_utf8Enc (s : Text) : utf8Dec (utf8Enc s) = s := by
  unfold utf8Dec utf8Enc
  induction s with
  | nil => rfl
  | cons c r ih =>
    simp only [List.flatMap_cons]
    rw [utf8_char, ih]

/-- characters that occur in the output of `quote` -/
def quoteOut (c : Char) : Bool := isUnreserved c || c = '%'

theorem unreserved_facts (c : Char) (h : isUnreserved c = true) : c ≠ '%' ∧ c.toNat < 128 := by
  simp only [isUnreserved, Bool.or_eq_true, Bool.and_eq_true, decide_eq_true_eq] at h
  constructor
  · intro e; subst e; revert h; decide
  · rcases h with (((((h | h) | h) | h) | h) | h) | h
    · omega
    · omega
    · omega
    · subst h; decide
    · subst h; decide
    · subst h; decide
    · subst h; decide

theorem pctBytesGo_plain (c : Char) (rest : Text) (h : c ≠ '%') :
    pctBytesGo 0 (c :: rest) = c.toNat :: pctBytesGo 0 rest := by
  simp only [pctBytesGo]
  split
  · rename_i heq _; exact absurd rfl h
  · rfl

theorem pctBytesGo_pct (b : Nat) (hb : b < 256) (rest : Text) :
    pctBytesGo 0 (pctByte b ++ rest) = b :: pctBytesGo 0 rest := by
  have h1 := hexVal_hexUp (b / 16) (by omega)
  have h2 := hexVal_hexUp (b % 16) (by omega)
  simp only [pctByte, List.cons_append, List.nil_append, pctBytesGo, h1, h2]
  congr 1
  exact Nat.div_add_mod' b 16

theorem pctBytesGo_bytes (bs : List Nat) (hb : ∀ b, b ∈ bs → b < 256) (rest : Text) :
    pctBytesGo 0 (bs.flatMap pctByte ++ rest) = bs ++ pctBytesGo 0 rest := by
  induction bs with
  | nil => rfl
  | cons b r ih =>
    simp only [List.flatMap_cons, List.append_assoc, List.cons_append]
    rw [pctBytesGo_pct b (hb b List.mem_cons_self), ih (fun b' hb' => hb b' (List.mem_cons_of_mem _ hb'))]

theorem utf8EncNat_bytes (n : Nat) (hn : n < 0x110000) : ∀ b, b ∈ utf8EncNat n → b < 256 := by
  intro b hb
  unfold utf8EncNat at hb
  split at hb
  · simp at hb; omega
  · split at hb
    · simp at hb; omega
    · split at hb
      · simp at hb; omega
      · simp at hb; omega

theorem char_lt (c : Char) : c.toNat < 0x110000 := by
  rcases char_range c with h | h <;> omega

theorem pctBytes_quote (s rest : Text) : pctBytesGo 0 (quote s ++ rest) = utf8Enc s ++ pctBytesGo 0 rest := by
  unfold quote utf8Enc
  induction s with
  | nil => rfl
  | cons c r ih =>
    simp only [List.flatMap_cons, List.append_assoc]
    by_cases hu : isUnreserved c = true
    · obtain ⟨h1, h2⟩ := unreserved_facts c hu
      simp only [hu, if_true, List.cons_append, List.nil_append]
      rw [pctBytesGo_plain c _ h1, ih]
      simp [utf8EncNat, h2]
    · simp only [hu, Bool.false_eq_true, if_false]
      rw [pctBytesGo_bytes _ (utf8EncNat_bytes _ (char_lt c)), ih]

theorem unquote_quote (s : Text) : unquote (quote s) = s := by
  unfold unquote
  have := pctBytes_quote s []
  simp only [List.append_nil] at this
  rw [this]
  simp only [pctBytesGo, List.append_nil]
  exact utf8Dec_utf8Enc s

theorem hexUp_unreserved : ∀ n, n < 16 → isUnreserved (hexUp n) = true := by decide

theorem quote_chars (s : Text) : ∀ c, c ∈ quote s → quoteOut c = true := by
  intro c hc
  unfold quote at hc
  simp only [List.mem_flatMap] at hc
  obtain ⟨x, _, hx⟩ := hc
  split at hx
  · rename_i hu
    simp only [List.mem_singleton] at hx
    subst hx
    simp [quoteOut, hu]
  · simp only [List.mem_flatMap, pctByte, List.mem_cons, List.not_mem_nil, or_false] at hx
    obtain ⟨b, hb, hcb⟩ := hx
    have hb' := utf8EncNat_bytes _ (char_lt x) b hb
    rcases hcb with rfl | rfl | rfl
    · simp [quoteOut]
    · simp [quoteOut, hexUp_unreserved (b / 16) (by omega)]
    · simp [quoteOut, hexUp_unreserved (b % 16) (by omega)]

theorem quoteOut_ne (c : Char) (h : quoteOut c = true) : c ≠ '+' ∧ c ≠ '=' := by
  constructor <;> (intro e; subst e; revert h; decide)

theorem plusToSpace_quote (F : Facts03) (s : Text) : plusToSpace F (quote s) = quote s := by
  unfold plusToSpace
  split
  · have h := quote_chars s
    generalize quote s = q at h
    induction q with
    | nil => rfl
    | cons c r ih =>
      have := (quoteOut_ne c (h c List.mem_cons_self)).1
      simp only [List.map_cons, this, if_false]
      rw [ih (fun c' hc' => h c' (List.mem_cons_of_mem _ hc'))]
  · rfl

theorem splitOn_plain (isSep : Char → Bool) (pre rest : Text) (h : ∀ c, c ∈ pre → isSep c = false) :
    ∃ hd tl, splitOn isSep rest = hd :: tl ∧ splitOn isSep (pre ++ rest) = (pre ++ hd) :: tl := by
  induction pre with
  | nil =>
    cases hs : splitOn isSep rest with
    | nil =>
      exfalso
      cases rest with
      | nil => simp [splitOn] at hs
      | cons c r =>
        simp only [splitOn] at hs
        split at hs
        · simp at hs
        · split at hs <;> simp at hs
    | cons hd tl => exact ⟨hd, tl, rfl, by simp [hs]⟩
  | cons c p ih =>
    obtain ⟨hd, tl, h1, h2⟩ := ih (fun c' hc' => h c' (List.mem_cons_of_mem _ hc'))
    refine ⟨hd, tl, h1, ?_⟩
    simp only [List.cons_append, splitOn, h c List.mem_cons_self, Bool.false_eq_true, if_false, h2]

theorem splitEq_plain (pre : Text) (h : ∀ c, c ∈ pre → c ≠ '=') (v : Option Text) :
    splitEq (pre ++ (match v with | none => [] | some x => '=' :: x)) = (pre, v) := by
  induction pre with
  | nil => cases v <;> simp [splitEq]
  | cons c p ih =>
    simp only [List.cons_append, splitEq, h c List.mem_cons_self, if_false]
    rw [ih (fun c' hc' => h c' (List.mem_cons_of_mem _ hc'))]

def renderPair (p : Text × Option Text) : Text :=
  quote p.1 ++ (match p.2 with | none => [] | some x => '=' :: quote x)

theorem renderQs_eq (pairs : List (Text × Option Text)) :
    renderQs pairs = match pairs with
      | [] => []
      | [p] => renderPair p
      | p :: q :: r => renderPair p ++ '&' :: renderQs (q :: r) := by
  cases pairs with
  | nil => rfl
  | cons p r =>
    obtain ⟨k, v⟩ := p
    cases r with
    | nil => rfl
    | cons q r' => rfl

/-- the pairs, grouped by key in order of first occurrence (what an ordered multi-dict holds) -/
def groupPairs (pairs : List (Text × Option Text)) : Doc :=
  pairs.foldl (fun acc p => addPair acc p.1 p.2) []

/-- what `_parse_qs` does with one piece between separators -/
def pieceStep (F : Facts03) (acc : Doc) (nv : Text) : Doc :=
  if nv.isEmpty then acc
  else addPair acc (unquote (plusToSpace F (splitEq nv).1))
    ((splitEq nv).2.map (fun v => unquote (plusToSpace F v)))

theorem parseQs_eq (F : Facts03) (qs : Text) :
    parseQs F qs = (splitOn (fun c => F.pairSeps.contains c) qs).foldl (pieceStep F) [] := rfl

theorem renderPair_chars (p : Text × Option Text) : ∀ c, c ∈ renderPair p → quoteOut c = true ∨ c = '=' := by
  intro c hc
  obtain ⟨k, v⟩ := p
  simp only [renderPair, List.mem_append] at hc
  rcases hc with hc | hc
  · exact Or.inl (quote_chars k c hc)
  · cases v with
    | none => simp at hc
    | some x =>
      simp only [List.mem_cons] at hc
      rcases hc with rfl | hc
      · exact Or.inr rfl
      · exact Or.inl (quote_chars x c hc)

theorem pieceStep_renderPair (F : Facts03) (acc : Doc) (p : Text × Option Text)
    (hne : renderPair p ≠ []) : pieceStep F acc (renderPair p) = addPair acc p.1 p.2 := by
  obtain ⟨k, v⟩ := p
  have hemp : (renderPair (k, v)).isEmpty = false := by
    cases h : renderPair (k, v) with
    | nil => exact absurd h hne
    | cons _ _ => rfl
  have hsplit : splitEq (renderPair (k, v)) = (quote k, v.map quote) := by
    have := splitEq_plain (quote k) (fun c hc => (quoteOut_ne c (quote_chars k c hc)).2) (v.map quote)
    cases v <;> simpa [renderPair] using this
  simp only [pieceStep, hemp, Bool.false_eq_true, if_false, hsplit, plusToSpace_quote, unquote_quote]
  cases v <;> simp [plusToSpace_quote, unquote_quote]

/-- the separators of the current tree do not occur inside a written pair -/
def SepsOk (F : Facts03) : Prop :=
  F.pairSeps.contains '&' = true ∧ F.pairSeps.all (fun c => !quoteOut c && !(c == '=')) = true

instance (F : Facts03) : Decidable (SepsOk F) := by unfold SepsOk; exact inferInstance

theorem SepsOk.sep {F : Facts03} (h : SepsOk F) (c : Char) (hc : F.pairSeps.contains c = true) :
    quoteOut c = false ∧ c ≠ '=' := by
  have hm : c ∈ F.pairSeps := List.contains_iff_mem.mp hc
  have := List.all_eq_true.mp h.2 c hm
  simp only [Bool.and_eq_true, Bool.not_eq_true', beq_eq_false_iff_ne, ne_eq] at this
  exact this

theorem splitOn_renderQs (F : Facts03) (hs : SepsOk F) (pairs : List (Text × Option Text)) (hne : pairs ≠ []) :
    splitOn (fun c => F.pairSeps.contains c) (renderQs pairs) = pairs.map renderPair := by
  have hnosep : ∀ p : Text × Option Text, ∀ c, c ∈ renderPair p → F.pairSeps.contains c = false := by
    intro p c hc
    cases hcon : F.pairSeps.contains c with
    | false => rfl
    | true =>
      have := hs.sep c hcon
      rcases renderPair_chars p c hc with h | h
      · rw [this.1] at h; exact absurd h (by simp)
      · exact absurd h this.2
  induction pairs with
  | nil => exact absurd rfl hne
  | cons p r ih =>
    cases r with
    | nil =>
      rw [renderQs_eq]
      obtain ⟨hd, tl, h1, h2⟩ := splitOn_plain (fun c => F.pairSeps.contains c) (renderPair p) [] (hnosep p)
      simp only [splitOn, List.cons.injEq] at h1
      simp only [List.append_nil] at h2
      rw [h2, ← h1.1, ← h1.2]
      simp
    | cons q r' =>
      rw [renderQs_eq]
      simp only
      obtain ⟨hd, tl, h1, h2⟩ := splitOn_plain (fun c => F.pairSeps.contains c) (renderPair p)
        ('&' :: renderQs (q :: r')) (hnosep p)
      rw [h2]
      simp only [splitOn, hs.1, if_true, List.cons.injEq] at h1
      rw [← h1.1, ← h1.2, ih (by simp)]
      simp

/-- `_parse_qs` of what a client writes for a list of pairs gives the pairs back, grouped by key
    in order of first occurrence, values in order, text for text (percent coding and `+` undone) -/
theorem parseQs_renderQs (F : Facts03) (hs : SepsOk F) (pairs : List (Text × Option Text))
    (hne : ∀ p, p ∈ pairs → renderPair p ≠ []) : parseQs F (renderQs pairs) = groupPairs pairs := by
  rw [parseQs_eq]
  cases hp : pairs with
  | nil => simp [renderQs, splitOn, pieceStep, groupPairs]
  | cons p r =>
    rw [← hp, splitOn_renderQs F hs pairs (by rw [hp]; simp)]
    unfold groupPairs
    have : ∀ (l : List (Text × Option Text)) (acc : Doc), (∀ p, p ∈ l → renderPair p ≠ []) →
        (l.map renderPair).foldl (pieceStep F) acc = l.foldl (fun acc p => addPair acc p.1 p.2) acc := by
      intro l
      induction l with
      | nil => intro acc _; rfl
      | cons a l ih =>
        intro acc h
        simp only [List.map_cons, List.foldl_cons]
        rw [pieceStep_renderPair F acc a (h a List.mem_cons_self)]
        exact ih _ (fun p hp => h p (List.mem_cons_of_mem _ hp))
    exact this pairs [] hne

end SpyneModel.Flat
