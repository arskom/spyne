/-
  C18: NullServer's string mode (`ostr=True`), member methods, and `_validate_body_style`.
-/
import Proofs.Null
import SpyneModel.NullExt
namespace SpyneModel.Null

/-- the string `NullServer(app, ostr=True)` returns decodes to what the wire client gets -/
theorem nullOstr_eq_wire (F : Facts18) (hF : F.Good) (hO : F.GoodOstr) (P : ProtoCfg) (hP : P.Good)
    (τ : Val → Val) (s : Sig) (impl : List Val → Result) (pos : List Val) (kw : List (String × Val))
    (hprog : ProgramOkOn τ s impl (nullRecv F s pos kw)) (hkw : KwOk F kw) (hcall : CallOk τ s pos kw) :
    nullOstr F P τ s impl pos kw = wireCall F P τ s impl pos kw := by
  rw [wireCall_eq_bind, ← recv_agree F P hP τ s pos kw hkw hcall]
  refine call_agree F s impl id (fun _ => rfl) (fun _ => rfl) _ _ _ fun args r hr hi => ?_
  obtain ⟨v, hv⟩ := cbSync_ok_of_resultOk F hF τ s r (hprog args r hr hi)
  unfold Facts18.GoodOstr at hO
  simp [hv, hO, Res.bind]


theorem memberImpl_ok (τ : Val → Val) (s : Sig) (m : Option Member) (impl : List Val → Result)
    (h : ProgramOk τ s impl) : ProgramOk τ s (memberImpl m impl) := by
  intro recv r hi
  cases m with
  | none => exact h recv r hi
  | some m =>
    simp only [memberImpl] at hi
    cases hr : respawn m recv with
    | ok args =>
      rw [hr] at hi
      simp only at hi
      split at hi
      · exact h args r hi
      · cases hi
    | fault c => rw [hr] at hi; cases hi
    | exc e => rw [hr] at hi; cases hi

/-- a member method called without its instance (and without `_default_on_null`) is a
    Client.ResourceNotFound fault -/
theorem respawn_missing (m : Member) (hd : m.defaultOnNull = false) (rest : List Val) :
    respawn m (Val.none :: rest) = .fault "Client.ResourceNotFound" := by
  simp [respawn, Val.isNone, hd]

theorem respawn_present (m : Member) (x : Val) (hx : x.isNone = false) (rest : List Val) :
    respawn m (x :: rest) = .ok (x :: rest) := by
  simp [respawn, hx]

theorem respawn_default (m : Member) (hd : m.defaultOnNull = true) (rest : List Val) :
    respawn m (Val.none :: rest) = .ok (.obj m.cls (m.fields.map fun f => (f, Val.none)) :: rest) := by
  simp [respawn, Val.isNone, hd]


/-- `_soap_body_style` is only read when `_body_style` is given -/
theorem validateBodyStyle_default (sb : Option String) : validateBodyStyle none sb = some .wrapped := rfl

theorem validateBodyStyle_plain (b : String) :
    validateBodyStyle (some b) none =
      (if b = "wrapped" then some .wrapped else if b = "bare" then some .bare
       else if b = "out_bare" then some .outBare else none) := by
  unfold validateBodyStyle
  simp only
  split <;> simp_all

end SpyneModel.Null
