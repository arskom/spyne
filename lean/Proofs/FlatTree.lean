/-
  The object graph and the frequency bookkeeping.

  `stepMember` / `walk` return the new graph together with the frequency increments of soft validation. The
  increments never influence the graph, and the facts (`Facts03`) only decide which increments are made:
  `stepMember_graph`, `walk_graph`. Hence what is proved about the graph under one choice of facts holds under all.
-/
import Proofs.FlatBasic
namespace SpyneModel.Flat
open SpyneModel

def omap {α β : Type} (f : α → β) (o : Outcome α) : Outcome β := obind o fun a => .ok (f a)

@[simp] theorem omap_ok {α β : Type} (f : α → β) (a : α) : omap f (.ok a) = .ok (f a) := rfl
@[simp] theorem omap_fault {α β : Type} (f : α → β) : omap f (.fault : Outcome α) = .fault := rfl
@[simp] theorem omap_crash {α β : Type} (f : α → β) (e : String) : omap f (.crash e : Outcome α) = .crash e := rfl

def dummyEv : Ev := ⟨[], [], [], 0⟩

/-- two binds seen through `q`, `q'` agree when their arguments agree through `p`, `p'` and their continuations agree
    on arguments that do -/
theorem omap_obind_congr {α α' β γ γ' δ : Type} {o : Outcome α} {o' : Outcome α'} (p : α → β) (p' : α' → β)
    (ho : omap p o = omap p' o') {f : α → Outcome γ} {f' : α' → Outcome γ'} (q : γ → δ) (q' : γ' → δ)
    (h : ∀ a a', p a = p' a' → omap q (f a) = omap q' (f' a')) :
    omap q (obind o f) = omap q' (obind o' f') := by
  cases o with
  | ok a =>
    cases o' with
    | ok a' => exact h a a' (Outcome.ok.inj ho)
    | fault => cases ho
    | crash e => cases ho
  | fault => cases o' <;> first | rfl | cases ho
  | crash e =>
    cases o' with
    | crash e' => cases ho; rfl
    | _ => cases ho

theorem strictSlot_graph (sub : List Fld) (ev ev' : Ev) (touch touch' : Nat → List Ev) (items : List Node) (nidx : Nat) :
    omap Prod.fst (strictSlot sub ev touch items nidx) = omap Prod.fst (strictSlot sub ev' touch' items nidx) := by
  unfold strictSlot
  cases items.isEmpty
  all_goals
    simp only [Bool.false_eq_true, if_true, if_false]
    split
    · rfl
    · split <;> rfl

theorem lenientSlot_graph (sub : List Fld) (ev ev' : Ev) (m : List (Nat × Nat)) (items : List Node) (nidx : Nat) :
    ((lenientSlot sub ev m items nidx).1, (lenientSlot sub ev m items nidx).2.1, (lenientSlot sub ev m items nidx).2.2.1) =
    ((lenientSlot sub ev' m items nidx).1, (lenientSlot sub ev' m items nidx).2.1, (lenientSlot sub ev' m items nidx).2.2.1) := by
  unfold lenientSlot
  cases mapGet m nidx <;> rfl

/-- The object graph a key builds does not depend on the facts: they only decide which increments are made. -/
theorem stepMember_graph (F G : Facts03) (strict : Bool) (fields : List Fld) (cur : Node)
    (p : Text) (rest : List Text) (idxs : List Nat) (pl : Payload) :
    omap Prod.fst (stepMember F strict fields cur p rest idxs pl) =
      omap Prod.fst (stepMember G strict fields cur p rest idxs pl) := by
  induction rest generalizing fields cur p idxs with
  | nil =>
    unfold stepMember
    cases assignNode cur pl <;> rfl
  | cons q rest ih =>
    unfold stepMember
    dsimp only
    cases hl : lookupFld fields p with
    | none => rfl
    | some f =>
      obtain ⟨n, occ, t⟩ := f
      cases t with
      | prim pk => rfl
      | obj cid sub =>
        dsimp only
        cases occ.many with
        | true =>
          simp only [if_true]
          cases cur with
          | none | arr _ _ =>
            refine omap_obind_congr (fun sl => (sl.1, sl.2.1, sl.2.2.1)) (fun sl => (sl.1, sl.2.1, sl.2.2.1)) ?_ _ _ ?_
            · cases strict with
              | false => exact congrArg Outcome.ok (lenientSlot_graph sub _ _ _ _ _)
              | true =>
                simp only [if_true]
                refine omap_obind_congr Prod.fst Prod.fst (strictSlot_graph sub _ _ _ _ _ _) _ _ ?_
                intro s s' hs
                simp only [omap_ok, hs]
            · rintro ⟨pos, m, its, evs⟩ ⟨pos', m', its', evs'⟩ hsl
              simp only [Prod.mk.injEq] at hsl
              obtain ⟨rfl, rfl, rfl⟩ := hsl
              dsimp only
              cases its[pos]? with
              | none => rfl
              | some nd =>
                cases nd with
                | obj child =>
                  refine omap_obind_congr Prod.fst Prod.fst (ih ..) _ _ ?_
                  intro r r' hr
                  simp only [omap_ok, hr]
                | _ => rfl
          | _ => rfl
        | false =>
          simp only [Bool.false_eq_true, if_false]
          cases cur with
          | none | obj _ =>
            refine omap_obind_congr Prod.fst Prod.fst (ih ..) _ _ ?_
            intro r r' hr
            simp only [omap_ok, hr]
          | _ => rfl

theorem walk_graph (F G : Facts03) (strict : Bool) (fields : List Fld) (attrs : Attrs)
    (path : List Text) (idxs : List Nat) (pl : Payload) :
    omap Prod.fst (walk F strict fields attrs path idxs pl) = omap Prod.fst (walk G strict fields attrs path idxs pl) := by
  cases path with
  | nil => rfl
  | cons p rest =>
    refine omap_obind_congr Prod.fst Prod.fst (stepMember_graph F G strict fields (getAttr attrs p) p rest idxs pl) _ _ ?_
    intro r r' hr
    simp only [omap_ok, hr]
end SpyneModel.Flat
