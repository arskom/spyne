/-
  C05 over HttpRpc (flat key/value documents): soft validation of `simple_dict_to_object`.
  Property theorems only, about the model instantiated with the facts regenerated from /repo
  (`Generated.facts03`, leaf switches `facts08`); side conditions on the facts by `decide`.

  The signature is given in the SHARED vocabulary (`SpyneModel/Types.lean`); `ofFields` is how the
  flat decoder sees it, `argsOf` reads the object graph it builds as shared native values
  (`SpyneModel/FlatShared.lean`). The right-hand side is the same `conformsFields` as for XML
  (`Props/C05_xml.lean`) and the dict-document family (`Props/C05_hier.lean`).

  Model of soft validation (SpyneModel/Flat.lean): `_to_native_values` (validate_string, from_unicode,
  validate_native, `None` iff nillable), the `frequencies` table (one entry per object instance, keyed by
  the path of (member, index) from the request object; incremented by `len(value)` at the end of a path and by
  one when a key creates an instance on its way), `_check_freq_dict` over every entry.
-/
import Proofs.FlatBridge
import Proofs.FlatWalk
import Proofs.FlatQsP
import Proofs.FlatExamples
import SpyneModel.Generated.Facts03
import Props.Facts08Good
import Props.C05_hier
namespace SpyneModel.Props.C05flat
open SpyneModel SpyneModel.Flat SpyneModel.Generated

/-- the leaf codecs of the current tree obey the shared leaf laws (C08) -/
theorem leafLaws03 : LeafLaws facts03.leaf := SpyneModel.Props.leafLaws08

/-- frequencies are counted per member path, the count of a member is the number of values of ALL keys that address
    it (`evCount` sums: repeated key, indexed keys `tags[0]=a&tags[1]=b`, mixtures — `flat_soft_accepted_conforms` and
    `flat_soft_rejects_nonconformant` are about every such document), and EVERY object instance that is created gets an entry
    in the table — also the one `key=empty` creates (fix C05-06; without it this is `false` and an
    object made by `=empty` is never checked for its mandatory members) -/
theorem facts03_soft : facts03.freqScope = .perMember ∧ facts03.freqTouch = true ∧ facts03.freqAccumulates = true := by
  decide

/-- soft validation; `strict = false` is `strict_arrays = False`, the default -/
def softCfg (strict : Bool) (delim : Text) : Cfg := ⟨strict, true, delim⟩

/-! ### (⇒) whatever is delivered conforms -/

/-- For EVERY flat document — documented or not: unknown keys, repeated keys, keys that address the
    same member through different spellings, sparse or repeated indexes, `=empty` markers anywhere,
    keys without `=`, in any order — and every signature HttpRpc can serve (`flatSig`: nested classes,
    lists of primitives and of objects, wrapped arrays): if `simple_dict_to_object` with the soft
    validator returns a request object, then the arguments the user function receives satisfy EVERY
    declared constraint, at every nesting depth: nillability, `min_occurs`/`max_occurs` of every member
    of every object instance (array elements included), integer ranges and widths, string length,
    pattern, enumeration, lexical well-formedness. In both array modes (`strict_arrays` on or off; with it on,
    also the element 0 that a first key `a[1]…` makes the decoder fabricate is checked). -/
theorem flat_soft_accepted_conforms (strict : Bool) (delim : Text) (fields : List (Text × SpyneModel.Ty))
    (hs : flatSig fields = true) (doc : Doc) (node : Node)
    (h : decode facts03 (softCfg strict delim) (ofFields fields) doc = .ok node) :
    ∃ attrs, node = .obj attrs ∧ conformsFields fields (argsOf fields attrs) = true :=
  decode_soft_conforms facts03 leafLaws03 facts03_soft.1 facts03_soft.2.1 strict delim fields hs doc node h

/-- the same for the raw query string of a GET (or the body of a form POST): ANY text -/
theorem flat_soft_query_accepted_conforms (strict : Bool) (delim : Text) (fields : List (Text × SpyneModel.Ty))
    (hs : flatSig fields = true) (qs : Text) (node : Node)
    (h : decodeQs facts03 (softCfg strict delim) (ofFields fields) qs = .ok node) :
    ∃ attrs, node = .obj attrs ∧ conformsFields fields (argsOf fields attrs) = true :=
  flat_soft_accepted_conforms strict delim fields hs _ node h

/-- arguments that violate a declared constraint are never handed to the user function -/
theorem flat_soft_rejects_nonconformant (strict : Bool) (delim : Text) (fields : List (Text × SpyneModel.Ty))
    (hs : flatSig fields = true) (doc : Doc) (attrs : Attrs)
    (hnc : conformsFields fields (argsOf fields attrs) = false) :
    decode facts03 (softCfg strict delim) (ofFields fields) doc ≠ .ok (.obj attrs) := by
  intro h
  obtain ⟨a, ha, hc⟩ := flat_soft_accepted_conforms strict delim fields hs doc _ h
  simp only [Node.obj.injEq] at ha
  subst ha
  rw [hnc] at hc
  cases hc

/-! ### (⇐) a documented request that respects the constraints is accepted -/

/-- Proved: for every flat signature (`WfSig`, `KeysOk`) and every request spelled in the documented
    notation (`WtMembers`: every leaf satisfies its facets; ANY strictly increasing choice of array
    indexes) in which every member of every object occurs as often as its class allows (`FreqConf`:
    a member that is left out counts 0, a list member counts its elements), the pairs in ANY order:
    the soft validator accepts, and the user function receives exactly the spelled object graph.
    By `documented_value_conforms` below the value so delivered conforms to the shared `conforms`.

    Full statement (not proved in this form): for every `args` with `conformsFields fields args = true`
    there is a flat document that the soft validator accepts and decodes to `args`.
    What is missing is only the passage from the shared value to its spelling; it cannot be total:
      * HttpRpc cannot say "a list with no element" for a list of primitives, nor `None` / an object with
        no member set as an ELEMENT of a list of objects (there is no key to write): such values have no
        flat document at all;
      * explicit null and absence coincide: a member that is `None` is left out, so it counts 0 and must be
        optional (`min_occurs = 0`). A mandatory nillable member can be sent as the key without `=`
        (value `None`, counted once); that spelling and `None` elements of primitive lists are outside the
        spelled values of this theorem and are covered at T3 only (`harness/c03.py: spell_shared`);
      * an empty string and a missing value coincide for Integer (`''` is None) but not for Unicode.
    Stated for the default `strict_arrays = False`; with `strict_arrays = True` the same holds for arrays numbered
    0, 1, 2, … (`Flat.decode_documented_soft`; without validation: `C03.documented_strict`); T3 exercises both array
    modes. -/
theorem flat_soft_accepts_conformant_partial (delim : Text) (fields : List Fld) (ms : Members) (doc : Doc)
    (hwf : WfSig fields) (hkeys : KeysOk delim fields) (hwt : WtMembers facts03 fields ms)
    (hfc : FreqConf fields ms) (hp : doc.Perm (docOf facts03 delim fields ms)) :
    decode facts03 (softCfg false delim) fields doc = .ok (.obj (expAttrs fields ms)) :=
  decode_documented_soft facts03 leafLaws03 facts03_soft.1 (softCfg false delim) fields ms doc (by simp [facts03])
    hwf hkeys hwt hfc (fun h => nomatch h) hp

/-- the same from the text of the query string -/
theorem flat_soft_accepts_query_partial (delim : Text) (fields : List Fld) (ms : Members)
    (pairs : List (Text × Option Text))
    (hwf : WfSig fields) (hkeys : KeysOk delim fields) (hwt : WtMembers facts03 fields ms)
    (hfc : FreqConf fields ms) (hne : ∀ p, p ∈ pairs → renderPair p ≠ [])
    (hp : (groupPairs pairs).Perm (docOf facts03 delim fields ms)) :
    decodeQs facts03 (softCfg false delim) fields (renderQs pairs) = .ok (.obj (expAttrs fields ms)) := by
  unfold decodeQs
  rw [parseQs_renderQs facts03 (by decide) pairs hne]
  exact flat_soft_accepts_conformant_partial delim fields ms _ hwf hkeys hwt hfc hp

/-- what such a documented request denotes conforms to the shared specification: over a signature
    given in the shared vocabulary, the spelled object graph read as native values satisfies
    `conformsFields` — so `FreqConf` + `WtMembers` are the flat form of "a conformant value". -/
theorem documented_value_conforms (delim : Text) (fields : List (Text × SpyneModel.Ty)) (ms : Members)
    (hs : flatSig fields = true) (hkeys : KeysOk delim (ofFields fields))
    (hwt : WtMembers facts03 (ofFields fields) ms) (hfc : FreqConf (ofFields fields) ms) :
    conformsFields fields (argsOf fields (expAttrs (ofFields fields) ms)) = true := by
  have hsig := hs
  simp only [flatSig, Bool.and_eq_true] at hsig
  have hwf : WfSig (ofFields fields) :=
    ⟨namesOk_of fields hsig.1.1 hsig.1.2, (wf_of_flatFields fields hsig.2).1⟩
  have hacc := flat_soft_accepts_conformant_partial delim (ofFields fields) ms _ hwf hkeys hwt hfc (List.Perm.refl _)
  obtain ⟨a, ha, hc⟩ := flat_soft_accepted_conforms false delim fields hs _ _ hacc
  simp only [Node.obj.injEq] at ha
  rw [ha]; exact hc

/-- soft validation only rejects: what it accepts is what no validation returns (C03 then says what) -/
theorem flat_soft_only_rejects (strict : Bool) (delim : Text) (fields : List Fld) (doc : Doc) (v : Node)
    (h : decode facts03 ⟨strict, true, delim⟩ fields doc = .ok v) :
    decode facts03 ⟨strict, false, delim⟩ fields doc = .ok v :=
  decode_soft_ok facts03 strict delim fields doc v h

/-! ### across protocols: the same `conforms` -/

/-- Whatever HttpRpc hands to the user function under soft validation is a request that every protocol
    of the dict-document family (JSON, YAML, MessagePack, MessagePack-RPC; both wrapper modes) accepts
    under soft validation as well, with the same arguments: the verdicts are taken against the one shared
    `conformsFields` (`flat_soft_accepted_conforms` here, `hier_soft_accepts_conformant` there).
    `hmp`, `hpl`: side conditions of the dict-document round trip itself (MessagePack integer width; values
    of the plain shape). -/
theorem flat_accepted_is_accepted_by_dict_protocols (strict : Bool) (delim : Text)
    (name ns : Text) (base : Option Text) (fields : List (Text × SpyneModel.Ty)) (o : SpyneModel.Occ)
    (hs : flatSig fields = true) (hwf : Hier.wfTy (.obj name ns base fields o) = true)
    (doc : Doc) (attrs : Attrs)
    (h : decode facts03 (softCfg strict delim) (ofFields fields) doc = .ok (.obj attrs))
    (p : Hier.Proto) (iw : Bool) (R : SpyneModel.Registry)
    (hmp : p.isMsgpack = true → Hier.fitsFields facts08 (argsOf fields attrs) = true)
    (hpl : Hier.plainFields .dict fields (argsOf fields attrs) = true) :
    Hier.decodeRequest facts08 facts02 (C05hier.softCfg p iw) R (.obj name ns base fields o)
      (Hier.requestDoc (C05hier.softCfg p iw) (Hier.convSpell facts08 (C05hier.softCfg p iw) .dict) R
        (.obj name ns base fields o) (.obj name (argsOf fields attrs)))
      = .good (.obj name (argsOf fields attrs)) := by
  obtain ⟨a, ha, hc⟩ := flat_soft_accepted_conforms strict delim fields hs doc _ h
  simp only [Node.obj.injEq] at ha
  subst ha
  exact C05hier.hier_soft_accepts_conformant p iw R name ns base fields o _ hwf hc hmp hpl

/-! ### non-vacuity -/

def exP : SpyneModel.Ty := .obj "P".toList "tns".toList none
  [("x".toList, .prim (.integer .unbounded {}) { nillable := false, minOccurs := 1 }),
   ("y".toList, .prim (.integer .unbounded {}) {})] {}

def exFields : List (Text × SpyneModel.Ty) :=
  [("n".toList, .prim (.integer .u8 { le := some 200 }) { nillable := false, minOccurs := 1 }),
   ("m".toList, .prim (.unicode 1 (some 3) none []) { maxOccurs := some 2 }),
   ("o".toList, exP),
   ("a".toList, .arr "P".toList exP {})]

def d (kvs : List (String × List String)) : Doc := kvs.map fun kv => (kv.1.toList, kv.2.map fun s => some s.toList)

example : flatSig exFields = true := by decide
-- 201 violates `le`; three strings violate max_occurs = 2; a missing `n` violates min_occurs = 1
example : Ex.isFault (decode facts03 (softCfg false ".".toList) (ofFields exFields) (d [("n", ["201"])])) = true := by
  decide +kernel
example : Ex.isFault (decode facts03 (softCfg false ".".toList) (ofFields exFields)
    (d [("n", ["7"]), ("m", ["a", "b", "c"])])) = true := by decide +kernel
example : Ex.isFault (decode facts03 (softCfg false ".".toList) (ofFields exFields) (d [("m", ["a"])])) = true := by
  decide +kernel
-- an object made by `=empty`, and an array element that sets nothing it must: the mandatory `x` is missed
example : Ex.isFault (decode facts03 (softCfg false ".".toList) (ofFields exFields)
    (d [("n", ["7"]), ("o", ["empty"])])) = true := by decide +kernel
example : Ex.isFault (decode facts03 (softCfg false ".".toList) (ofFields exFields)
    (d [("n", ["7"]), ("a[0].x", ["1"]), ("a[5].y", ["1"])])) = true := by decide +kernel
-- inside every bound: accepted
example : Ex.isOk (decode facts03 (softCfg false ".".toList) (ofFields exFields)
    (d [("n", ["200"]), ("m", ["abc", "d"]), ("o.x", ["5"]), ("a[3].x", ["1"]), ("a[1].x", ["2"])])) = true := by
  decide +kernel

-- the values of a list of primitives under indexed keys, under the repeated key, or both: every value counts
-- (`m` has max_occurs = 2; nested: `a[0].…` has no such member, so at the top level)
example : Ex.isFault (decode facts03 (softCfg false ".".toList) (ofFields exFields)
    (d [("n", ["7"]), ("m[0]", ["a"]), ("m[1]", ["b"]), ("m[2]", ["c"])])) = true := by decide +kernel
example : Ex.isFault (decode facts03 (softCfg false ".".toList) (ofFields exFields)
    (d [("n", ["7"]), ("m", ["a", "b"]), ("m[5]", ["c"])])) = true := by decide +kernel
example : Ex.isOk (decode facts03 (softCfg false ".".toList) (ofFields exFields)
    (d [("n", ["7"]), ("m[1]", ["b"]), ("m[0]", ["a"])])) = true := by decide +kernel
-- strict_arrays: a first key `a[1]…` fabricates element 0, which misses its mandatory `x`
example : Ex.isFault (decode facts03 (softCfg true ".".toList) (ofFields exFields)
    (d [("n", ["7"]), ("a[1].x", ["1"])])) = true := by decide +kernel
example : Ex.isOk (decode facts03 (softCfg true ".".toList) (ofFields exFields)
    (d [("n", ["7"]), ("a[1].x", ["1"]), ("a[0].x", ["2"])])) = true := by decide +kernel

end SpyneModel.Props.C05flat
