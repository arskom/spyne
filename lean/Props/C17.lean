/-
  C17 — XML input is parsed with safe defaults (PARTIAL, see below).

  Property theorems only.  Every theorem is about the model instantiated with the facts
  regenerated from /repo on every run (`Generated.facts17`): default keyword tables read from the
  live classes, the constructor plumbing measured by toggling every argument, the parse call sites
  extracted from the current source, libxml2's limits measured through the real protocol object.
  Side conditions on the facts are discharged by `decide`, so a changed default, a re-wired
  keyword, a parse call that is not given `XMLParser(**self.parser_kwargs)` or an uncaught
  XMLSyntaxError stops this file from compiling.

  What is NOT proved (the claim is explicitly partial): that libxml2/lxml behave as the clauses of
  the abstract front end `parse` say (entity references stay unexpanded nodes under
  `resolve_entities=False`, nothing external is opened without `load_dtd`/`resolve_entities`,
  `no_network` blocks network schemes, depth / entity-nesting / amplification limits without
  `huge_tree`), and anything about wall-clock time and real memory.  Those clauses are assumptions,
  compared with the real parser on every run (T2) and observed on the real stack (T3).
-/
import Proofs.XmlParserCfg
import SpyneModel.Generated.Facts17
namespace SpyneModel.Props.C17
open SpyneModel SpyneModel.XmlCfg SpyneModel.Generated

/-! ### configuration: defaults and constructor plumbing (xml.py:286-369) -/

/-- the keyword table of a default-constructed XmlDocument / Soap11 / Soap12 is safe and tidy -/
theorem defaults_safe (p : Proto) : Safe (facts17.liveDefaults p) ∧ Tidy (facts17.liveDefaults p) := by
  cases p <;> decide

/-- the model of the constructor, fed with the defaults of the signature, yields exactly the
    keyword table found on the live default instance -/
theorem ctor_defaults_reach_parser (p : Proto) :
    parserKwargs (facts17.plumb p) (facts17.ctorDefaults p) = facts17.liveDefaults p := by
  cases p <;> decide

/-- for ALL constructor arguments: every parser keyword is the constructor argument of the same
    name and nothing else, `remove_comments` is hard-wired to True -/
theorem plumbing_direct (p : Proto) (a : CtorArgs) : parserKwargs (facts17.plumb p) a = directKw a := by
  cases p <;> rfl

/-- so a protocol instance is safe exactly when it was constructed with the six safe arguments -/
theorem safe_iff_arguments (p : Proto) (a : CtorArgs) :
    Safe (parserKwargs (facts17.plumb p) a) ↔
      (a.resolveEntities = .off ∧ a.loadDtd = false ∧ a.dtdValidation = false ∧
       a.attributeDefaults = false ∧ a.noNetwork = true ∧ a.hugeTree = false) := by
  rw [plumbing_direct]; exact safe_directKw_iff a

/-- the keyword table is private to the instance, handed to a fresh parser for every request,
    and has no keys beyond the modelled ones (no `schema`, `target`, ...) -/
theorem configuration_private :
    facts17.kwIsolated = true ∧ facts17.parserPerRequest = true ∧ facts17.extraKwKeys = 0 := by decide

/-! ### the configuration path after construction: validator choice, `set_validator`, `set_app`,
    server construction — the keyword table AT REQUEST TIME -/

/-- nothing in spyne/ writes to a `parser_kwargs` outside an `__init__` -/
theorem no_writes_after_init : facts17.kwWritesOutsideInit = 0 := by decide

/-- for ALL constructor arguments, every protocol and every validator setting (None, 'soft',
    'lxml'): the table the parser is built from when a request arrives is the constructor's -/
theorem request_time_is_constructor (p : Proto) (v : Validator) (a : CtorArgs) :
    parserKwargsAtRequest facts17 p v a = directKw a := by
  have h : facts17.post p v = PostInit.keepAll := by cases p <;> cases v <;> decide
  unfold parserKwargsAtRequest
  rw [h, plumbing_direct]
  rfl

/-- Safe is an invariant of every configuration path: constructor arguments × validator × set_app -/
theorem safe_invariant (p : Proto) (v : Validator) (a : CtorArgs)
    (h : a.resolveEntities = .off ∧ a.loadDtd = false ∧ a.dtdValidation = false ∧
         a.attributeDefaults = false ∧ a.noNetwork = true ∧ a.hugeTree = false) :
    Safe (parserKwargsAtRequest facts17 p v a) := by
  rw [request_time_is_constructor]; exact (safe_directKw_iff a).mpr h

/-- in particular the default-constructed protocols, read back from live objects at request time -/
theorem defaults_safe_at_request (p : Proto) (v : Validator) :
    Safe (facts17.liveAtRequest p v) ∧ Tidy (facts17.liveAtRequest p v) ∧
    facts17.liveAtRequest p v = parserKwargsAtRequest facts17 p v (facts17.ctorDefaults p) := by
  cases p <;> cases v <;> decide

example : Safe (parserKwargs (facts17.plumb .soap11) (facts17.ctorDefaults .soap11)) := by decide
example : Safe (parserKwargsAtRequest facts17 .xml .lxml (facts17.ctorDefaults .xml)) := by decide
-- what the facts guard against: a path that switches attribute_defaults on makes the table unsafe
example : ¬ Safe (({ PostInit.keepAll with attributeDefaults := .set true } : PostInit).apply (facts17.liveDefaults .xml)) := by
  decide
example : ¬ Safe (parserKwargs (facts17.plumb .xml) { facts17.ctorDefaults .xml with resolveEntities := .all }) := by decide
example : ¬ Safe (parserKwargs (facts17.plumb .xml) { facts17.ctorDefaults .xml with hugeTree := true }) := by decide

/-! ### call-site discipline (xml.py:425-443, soap11.py:98-117,188-205, soap/mime.py:60-101) -/

/-- every parse call reachable from `create_in_document` of the three protocols is given
    `XMLParser(**self.parser_kwargs)` (or cannot parse at all: an attribute that does not exist) -/
theorem all_request_sites_use_kwargs :
    ∀ s ∈ facts17.sites, s.role.onRequestPath = true → s.parser = .fromKwargs ∨ s.parser = .missingAttr := by
  decide

/-- ... and an XMLSyntaxError raised there becomes `Fault('Client.XMLSyntaxError')` -/
theorem all_request_sites_catch :
    ∀ s ∈ facts17.sites, s.role.onRequestPath = true → s.catchesSyntaxError = true := by decide

/-- the four roles the request path actually goes through are all present and good -/
theorem request_roles_good : SitesUseKwargs facts17 = true ∧ SitesCatch facts17 = true := by decide

/-- no XInclude pass is ever run on a request (XInclude elements are ordinary elements) -/
theorem no_xinclude_pass : facts17.xincludeCalls = 0 := by decide

/-! ### the abstract front end under a safe configuration (for all documents, all worlds) -/

/-- no local file is read, no network resource contacted, no DTD piece loaded -/
theorem no_fetch (kw : ParserKw) (h : Safe kw) (env : Env) (doc : Doc) :
    (parse facts17.lib kw env doc).fetches = [] :=
  parse_quiet_no_fetch _ kw env h.quiet doc

/-- non-interference: what the parser delivers does not depend on anything outside the document
    — the replacement text of external general and parameter entities can reach neither user
    code nor the response, whatever they compute from the parsed document -/
theorem noninterference (kw : ParserKw) (h : Safe kw) (e1 e2 : Env) (doc : Doc) :
    parse facts17.lib kw e1 doc = parse facts17.lib kw e2 doc :=
  parse_quiet_env _ kw e1 e2 h.quiet doc

/-- the DOCTYPE loads nothing: the only declarations in force are those written in the
    document's own internal subset -/
theorem dtd_never_loaded (kw : ParserKw) (h : Safe kw) (env : Env) (d : Dtd) :
    dtdPhase facts17.lib kw env d = ⟨.ok d.ents, []⟩ :=
  dtdPhase_quiet _ kw env h.quiet d

/-- entities are not expanded into element text: the text nodes delivered are exactly the text
    nodes written in the document, in order -/
theorem text_never_substituted (kw : ParserKw) (h : Safe kw) (env : Env) (doc : Doc) (o : List OTok)
    (hok : (parse facts17.lib kw env doc).out = .ok o) : outTexts o = srcTexts doc.body :=
  parse_texts _ kw env h.resolveEntities doc o hok

/-- defence in depth: with `no_network` alone — whatever else is switched on — nothing the
    parser opens is a network resource -/
theorem no_network_ever (kw : ParserKw) (h : kw.noNetwork = true) (env : Env) (doc : Doc) :
    ∀ u ∈ (parse facts17.lib kw env doc).fetches, facts17.lib.isNet u.scheme = false :=
  parse_nonnet _ kw env h doc

/-- the same for ANY configuration that neither substitutes external entities nor loads DTDs
    (`resolve_entities` False or 'internal'): nothing is opened -/
theorem no_fetch_without_substitution (kw : ParserKw) (h1 : kw.resolveEntities ≠ .all) (h2 : kw.dtdLoads = false)
    (env : Env) (doc : Doc) : (parse facts17.lib kw env doc).fetches = [] :=
  parse_no_fetch _ kw env h1 h2 doc

/-- the schema tools (`parse_schema_string`, `parse_schema_file`, xsd includes; not on the request path) parse
    with a module-level parser of their own; as measured it opens nothing on behalf of a document either -/
theorem schema_tool_opens_nothing (env : Env) (doc : Doc) :
    (parse facts17.lib facts17.schemaToolKw env doc).fetches = [] :=
  parse_no_fetch _ _ env (by decide) (by decide) doc

/-- ... and neither does lxml's default parser, which the remaining off-path sites use -/
theorem lxml_default_opens_nothing (env : Env) (doc : Doc) :
    (parse facts17.lib facts17.lxmlDefault env doc).fetches = [] :=
  parse_no_fetch _ _ env (by decide) (by decide) doc

/-! ### what the deserialiser takes out of the tree, per kind of value -/

/-- every kind of value (primitive parameters, array items, members of nested classes, XmlData,
    AnyDict leaves) is built from text nodes only; AnyXml / AnyHtml hand the element on as parsed;
    an XmlData value that contains an entity node is refused (the method is not called).
    None reads libxml2's string value, which would materialise entity replacement text. -/
theorem values_read_text_nodes_only (k : Kind) :
    facts17.deliver k = .textNodesOnly ∨ facts17.deliver k = .element ∨ facts17.deliver k = .refused := by
  cases k <;> decide

/-- so, for every kind: what a leaf value is built from does not depend on ANY entity
    declaration (nor on anything else in the parser's state) — no replacement text of an entity,
    internal or external, is materialised by spyne in a value handed to user code -/
theorem no_entity_text_delivered (k : Kind) (c c' : Cfg) (content : List OTok) :
    deliverLeaf (facts17.deliver k) c content = deliverLeaf (facts17.deliver k) c' content := by
  rcases values_read_text_nodes_only k with h | h | h <;> rw [h] <;> rfl

/-- ... and it is the leading text node, which (text_never_substituted) is the document's own text -/
theorem delivered_is_leading_text (k : Kind) (c : Cfg) (content : List OTok)
    (h : facts17.deliver k = .textNodesOnly) : deliverLeaf (facts17.deliver k) c content = leadText content := by
  rw [h]; rfl

-- what the fact guards against: reading the string value substitutes the replacement text
example : deliverLeaf .stringValue ⟨facts17.lib, facts17.liveDefaults .xml, ⟨fun _ => false, fun _ => [], fun _ => []⟩,
      [(1, .internal [.lit "IENT".toList])], false, 50⟩ [.text "pre-".toList, .ent 1] = "pre-IENT".toList := by
  decide +kernel
example : deliverLeaf .textNodesOnly ⟨facts17.lib, facts17.liveDefaults .xml, ⟨fun _ => false, fun _ => [], fun _ => []⟩,
      [(1, .internal [.lit "IENT".toList])], false, 50⟩ [.text "pre-".toList, .ent 1] = "pre-".toList := by
  decide +kernel

/-! ### bombs -/

/-- nesting bomb: a document nested deeper than the limit is rejected -/
theorem nesting_bomb_rejected (kw : ParserKw) (h : Safe kw) (env : Env) (doc : Doc)
    (hd : facts17.lib.maxDepth < maxDepthFrom 0 doc.body) :
    ∃ e, (parse facts17.lib kw env doc).out = .err e :=
  parse_depth _ kw env h.hugeTree doc hd

/- FULL STATEMENT (not provable here, kept visible): "entity-expansion or nesting bombs are rejected
   as client syntax faults in bounded TIME and MEMORY", i.e. for every request the wall-clock time and
   the peak memory of the parsing process are O(size of the request).  Time and the allocator of
   libxml2 are outside any executable model; they are measured per request by T3 (wall time and
   peak-RSS growth of the worker subprocess, limits 2 s / 96 MB, observed maxima in the evidence).
   PROVED PART (`_partial`): rejection (nesting_bomb_rejected, entity_loop_rejected,
   rejected_is_client_fault) and the size of everything the parser hands on: -/
/-- expansion bomb, memory: whatever is accepted delivers at most the document's own characters
    plus an expansion that stayed within libxml2's budget — linear in the size of the request -/
theorem bomb_memory_bounded_partial (kw : ParserKw) (h : Safe kw) (env : Env) (doc : Doc) (o : List OTok)
    (hok : (parse facts17.lib kw env doc).out = .ok o) :
    outSize o ≤ litSize doc.body +
      max facts17.lib.allowedExpansion (facts17.lib.maxAmpl * (doc.size + 1)) :=
  parse_bound _ kw env h.hugeTree (by decide) doc o hok

/-- entity loop: a document that refers, in element content or in an attribute value, to an
    entity whose replacement text refers to itself is rejected -/
theorem entity_loop_rejected (kw : ParserKw) (h : Safe kw) (env : Env) (doc : Doc) (d : Dtd)
    (n : Nat) (body : List Piece) (hdtd : doc.dtd = some d)
    (hdecl : lookup d.ents n = some (.internal body)) (hself : Piece.ref n ∈ body)
    (huse : Tok.ref n ∈ doc.body ∨
            ∃ tag as nm ps, Tok.open tag as ∈ doc.body ∧ (nm, ps) ∈ as ∧ Piece.ref n ∈ ps) :
    ∃ e, (parse facts17.lib kw env doc).out = .err e :=
  parse_self_loop _ kw h.quiet env doc d n body hdtd hdecl hself huse

/-! ### the request path: `create_in_document` of XmlDocument / Soap11 / Soap12, through
    ServerBase or WSGI, plain or multipart; the rest of the request (deserialisation, the user's
    method, serialisation of the response) is an ARBITRARY function `rest` of the parsed document -/

/-- nothing outside the request can influence what user code receives or what is sent back -/
theorem request_noninterference {α : Type} (p : Proto) (tr : Transport) (kw : ParserKw) (h : Safe kw)
    (e1 e2 : Env) (req : Req) (rest : List OTok → α) :
    handle facts17 p tr kw e1 req rest = handle facts17 p tr kw e2 req rest := by
  unfold handle
  rw [createInDocument_good facts17 request_roles_good.1 request_roles_good.2, createInDocument_good facts17 request_roles_good.1 request_roles_good.2,
    pipeline_env _ p tr kw e1 e2 h.quiet req]

/-- serving a request opens no file and no connection on behalf of the document -/
theorem request_touches_nothing {α : Type} (p : Proto) (tr : Transport) (kw : ParserKw) (h : Safe kw)
    (env : Env) (req : Req) (rest : List OTok → α) :
    (handle facts17 p tr kw env req rest).2 = [] := by
  have := pipeline_no_fetch facts17.lib p tr kw env h.quiet req
  unfold handle
  rw [createInDocument_good facts17 request_roles_good.1 request_roles_good.2]
  revert this
  cases pipeline facts17.lib p tr kw env req with
  | mk o f => cases o <;> simp

/-- the parser stage never crashes the server: it either hands on a document or answers
    `Client.XMLSyntaxError` (any configuration, any request) -/
theorem parser_stage_never_crashes (p : Proto) (tr : Transport) (kw : ParserKw) (env : Env) (req : Req) :
    (∃ t, (createInDocument facts17 p tr kw env req).1 = .ok t) ∨
    (createInDocument facts17 p tr kw env req).1 = .fault "Client.XMLSyntaxError" := by
  rw [createInDocument_good facts17 request_roles_good.1 request_roles_good.2]
  exact pipeline_never_crashes _ p tr kw env req

/-- whatever the front end rejects is answered with the client fault -/
theorem rejected_is_client_fault (p : Proto) (tr : Transport) (kw : ParserKw) (env : Env) (req : Req)
    (e : Err) (hrej : (parse facts17.lib kw env req.doc).out = .err e) :
    (createInDocument facts17 p tr kw env req).1 = .fault "Client.XMLSyntaxError" := by
  rw [createInDocument_good facts17 request_roles_good.1 request_roles_good.2]
  exact pipeline_rejects _ p tr kw env req e hrej

/-- in particular a nesting bomb, over any protocol and transport -/
theorem nesting_bomb_is_client_fault (p : Proto) (tr : Transport) (kw : ParserKw) (h : Safe kw) (env : Env)
    (req : Req) (hd : facts17.lib.maxDepth < maxDepthFrom 0 req.doc.body) :
    (createInDocument facts17 p tr kw env req).1 = .fault "Client.XMLSyntaxError" := by
  obtain ⟨e, he⟩ := nesting_bomb_rejected kw h env req.doc hd
  exact rejected_is_client_fault p tr kw env req e he

/-! ### non-vacuity and tightness: concrete documents -/

section examples

def kwDefault : ParserKw := facts17.liveDefaults .xml

/-- a world in which every external identifier resolves to a secret -/
def world (secret : String) : Env :=
  { present := fun _ => true, text := fun _ => secret.toList,
    decls := fun _ => [(900, .internal [.lit secret.toList])] }

/-- `<!DOCTYPE x [<!ENTITY e1 "IENT"><!ENTITY e2 SYSTEM "file:r1">]><r k="a&e1;">x&e1;y&e2;</r>` -/
def docEnt : Doc :=
  { dtd := some ⟨none, [(1, .internal [.lit "IENT".toList]), (2, .external ⟨.file, 1⟩)], []⟩
    body := [.open "r".toList [("k".toList, [.lit "a".toList, .ref 1])], .text "x".toList, .ref 1,
             .text "y".toList, .ref 2, .close]
    size := 100 }

example : Safe kwDefault := by decide

-- with the defaults: references stay references in element text, the attribute gets the internal
-- replacement text, nothing is opened
example : parse facts17.lib kwDefault (world "S1") docEnt =
    ⟨.ok [.open "r".toList [("k".toList, "aIENT".toList, [.lit "a".toList, .ref 1])], .text "x".toList, .ent 1,
          .text "y".toList, .ent 2, .close], []⟩ := by decide +kernel

-- the hypothesis `Safe` matters: with resolve_entities=True the same document reads the file and
-- delivers its content, and the result depends on the world
example : parse facts17.lib { kwDefault with resolveEntities := .all } (world "S1") docEnt =
    ⟨.ok [.open "r".toList [("k".toList, "aIENT".toList, [.lit "aIENT".toList])], .text "x".toList,
          .text "IENT".toList, .text "y".toList, .text "S1".toList, .close], [⟨.file, 1⟩]⟩ := by decide +kernel
example : parse facts17.lib { kwDefault with resolveEntities := .all } (world "S1") docEnt ≠
          parse facts17.lib { kwDefault with resolveEntities := .all } (world "S2") docEnt := by decide +kernel

/-- `<!DOCTYPE x SYSTEM "file:r50" [<!ENTITY % p SYSTEM "http:r51"> %p;]><r>&e900;</r>` -/
def docDtd : Doc :=
  { dtd := some ⟨some ⟨.file, 50⟩, [], [⟨.http, 51⟩]⟩, body := [.open "r".toList [], .ref 900, .close], size := 100 }

example : parse facts17.lib kwDefault (world "S1") docDtd = ⟨.ok [.open "r".toList [], .ent 900, .close], []⟩ := by
  decide +kernel
-- load_dtd alone makes the parser open the external subset (and refuse the network one)
example : (parse facts17.lib { kwDefault with loadDtd := true } (world "S1") docDtd).out = .err .netBlocked := by
  decide +kernel
example : (parse facts17.lib { kwDefault with loadDtd := true } (world "S1") { docDtd with dtd := some ⟨some ⟨.file, 50⟩, [], []⟩ }).fetches
    = [⟨.file, 50⟩] := by decide +kernel

/-- billion laughs: e0 = 10 characters, e(i+1) = ten references to e(i), nine levels -/
def laughs : Decls :=
  (0, .internal [.lit "aaaaaaaaaa".toList]) ::
    (List.range 9).map fun i => (i + 1, EntDef.internal (List.replicate 10 (.ref i)))

def docBombAttr : Doc :=
  { dtd := some ⟨none, laughs, []⟩, body := [.open "r".toList [("k".toList, [.ref 9])], .close], size := 700 }
def docBombText : Doc :=
  { dtd := some ⟨none, laughs, []⟩, body := [.open "r".toList [], .ref 9, .close], size := 700 }

example : (parse facts17.lib kwDefault (world "S") docBombAttr).out = .err .amplification := by decide +kernel
example : (parse facts17.lib kwDefault (world "S") docBombText).out = .err .amplification := by decide +kernel
-- a small chain is inert: accepted, expanded only inside the attribute value
example : (parse facts17.lib kwDefault (world "S")
    { docBombAttr with body := [.open "r".toList [("k".toList, [.ref 1])], .close] }).out =
    .ok [.open "r".toList [("k".toList, (List.replicate 100 'a'), [.ref 1])], .close] := by decide +kernel

/-- mutual loop e1 -> e2 -> e1 -/
example : (parse facts17.lib kwDefault (world "S")
    { dtd := some ⟨none, [(1, .internal [.ref 2]), (2, .internal [.lit "b".toList, .ref 1])], []⟩,
      body := [.open "r".toList [], .ref 1, .close], size := 90 }).out = .err .entDepth := by decide +kernel

/-- nesting: `maxDepth` levels are accepted, one more is rejected; `huge_tree` lifts the limit -/
def nested (n : Nat) : Doc := ⟨none, List.replicate n (.open "a".toList []) ++ List.replicate n .close, 7 * n⟩

example : facts17.lib.maxDepth < maxDepthFrom 0 (nested (facts17.lib.maxDepth + 1)).body :=
  Nat.lt_of_lt_of_le (by decide) (le_maxDepthFrom_opens _ _ facts17.lib.maxDepth 0 _)
example : (parse facts17.lib kwDefault (world "S") (nested facts17.lib.maxDepth)).out =
    .ok (List.replicate facts17.lib.maxDepth (.open "a".toList []) ++ List.replicate facts17.lib.maxDepth .close) := by
  decide +kernel
example : (parse facts17.lib kwDefault (world "S") (nested (facts17.lib.maxDepth + 1))).out = .err .depth := by
  decide +kernel
example : (parse facts17.lib { kwDefault with hugeTree := true } (world "S") (nested (facts17.lib.maxDepth + 1))).out =
    .ok (List.replicate (facts17.lib.maxDepth + 1) (.open "a".toList []) ++ List.replicate (facts17.lib.maxDepth + 1) .close) := by
  decide +kernel

/-- the request path: a multipart SOAP request carrying an internal entity in element text is
    parsed twice with the protocol's keywords; the reference is never substituted (the second
    parse sees an undeclared reference and answers the client fault) -/
example : (createInDocument facts17 .soap11 .wsgi kwDefault (world "S") ⟨docEnt, true, false⟩).1 =
    .fault "Client.XMLSyntaxError" := by decide +kernel
example : (createInDocument facts17 .soap11 .wsgi kwDefault (world "S") ⟨docEnt, false, false⟩).1 =
    .ok [.open "r".toList [("k".toList, "aIENT".toList, [.lit "a".toList, .ref 1])], .text "x".toList, .ent 1,
         .text "y".toList, .ent 2, .close] := by decide +kernel

/-- what the call-site facts guard against: the same facts with `_join_attachment` given lxml's
    default parser (as on the tree before the repair) substitute the entity into element text -/
def factsMimeDefault : Facts17 :=
  { facts17 with sites := facts17.sites.map fun s =>
      if s.role == .mimeJoin then { s with parser := .lxmlDefault, catchesSyntaxError := false } else s }

example : (createInDocument factsMimeDefault .soap11 .wsgi kwDefault (world "S")
    ⟨{ docEnt with body := [.open "r".toList [], .text "x".toList, .ref 1, .close] }, true, false⟩).1 =
    .ok [.open "r".toList [], .text "x".toList, .text "IENT".toList, .close] := by decide +kernel
example : (createInDocument factsMimeDefault .soap11 .wsgi kwDefault (world "S") ⟨docBombText, true, false⟩).1 =
    .crash "XMLSyntaxError" := by decide +kernel

end examples

end SpyneModel.Props.C17
