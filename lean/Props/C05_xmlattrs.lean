/-
  C05 (XML part), continued — soft validation of classes with XmlAttribute / XmlData members
  (SpyneModel/XmlAttr.lean, vocabulary in Props/C01_attrs.lean).

  "accepted iff every value satisfies the declared constraints", as its two halves:
    IF      `xml_soft_accepts_conformant_attrs`: what is written from an object that satisfies every declared
            constraint — attribute members within the facets of their type and present when required, the
            data member within the facets of its type — is accepted and the object arrives;
    ONLY IF `xml_soft_accepted_conforms_attrs`: for EVERY document, what the soft validator lets through
            satisfies every declared constraint (`okOneA false`), at every nesting depth: a delivered attribute
            value satisfies the facets of the attribute's type, a required attribute was present, the data
            value satisfies the facets of its type.
  And the enforcement point itself shown exact: `xml_soft_attribute_value_exact`.
  Needs the repaired soft checks (switch `attrSoftChecked`: on /repo before the fix a required attribute could
  never be satisfied and no facet of an attribute was enforced) and the child-attribute loop gone (switch
  `childAttrsIgnored`: what it assigned to the parent was never validated).
-/
import Proofs.XmlAttrAccept
import Proofs.XmlAttrRoundtrip
import Proofs.XmlRules
import Props.Facts08Good
import SpyneModel.Generated.Facts01
namespace SpyneModel.Props.C05xmlattrs
open SpyneModel SpyneModel.Xml SpyneModel.Generated

/-- IF: a conformant object is written as one element, accepted under soft validation, and arrives -/
theorem xml_soft_accepts_conformant_attrs (cfg : Cfg) (hv : cfg.validator = .soft) (I : IfaceA) (tns ns name : Text)
    (t : TyA) (ht : tyWfA t = true) (v : Val) (hok : okOneA true t v = true) (hfit : fitsV facts08 v = true) :
    ∃ e, encodeA facts08 tns ns name t v = [e] ∧ decodeA facts08 factsXml factsAttr cfg I t e = .ok (normOneA t v) := by
  exact Xml.xml_roundtrip_attrs
    { L := leafLaws08, hE := fun _ => by decide, hN := isNil_true (by decide), hLeak := by decide, hSoft := fun _ => by decide }
    I tns ns name t ht v (by rw [Cfg.soft_eq_true hv]; exact hok) hfit

/-- ONLY IF: whatever document arrives, a value delivered under soft validation satisfies every declared
    constraint, attribute and data members included -/
theorem xml_soft_accepted_conforms_attrs (cfg : Cfg) (hv : cfg.validator = .soft) (hP : cfg.parseXsiType = false)
    (I : IfaceA) (t : TyA) (ht : tyWfA t = true) (x : Node) (w : Val)
    (h : decodeA facts08 factsXml factsAttr cfg I t x = .ok w) : okOneA false t w = true :=
  fromElementA_acc
    { L := leafLaws08, hE := by decide, hs := Cfg.soft_eq_true hv, hP := hP, hA := by decide, hLeak := by decide }
    I t ht x w h

/-- the enforcement point: an attribute value / the text of an XmlData member is accepted iff the text is in
    the lexical space of the wrapped type and the value satisfies every declared facet; the value is
    delivered unchanged -/
theorem xml_soft_attribute_value_exact (cfg : Cfg) (hv : cfg.validator = .soft) (p : PrimTy) (s : Text) :
    modifierValue facts08 factsAttr cfg p s = leafSpec facts08 p s :=
  soft_modifier_exact leafLaws08 (by decide) cfg (Cfg.soft_eq_true hv) p s

/-! ### non-vacuity -/
def exB : TyA := .obj "B".toList "urn:x".toList none
  [("id".toList, .attribute, .prim (.unicode 1 (some 2) none []) { minOccurs := 1 }),
   ("lang".toList, .attribute, .prim (.unicode 0 none none []) {})] {}
def soft : Cfg := { validator := .soft, parseXsiType := false }
example : tyWfA exB = true := by decide +kernel
/-- present and within the facets: accepted -/
example : decodeA facts08 factsXml factsAttr soft ⟨[], [], []⟩ exB
    (.elem [] "b".toList [("id".toList, "ab".toList)] none []) =
    .ok (.obj "B".toList [("id".toList, .str "ab".toList), ("lang".toList, .none)]) := by rfl
/-- too long for max_len=2: refused -/
example : decodeA facts08 factsXml factsAttr soft ⟨[], [], []⟩ exB
    (.elem [] "b".toList [("id".toList, "abc".toList)] none []) = .fault := by rfl
/-- required attribute missing: refused -/
example : decodeA facts08 factsXml factsAttr soft ⟨[], [], []⟩ exB
    (.elem [] "b".toList [("lang".toList, "en".toList)] none []) = .fault := by rfl

end SpyneModel.Props.C05xmlattrs
