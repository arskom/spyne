/-
  C08, continued — Decimal, the XSD lexical spaces, Uuid, DateTime customisations, Double.
  Property theorems only (further obligations of C08); every theorem is about the model instantiated with
  the facts regenerated from /repo (`Generated.facts08`, `Generated.facts08x`).
-/
import Proofs.Prim2
import SpyneModel.Generated.Facts08
import SpyneModel.Generated.Facts08x
namespace SpyneModel.Props.C08more
open SpyneModel SpyneModel.Generated

/-! ### Decimal -/

/-- every finite `Decimal` (any sign — also of zero —, coefficient and exponent a `Decimal` can carry) whose
    text fits `max_str_len` is read back as exactly the same triple, hence the same number -/
theorem dec_roundtrip (d : Dec) (hrep : d.representable)
    (hlen : (decToText d).length ≤ facts08x.decMaxStrLen) :
    decFromText facts08x (decToText d) = .ok (.fin d) :=
  decFromText_decToText facts08x d hrep hlen

/-- whenever `str(Decimal)` needs no exponent, what is written is an xs:decimal literal -/
theorem dec_plain_in_lexical_space (d : Dec) (h1 : d.exp ≤ 0) (h2 : d.leftdigits > -6) :
    XsdLex.decimal (decToText d) = true := by
  obtain ⟨n, ht, _, hiff⟩ := decToText_numeral d
  rw [ht]
  exact n.xsd (hiff.2 ⟨h1, h2⟩)

/-- KNOWN FINDING (D04, `lex:decimal:scientific`): outside that range `str(Decimal)` switches to scientific
    notation, which is not in the lexical space of xs:decimal — witness `Decimal('1E+10')`.
    The full statement `∀ d, XsdLex.decimal (decToText d)` is therefore false for the code as it is. -/
theorem dec_scientific_not_lexical :
    decToText ⟨false, 1, 10⟩ = "1E+10".toList ∧ XsdLex.decimal (decToText ⟨false, 1, 10⟩) = false ∧
    decToText ⟨false, 0, -7⟩ = "0E-7".toList ∧ XsdLex.decimal (decToText ⟨false, 0, -7⟩) = false := by
  decide +kernel

/-- every literal of xs:decimal within the length guard is read, and as the number it denotes
    (`num / 10^scale`, compared by cross-multiplication) -/
theorem dec_literal_read (s : Text) (h : XsdLex.decimal s = true) (hlen : s.length ≤ facts08x.decMaxStrLen) :
    ∃ d, decFromText facts08x s = .ok (.fin d) ∧
      sameValue d.num d.scale (XsdLex.valueOfDecimal s).1 (XsdLex.valueOfDecimal s).2 :=
  decFromText_xsdDecimal facts08x (by decide) s h hlen

/-- text that is not a decimal numeral is answered with a ValidationError, never with another exception -/
theorem dec_never_crashes (s : Text) (e : String) : decFromText facts08x s ≠ .crash e :=
  decFromText_ne_crash facts08x s e

example : Dec.representable ⟨true, 12345, -10⟩ := by unfold Dec.representable; decide +kernel
-- Where an example below starts with `rw [String.toList_ofList]`, the literals `"…".toList` of its statement become the
-- lists of their characters before the kernel evaluates the rest (a literal is `String.ofList` of them): decoding a
-- literal's bytes is quadratic in its length there, and dearer than the function under test. It is done where a literal is long, or compared
-- often enough, that decoding it costs more than the rewrite (by measurement); short literals are left to the kernel.
example : decToText ⟨true, 12345, -10⟩ = "-0.0000012345".toList := by
  repeat rw [String.toList_ofList]
  decide +kernel
example : decFromText facts08x "-0.0000012345".toList = .ok (.fin ⟨true, 12345, -10⟩) := by
  repeat rw [String.toList_ofList]
  decide +kernel
example : decFromText facts08x " +1_0.50e-3 ".toList = .ok (.fin ⟨false, 1050, -5⟩) := by
  repeat rw [String.toList_ofList]
  decide +kernel
example : XsdLex.decimal "+.5".toList = true ∧ XsdLex.valueOfDecimal "-01.50".toList = (-150, 2) := by decide +kernel

/-! ### the XSD lexical spaces of integer, boolean, date, time, dateTime, duration -/

theorem int_in_lexical_space (i : Int) : XsdLex.integer (intToText i) = true :=
  xsdInteger_intToText i

/-- every xs:integer literal (optional sign, leading zeros allowed) within the length guard of the type is
    read as the number it denotes -/
theorem int_literal_read (k : IntKind) (s : Text) (h : XsdLex.integer s = true)
    (hlen : s.length ≤ facts08.intMaxStrLen k) : intFromText facts08 k s = .ok (XsdLex.valueOfInteger s) :=
  intFromText_xsdInteger facts08 k s h hlen

theorem bool_in_lexical_space (b : Bool) : XsdLex.boolean (boolToText b) = true := by cases b <;> decide +kernel

theorem bool_literal_read (s : Text) (h : XsdLex.boolean s = true) :
    boolFromText facts08 s = .ok (XsdLex.valueOfBoolean s) := by
  simp only [XsdLex.boolean, Bool.or_eq_true, decide_eq_true_eq] at h
  rcases h with ((h | h) | h) | h <;> subst h <;> decide +kernel

theorem date_in_lexical_space (x : Date) (h : x.valid = true) : XsdLex.date (isoDate x) = true := by
  have := xsd_dateHead_isoDate x h []
  simp only [List.append_nil] at this
  simp [XsdLex.date, this, xsd_zone_nil]

theorem time_in_lexical_space (t : Time) (h : t.valid = true) : XsdLex.time (isoTime t) = true := by
  have := xsd_timeHead_isoTime t h [] zoneStart_nil
  simp only [List.append_nil] at this
  simp [XsdLex.time, this, xsd_zone_nil]

/-- what is written for any valid datetime (year 0001..9999, naive or with an offset within ±14:00, which is all
    XSD allows) is an xs:dateTime literal -/
theorem datetime_in_lexical_space (x : DateTime) (h : x.valid = true)
    (htz : ∀ m, x.tz = some m → -840 ≤ m ∧ m ≤ 840) : XsdLex.dateTime (isoDateTime x) = true := by
  simp [XsdLex.dateTime, xsdDateTimeLit_isoDateTime x h htz]

/-- every xs:dateTime literal that denotes a value a `datetime` can hold (year 0001..9999, hour < 24, a whole
    number of microseconds; `Z`, any offset up to ±14:00 or none; fraction of any length) is read as that value.
    The `24:00:00` spelling is excluded: see KNOWN FINDING `lex-read:dateTime:24:00:00`. -/
theorem datetime_literal_read (s : Text) (l : XsdLex.DtLit) (x : DateTime)
    (h : XsdLex.dateTimeLit s = some l) (hv : l.value? = some x) : dateTimeFromText facts08 s = .ok x :=
  dateTimeFromText_xsd_value facts08 (by decide) s l x h hv

/-- …and with a fraction that is not a whole number of microseconds it is read with the fraction rounded
    (half-even on the decimal digits, capped at 999999 µs: `fracToMicros`) -/
theorem datetime_literal_read_rounded (s : Text) (l : XsdLex.DtLit) (h : XsdLex.dateTimeLit s = some l)
    (hneg : l.neg = false) (hy : l.year.length = 4) (h24 : l.hour < 24) :
    dateTimeFromText facts08 s =
      .ok ⟨⟨valNat l.year, l.month, l.day⟩, ⟨l.hour, l.minute, l.second, fracToMicros l.frac⟩, l.tz⟩ :=
  dateTimeFromText_xsd facts08 (by decide) s l h hneg hy h24

theorem duration_in_lexical_space (us : Int) : XsdLex.duration (durToText facts08 us) = true :=
  xsdDuration_durToText facts08 (by decide) us

/-- every dayTimeDuration literal (no years/months, at most six fraction digits) that a `timedelta` can hold is
    read as the duration it denotes, to the microsecond -/
theorem duration_literal_read (s : Text) (l : DurLit) (h : XsdLex.durationLit s = some l)
    (hy : l.years = 0) (hm : l.months = 0) (hf : l.secFrac.length ≤ 6)
    (hmax : XsdLex.dayTimeMicros l ≤ maxDurUs)
    (hmin : l.neg = true → XsdLex.dayTimeMicros l ≤ 999999999 * usPerDay) :
    durFromText facts08 s =
      .ok (if l.neg then -(XsdLex.dayTimeMicros l : Int) else (XsdLex.dayTimeMicros l : Int)) := by
  have e := micros_dayTime l hy hm hf
  rw [← e] at hmax hmin ⊢
  exact durFromText_xsd facts08 (by decide) s l h hmax hmin

example : XsdLex.dateTimeLit "2020-02-29T23:59:59.5+14:00".toList =
    some ⟨false, "2020".toList, 2, 29, 23, 59, 59, "5".toList, some 840⟩ := by
  repeat rw [String.toList_ofList]
  decide +kernel
example : (XsdLex.DtLit.mk false "2020".toList 2 29 23 59 59 "5".toList (some 840)).value? =
    some ⟨⟨2020, 2, 29⟩, ⟨23, 59, 59, 500000⟩, some 840⟩ := by decide +kernel
example : XsdLex.dateTime "2021-02-29T00:00:00".toList = false ∧ XsdLex.dateTime "2020-01-01T24:00:00".toList = true ∧
    XsdLex.dateTime "2020-01-01T00:00:00+14:01".toList = false := by
  repeat rw [String.toList_ofList]
  decide +kernel
example : XsdLex.durationLit "-P1DT2H3M4.5S".toList =
    some { neg := true, days := 1, hours := 2, minutes := 3, secInt := 4, secFrac := "5".toList } := by
  repeat rw [String.toList_ofList]
  decide +kernel
example : XsdLex.duration "P1DT".toList = false ∧ XsdLex.duration "P".toList = false ∧ XsdLex.duration "PT1.S".toList = false := by
  decide +kernel
example : XsdLex.integer "+007".toList = true ∧ XsdLex.valueOfInteger "-007".toList = -7 := by decide +kernel

/-! ### Uuid -/

/-- every UUID (any 16 bytes) survives its `8-4-4-4-12` text form -/
theorem uuid_roundtrip (bs : List Nat) (hl : bs.length = 16) (h : bytesOk bs) :
    uuidFromText (uuidToText bs) = .ok bs :=
  (uuidToText_spellings bs hl h).1

/-- …and that text matches the `pattern` facet the schema advertises for Uuid -/
theorem uuid_in_lexical_space (bs : List Nat) (hl : bs.length = 16) (h : bytesOk bs) :
    uuidPattern (uuidToText bs) = true :=
  uuidPattern_uuidToText bs hl h

/-- the other spellings `uuid.UUID` accepts denote the same UUID: `urn:uuid:` prefix, braces, bare 32 digits -/
theorem uuid_other_spellings (bs : List Nat) (hl : bs.length = 16) (h : bytesOk bs) :
    uuidFromText ("urn:uuid:".toList ++ uuidToText bs) = .ok bs ∧
    uuidFromText ('{' :: (uuidToText bs ++ ['}'])) = .ok bs ∧
    uuidFromText (hexenc bs) = .ok bs :=
  ⟨(uuidToText_spellings bs hl h).2.1, (uuidToText_spellings bs hl h).2.2, uuidFromText_hex bs hl h⟩

theorem uuid_never_crashes (s : Text) (e : String) : uuidFromText s ≠ .crash e :=
  uuidFromText_ne_crash s e

example : uuidToText [18, 52, 86, 120, 18, 52, 86, 120, 18, 52, 86, 120, 18, 52, 86, 255] =
    "12345678-1234-5678-1234-5678123456ff".toList := by
  repeat rw [String.toList_ofList]
  decide +kernel
example : uuidFromText "urn:uuid:{12345678-1234-5678-1234-5678123456FF}".toList =
    .ok [18, 52, 86, 120, 18, 52, 86, 120, 18, 52, 86, 120, 18, 52, 86, 255] := by
  repeat rw [String.toList_ofList]
  decide +kernel
example : uuidFromText "12345678-1234-5678-1234-5678123456f".toList = .fault := by
  repeat rw [String.toList_ofList]
  decide +kernel

/-! ### DateTime customisations (fixed-offset zones) -/

/-- `astimezone` keeps the instant (UTC microsecond count), installs the target offset and yields a valid
    datetime whenever it does not overflow -/
theorem astimezone_keeps_instant (same : Bool) (x y : DateTime) (o : Int) (hx : x.valid = true)
    (ho1 : -1440 < o) (ho2 : o < 1440) (hsame : same = true → x.tz = some o)
    (h : astimezone same x o = .ok y) : instant y = instant x ∧ y.tz = some o ∧ y.valid = true := by
  obtain ⟨a, b, c, _⟩ := astimezone_ok same x o y hx ho1 ho2 hsame h
  exact ⟨a, b, c⟩

/-- `DateTime(as_timezone=o)`: any aware value that can be written (its UTC wall clock and its wall clock in the
    target zone lie in years 1..9999) is read back as the same instant, carrying offset `o` -/
theorem as_timezone_roundtrip (same : Bool) (x : DateTime) (m o : Int) (text : Text)
    (hx : x.valid = true) (htz : x.tz = some m) (ho1 : -1440 < o) (ho2 : o < 1440) (hsame : same = true → m = o)
    (hutc : inYears (shiftWall x.date x.time (-m)).1 = true)
    (henc : dateTimeToTextC false (some o) same true x = .ok text) :
    ∃ y, dateTimeFromTextC facts08 facts08x (some o) text = .ok y ∧ y.tz = some o ∧ instant y = instant x :=
  astz_roundtrip facts08 facts08x (by decide) same x m o text hx htz ho1 ho2 hsame hutc henc

/-- reading under `as_timezone=o` (any protocol, SOAP included): an aware value is converted — equal instants — -/
theorem as_timezone_read (s : Text) (x' y : DateTime) (m o : Int)
    (hp : dateTimeFromText facts08 s = .ok x') (hv : x'.valid = true) (htz : x'.tz = some m)
    (ho1 : -1440 < o) (ho2 : o < 1440)
    (h : dateTimeFromTextC facts08 facts08x (some o) s = .ok y) :
    instant y = instant x' ∧ y.tz = some o ∧ y.valid = true :=
  astz_read facts08 facts08x s x' y m o hp hv htz ho1 ho2 h

/-- …and a naive one takes the zone with its wall clock unchanged -/
theorem as_timezone_read_naive (s : Text) (x' : DateTime) (o : Int)
    (hp : dateTimeFromText facts08 s = .ok x') (htz : x'.tz = none) :
    dateTimeFromTextC facts08 facts08x (some o) s = .ok { x' with tz := some o } :=
  astz_read_naive facts08 facts08x s x' o hp htz

/-- `DateTime(timezone=False)`: the offset is stripped on output, all wall-clock fields are read back -/
theorem no_timezone_roundtrip (same : Bool) (x : DateTime) (hx : x.valid = true) :
    dateTimeToTextC false none same false x = .ok (isoDateTime { x with tz := none }) ∧
    dateTimeFromTextC facts08 facts08x none (isoDateTime { x with tz := none }) = .ok { x with tz := none } :=
  notz_roundtrip facts08 facts08x (by decide) same x hx

example : dateTimeToTextC false (some 330) false true ⟨⟨2020, 1, 1⟩, ⟨0, 30, 0, 5⟩, some 60⟩ =
    .ok "2020-01-01T05:00:00.000005+05:30".toList := by
  repeat rw [String.toList_ofList]
  decide +kernel
example : inYears (shiftWall ⟨2020, 1, 1⟩ ⟨0, 30, 0, 5⟩ (-60)).1 = true := by decide +kernel
example : astimezone false ⟨⟨1, 1, 1⟩, ⟨0, 0, 0, 0⟩, some 60⟩ 0 = .crash "OverflowError" := by decide +kernel

/-! ### `dt_format` / `date_format` over the directives `%Y %m %d %H %M %S` -/

/-- `DateTime(dt_format=fmt)` for every well-formed format that names all six fields: what `strftime` writes for
    any valid datetime is read back by `strptime` as the same wall clock to the second (microseconds and offset
    are not written by these directives).  Years below 1000 need the zero-padded `%Y` (`facts08x.oldYearPad`). -/
theorem dt_format_roundtrip (fmt : Fmt) (hwf : fmt.wf = true)
    (hall : fmt.hasAll [.Y, .m, .d, .H, .M, .S] = true) (x : DateTime) (hx : x.valid = true)
    (hpad : facts08x.oldYearPad = .zero ∨ 1000 ≤ x.date.y) :
    dateTimeFromTextFmt facts08x fmt none (renderFmt facts08x (fieldsOf x.date x.time) fmt) =
      .ok ⟨x.date, ⟨x.time.h, x.time.mi, x.time.s, 0⟩, none⟩ :=
  dateTimeFromTextFmt_render facts08x fmt hwf hall x hx hpad none (fun h => absurd rfl h)

/-- `DateTime(dt_format=fmt, as_timezone=o)`: an aware value is converted to the zone (same instant), written, and
    read back with the zone put on again — the same instant to the second.  Needs the `as_timezone` branch of
    `_datetime_from_unicode` to do what its documentation says (`facts08x.fmtAsTz = .replace`).  That switch, like
    `facts08x.soapDateIso` in `date_format_soap_roundtrip` below, is a hypothesis and not discharged by `decide`: the
    statement holds whatever value is regenerated, and harness/c08x4.py reports a switch that is off as a finding
    (`switch:fmtAsTz=…`, `switch:soapDateIso=False`); with /repo as it is both have the value asked for. -/
theorem dt_format_as_timezone_roundtrip (hF : facts08x.fmtAsTz = .replace) (fmt : Fmt) (hwf : fmt.wf = true)
    (hall : fmt.hasAll [.Y, .m, .d, .H, .M, .S] = true) (same : Bool) (x x1 : DateTime) (o : Int) (text : Text)
    (hx : x.valid = true) (ho1 : -1440 < o) (ho2 : o < 1440) (hsame : same = true → x.tz = some o)
    (hconv : astimezone same x o = .ok x1)
    (hpad : facts08x.oldYearPad = .zero ∨ 1000 ≤ x1.date.y) :
    dateTimeFromTextFmt facts08x fmt (some o) (renderFmt facts08x (fieldsOf x1.date x1.time) fmt) =
      .ok ⟨x1.date, ⟨x1.time.h, x1.time.mi, x1.time.s, 0⟩, some o⟩ ∧ instant x1 = instant x ∧ x1.tz = some o := by
  obtain ⟨hi, htz, hv, _⟩ := astimezone_ok same x o x1 hx ho1 ho2 hsame hconv
  exact ⟨dateTimeFromTextFmt_render facts08x fmt hwf hall x1 hv hpad (some o) (fun _ => hF), hi, htz⟩

/-- `Date(date_format=fmt)` for every well-formed format naming year, month and day -/
theorem date_format_roundtrip (fmt : Fmt) (hwf : fmt.wf = true) (hall : fmt.hasAll [.Y, .m, .d] = true)
    (x : Date) (hx : x.valid = true) (hpad : facts08x.oldYearPad = .zero ∨ 1000 ≤ x.y) :
    dateFromTextFmt facts08 fmt (dateToTextFmt facts08x false fmt x) = .ok x :=
  dateFromTextFmt_render facts08x facts08 fmt hwf hall x hx hpad

/-- Soap11/Soap12 read dates in ISO form only; provided they also write them so (`facts08x.soapDateIso`),
    a `date_format` does not get in the way -/
theorem date_format_soap_roundtrip (hS : facts08x.soapDateIso = true) (fmt : Fmt) (x : Date) (hx : x.valid = true) :
    dateFromText facts08 (dateToTextFmt facts08x true fmt x) = .ok x := by
  simp only [dateToTextFmt, hS, Bool.and_self, if_true]
  exact dateFromText_isoDate facts08 x hx

/-- text that does not match the format is never anything but an error of the documented kind -/
theorem dt_format_mismatch (fmt : Fmt) (asTz : Option Int) (s : Text) (h : strptimeFmt fmt s {} = none) :
    dateTimeFromTextFmt facts08x fmt asTz s = fmtError facts08x := by
  simp [dateTimeFromTextFmt, h]

/-- every textual `serialize_as` form of Uuid (`None`, `'hex'`, `'urn'`) survives -/
theorem uuid_serialize_as_roundtrip (form : UuidForm) (bs : List Nat) (hl : bs.length = 16) (h : bytesOk bs) :
    uuidFromText (uuidToTextAs form bs) = .ok bs := by
  cases form with
  | canonical => exact (uuidToText_spellings bs hl h).1
  | hex => exact uuidFromText_hex bs hl h
  | urn => exact (uuidToText_spellings bs hl h).2.1

example : Fmt.wf [.dir .d, .lit '.', .dir .m, .lit '.', .dir .Y, .lit ' ', .dir .H, .lit 'h', .dir .M, .lit ':', .dir .S] = true := by
  decide +kernel
example : renderFmt facts08x ⟨2020, 1, 2, 3, 4, 5⟩ [.dir .d, .lit '.', .dir .m, .lit '.', .dir .Y, .lit ' ', .dir .H, .lit 'h', .dir .M, .lit ':', .dir .S] =
    "02.01.2020 03h04:05".toList := by
  repeat rw [String.toList_ofList]
  decide +kernel
example : strptimeFmt [.dir .d, .lit '.', .dir .m, .lit '.', .dir .Y] " 2.1.2020".toList {} = some ⟨2020, 1, 2, 0, 0, 0⟩ := by
  repeat rw [String.toList_ofList]
  decide +kernel
example : strptimeFmt [.dir .Y, .lit '-', .dir .m] "2020-13".toList {} = none := by decide +kernel

/-! ### xs:base64Binary literals, white space included -/

/-- every literal of xs:base64Binary — with a single space after any character as the grammar allows, and, the
    whiteSpace facet being `collapse`, with runs of space / tab / CR / LF in those places and around — denotes a
    byte string, and is read as exactly that byte string (re-encoding it gives the literal without its white
    space).  Rests on `ByteArray.from_base64` skipping white space (`facts08x.b64IgnoresWhitespace`, by `decide`). -/
theorem base64_literal_read (s : Text) (h : XsdLex.base64Binary s = true) :
    ∃ bs, b64FromText facts08x s = some bs ∧ bytesOk bs ∧ b64enc false bs = dropXmlSpace s := by
  have hF : facts08x.b64IgnoresWhitespace = true := by decide
  obtain ⟨bs, hd, hok, he⟩ := b64_literal_denotes (dropXmlSpace s) h
  exact ⟨bs, by simp [b64FromText, hF, hd], hok, he⟩

/-- white space never changes what is read: two texts that differ only in white space are read alike -/
theorem base64_whitespace_irrelevant (s t : Text) (h : dropXmlSpace s = dropXmlSpace t) :
    b64FromText facts08x s = b64FromText facts08x t := by
  have hF : facts08x.b64IgnoresWhitespace = true := by decide
  simp [b64FromText, hF, h]

example : XsdLex.base64Binary "AAEC AwQF".toList = true ∧ XsdLex.base64Binary " A A E C\r\n\tAwQF\n".toList = true ∧
    XsdLex.base64Binary "AAEC AwQ".toList = false ∧ XsdLex.base64Binary "YR==".toList = false := by
  repeat rw [String.toList_ofList]
  decide +kernel
example : b64FromText facts08x "AAEC\nAwQF".toList = some [0, 1, 2, 3, 4, 5] := by
  repeat rw [String.toList_ofList]
  decide +kernel
example : XsdLex.hexBinary " 0aFF\n".toList = true ∧ XsdLex.hexBinary "0a FF".toList = false := by decide +kernel

/-! ### which encoding a ByteArray travels in -/

/-- `ByteArray(encoding=e)` under any protocol (XmlDocument/Soap suggest base64, HttpRpc urlsafe base64): the declared
    encoding is the one written, so the text is a literal of the advertised schema type (xs:hexBinary for hex,
    xs:base64Binary for base64) and the protocol reads its own output back.  Rests on `declaredBeatsSuggested`. -/
theorem bytearray_declared_encoding (e : BaEnc) (suggested protoDefault : Option BaEnc) (bs : List Nat) (h : bytesOk bs) :
    byteArrayToTextP facts08x (some e) suggested protoDefault bs = some (encodeWith e bs) ∧
    advertisedLex e (encodeWith e bs) = true ∧
    byteArrayFromTextP (some e) suggested (encodeWith e bs) = some bs :=
  byteArray_declared facts08x (by decide) e suggested protoDefault bs h

theorem bytearray_suggested_encoding (e : BaEnc) (protoDefault : Option BaEnc) (bs : List Nat) (h : bytesOk bs) :
    byteArrayToTextP facts08x none (some e) protoDefault bs = some (encodeWith e bs) ∧
    byteArrayFromTextP none (some e) (encodeWith e bs) = some bs :=
  byteArray_suggested facts08x e protoDefault bs h

example : byteArrayToTextP facts08x (some .hex) (some .base64) (some .base64) [251, 255] = some "fbff".toList := by decide +kernel
example : byteArrayToTextP facts08x none none none [1] = none := by decide

/-! ### Double: the wrapper around CPython's `repr(float)` / `float(str)` -/

/-- PARTIAL by design (DESIGN §4 C08, Float note a): CPython's shortest-repr and its parser are assumed, as
    hypotheses (not axioms) — `parseF (reprF x) = x` for every finite `x`, and `repr` of a finite float is a numeric
    xs:double literal; T2/T3 exercise both on generated floats by IEEE bits.  What is proved is the wrapper:
    NaN and the infinities are written `NaN` / `INF` / `-INF` and read back, and `float()`'s own special-value
    spellings can never capture what `repr` writes for a finite value. -/
theorem double_roundtrip_partial {α : Type} (reprF : α → Text) (parseF : Text → Option (Dbl α))
    (hbij : ∀ x, parseF (reprF x) = some (.fin x)) (hlex : ∀ x, XsdLex.doubleNumeric (reprF x) = true)
    (v : Dbl α) : doubleFromText parseF (doubleToText reprF v) = .ok v :=
  doubleFromText_doubleToText reprF parseF hbij (fun x => pyFloatSpecial_numeric (reprF x) (hlex x)) v

/-- no numeric xs:double literal is taken for a special value by `float()` -/
theorem double_numeric_not_special {α : Type} (parseF : Text → Option (Dbl α)) (s : Text)
    (h : XsdLex.doubleNumeric s = true) :
    (∀ v, parseF s = some v → doubleFromText parseF s = .ok v) ∧
    (parseF s = none → doubleFromText parseF s = .fault) := by
  unfold doubleFromText
  simp only [pyFloatSpecial_numeric s h]
  exact ⟨fun v hv => by rw [hv], fun hv => by rw [hv]⟩

/-- PARTIAL in the same sense: assuming `repr` of a finite float is a numeric xs:double literal, everything
    written for a Double is an xs:double literal -/
theorem double_in_lexical_space_partial {α : Type} (reprF : α → Text)
    (hlex : ∀ x, XsdLex.doubleNumeric (reprF x) = true) (v : Dbl α) :
    XsdLex.double (doubleToText reprF v) = true := by
  cases v with
  | nan => show XsdLex.double "NaN".toList = true; decide
  | inf neg =>
    cases neg
    · show XsdLex.double "INF".toList = true; decide
    · show XsdLex.double "-INF".toList = true; decide
  | fin x => simp [XsdLex.double, doubleToText, hlex x]

/-- the three special literals of xs:double are read as their values, whatever the numeric parser does -/
theorem double_special_literals {α : Type} (parseF : Text → Option (Dbl α)) :
    doubleFromText parseF "NaN".toList = .ok .nan ∧ doubleFromText parseF "INF".toList = .ok (.inf false) ∧
    doubleFromText parseF "-INF".toList = .ok (.inf true) := by
  refine ⟨?_, ?_, ?_⟩ <;> unfold doubleFromText
  · rw [pyFloatSpecial_literals.1]
  · rw [pyFloatSpecial_literals.2.1]
  · rw [pyFloatSpecial_literals.2.2]

-- the hypotheses are satisfiable: a toy `repr` on two values, written `1.5e+300` and `-0.0`
example : ∃ (reprF : Bool → Text) (parseF : Text → Option (Dbl Bool)),
    (∀ x, parseF (reprF x) = some (.fin x)) ∧ (∀ x, XsdLex.doubleNumeric (reprF x) = true) :=
  ⟨fun b => if b then "1.5e+300".toList else "-0.0".toList,
   fun s => if s = "1.5e+300".toList then some (.fin true) else if s = "-0.0".toList then some (.fin false) else none,
   fun x => by cases x <;> decide, fun x => by cases x <;> decide +kernel⟩
example : XsdLex.double "1.7976931348623157e+308".toList = true ∧ XsdLex.double "-0.0".toList = true ∧
    XsdLex.double "inf".toList = false ∧ XsdLex.double "1e".toList = false := by
  repeat rw [String.toList_ofList]
  decide +kernel

end SpyneModel.Props.C08more
