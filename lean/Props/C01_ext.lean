/-
  C01, continued — SOAP headers (both directions), every body style, multiple return values and the
  Spyne client's call packing. Same vocabulary as Props/C01.lean; `okOneX I cfg.polymorphic cfg.soft t v`
  is "v conforms to t" (over the registry; with an empty byte string counting as None under soft
  validation), `normOneX` applies the three identifications of the statement.

  Headers: `Soap.headerPairs` is what `Soap11.serialize` puts into `Header` (one `to_parent` per declared
  header class and supplied object, in declared order), `Soap.soapServerDecodeH` / `Soap.soapInHeader` is
  what `Soap11.deserialize` hands over as `ctx.in_header` (lookup by QName, declared order, one object
  directly, otherwise a list). The same two functions serve the response direction with the out-header
  classes. `Soap.argsOf` are the positional arguments of the user function for the method's body style,
  `Soap.responseNodes` the body entry of the response, `Client.pack` / `Client.unwrap` are
  `RemoteProcedureBase.get_out_object` / `get_in_object`.
-/
import Proofs.XmlHeaders
import Proofs.XmlClient
import Props.Facts08Good
import SpyneModel.Generated.Facts01
namespace SpyneModel.Props.C01ext
open SpyneModel SpyneModel.Xml SpyneModel.Soap SpyneModel.Client SpyneModel.Generated

/-- the environment of the round-trip lemmas for the facts measured on /repo, every validator -/
theorem rtCtx (cfg : Cfg) (hP : cfg.parseXsiType = true) (I : Iface) (hI : ifaceWf I = true) :
    RtCtx facts08 factsXml cfg I :=
  { L := leafLaws08, hE := fun _ => by decide, hN := isNil_true (by decide), hP := hP, hI := hI }

/-- request direction: header objects written for the declared in-header classes arrive as
    `ctx.in_header` (declared order; 1 class → the object, 0 or ≥ 2 → a list), next to the arguments -/
theorem soap_in_headers_reach_function (cfg : Cfg) (hP : cfg.parseXsiType = true) (I : Iface) (hI : ifaceWf I = true)
    (ver : Version) (ms : Methods) (hdrs : Text → Option (List Ty)) (name : Text) (t : Ty) (ht : tyWf t = true)
    (hm : ms.lookup (clark I.tns name) = some t) (hnf : ¬ (I.tns = envNs ver ∧ name = "Fault".toList))
    (hs : List Ty) (hh : hdrs (clark I.tns name) = some hs) (hnd : textsNodup (hs.map headerKey) = true)
    (hobj : ∀ h ∈ hs, isObjTy h = true ∧ tyWf h = true) (hvals : List Val)
    (hhok : ∀ p ∈ hs.zip hvals, okOneX I cfg.polymorphic cfg.soft p.1 p.2 = true ∧ fitsV facts08 p.2 = true)
    (args : Val) (hok : okOneX I cfg.polymorphic cfg.soft t args = true) (hfit : fitsV facts08 args = true) :
    ∃ e, encode facts08 cfg I I.tns name t args = [e] ∧
      soapServerDecodeH facts08 factsXml factsSoap cfg I ver ms hdrs
          (envelopeH ver (some (headerPairs facts08 cfg I hs hvals)) [e]) =
        .ok (clark I.tns name, some (inHeaderValue (expectHdr I hs hvals)), normOneX I t args) :=
  soapServerDecodeH_rt facts08 factsXml factsSoap cfg I ver ms hdrs (some _) hm hnf
    (one_rt (rtCtx cfg hP I hI) I.tns name t ht args hok hfit)
    fun body => hh ▸ soapInHeader_rt (rtCtx cfg hP I hI) ver hs hnd hobj hvals hhok body

/-- a request without Header leaves `ctx.in_header` None -/
theorem soap_no_header_is_none (cfg : Cfg) (hP : cfg.parseXsiType = true) (I : Iface) (hI : ifaceWf I = true)
    (ver : Version) (ms : Methods) (hdrs : Text → Option (List Ty)) (name : Text) (t : Ty) (ht : tyWf t = true)
    (hm : ms.lookup (clark I.tns name) = some t) (hnf : ¬ (I.tns = envNs ver ∧ name = "Fault".toList))
    (args : Val) (hok : okOneX I cfg.polymorphic cfg.soft t args = true) (hfit : fitsV facts08 args = true) :
    ∃ e, encode facts08 cfg I I.tns name t args = [e] ∧
      soapServerDecodeH facts08 factsXml factsSoap cfg I ver ms hdrs (envelope ver [e]) =
        .ok (clark I.tns name, none, normOneX I t args) :=
  soapServerDecodeH_rt facts08 factsXml factsSoap cfg I ver ms hdrs none hm hnf
    (one_rt (rtCtx cfg hP I hI) I.tns name t ht args hok hfit)
    (soapInHeader_no_header facts08 factsXml cfg I ver _)

/-- response direction: whether user code assigns `ctx.out_header` one object, a list or a TUPLE, the
    Header written holds one element per supplied object for the declared out-header classes in declared
    order, and the receiver (`deserialize` of the response) gets those objects back -/
theorem soap_out_headers_reach_client (cfg : Cfg) (hP : cfg.parseXsiType = true) (I : Iface) (hI : ifaceWf I = true)
    (ver : Version) (hs : List Ty) (hnd : textsNodup (hs.map headerKey) = true)
    (hobj : ∀ h ∈ hs, isObjTy h = true ∧ tyWf h = true) (out : OutHeader) (hvals : List Val)
    (hout : out = .list hvals ∨ out = .tuple hvals ∨ (∃ v, out = .single v ∧ hvals = [v]))
    (hhok : ∀ p ∈ hs.zip hvals, okOneX I cfg.polymorphic cfg.soft p.1 p.2 = true ∧ fitsV facts08 p.2 = true)
    (body : List Node) :
    headerNodes facts08 factsSoap cfg I (some hs) out = .ok (some (headerPairs facts08 cfg I hs hvals)) ∧
    soapInHeader facts08 factsXml cfg I ver (some hs)
        (envelopeH ver (some (headerPairs facts08 cfg I hs hvals)) body) =
      .ok (some (inHeaderValue (expectHdr I hs hvals))) :=
  ⟨headerNodes_seq facts08 (by decide) cfg I hs hout, soapInHeader_rt (rtCtx cfg hP I hI) ver hs hnd hobj hvals hhok body⟩

/-- a tuple is a sequence of header objects exactly like a list (switch `outHeaderTupleOk`) -/
theorem out_header_tuple_like_list (cfg : Cfg) (I : Iface) (classes : Option (List Ty)) (vs : List Val) :
    headerNodes facts08 factsSoap cfg I classes (.tuple vs) = headerNodes facts08 factsSoap cfg I classes (.list vs) := by
  have h : factsSoap.outHeaderTupleOk = true := by decide
  cases classes <;> simp [headerNodes, h]

/-- no out header assigned, or none declared: no Header element -/
theorem no_out_header_no_element (cfg : Cfg) (I : Iface) (classes : Option (List Ty)) :
    headerNodes facts08 factsSoap cfg I classes .none = .ok none := by
  cases classes <;> rfl

/-- the request of ANY body style: the body entry `{tns}name` is deserialised at the in-message class
    (`t` is the wrapper class, or — bare — the type of the single argument) and the function is called
    with `argsOf style` of it: the wrapper's members in order, the bare argument itself, or nothing -/
theorem request_fidelity_any_style (cfg : Cfg) (hP : cfg.parseXsiType = true) (I : Iface) (hI : ifaceWf I = true)
    (ms : Methods) (name : Text) (t : Ty) (ht : tyWf t = true) (hm : ms.lookup (clark I.tns name) = some t)
    (style : Style) (v : Val) (hok : okOneX I cfg.polymorphic cfg.soft t v = true) (hfit : fitsV facts08 v = true) :
    ∃ e, encode facts08 cfg I I.tns name t v = [e] ∧
      (Soap.xmlServerDecode facts08 factsXml cfg I ms e).map (fun r => (r.1, argsOf style r.2)) =
        .ok (clark I.tns name, argsOf style (normOneX I t v)) := by
  obtain ⟨e, he, hd⟩ := xmlServerDecode_rt facts08 factsXml cfg I ms hm (one_rt (rtCtx cfg hP I hI) I.tns name t ht v hok hfit)
  exact ⟨e, he, by rw [hd]; rfl⟩

theorem argsOf_bare (v : Val) : argsOf .bare v = [v] := rfl
theorem argsOf_empty (v : Val) : argsOf .empty v = [] := rfl
theorem argsOf_wrapped (name : Text) (fs : List (Text × Val)) : argsOf .wrapped (.obj name fs) = fs.map (·.2) := rfl

/-- the response of ANY body style denotes what the function returned: wrapped → the out-message object
    with one member per declared return value (multiple return values included), bare / out_bare / empty →
    the single return value as the body entry itself. The receiver's `from_element` at the out-message
    class reads it back. -/
theorem response_fidelity_any_style (cfg : Cfg) (hP : cfg.parseXsiType = true) (I : Iface) (hI : ifaceWf I = true)
    (style : Style) (outName : Text) (outMsg : Ty) (ht : tyWf outMsg = true)
    (hw : style.outWrapped = true → isObjTy outMsg = true) (rets : List Val)
    (hok : okOneX I cfg.polymorphic cfg.soft outMsg (respValue factsSoap style outMsg rets) = true)
    (hfit : fitsV facts08 (respValue factsSoap style outMsg rets) = true) :
    ∃ e, responseNodes facts08 factsSoap cfg I style outName outMsg rets = [e] ∧
      decode facts08 factsXml cfg I outMsg e = .ok (normOneX I outMsg (respValue factsSoap style outMsg rets)) :=
  response_rt (rtCtx cfg hP I hI) factsSoap style outName outMsg ht hw rets hok hfit

/-- a method that is not wrapped and returns nothing answers with the empty element of its member-less response
    class (switch `bareNothingIsEmptyElement`), which is what the receiver reads back -/
theorem bare_nothing_is_the_empty_response (cfg : Cfg) (I : Iface) (style : Style) (hs : style.outWrapped = false)
    (outName name ns : Text) (b : Option Text) (o : Occ) :
    responseNodes facts08 factsSoap cfg I style outName (.obj name ns b [] o) [] = [.elem I.tns outName [] none []] := by
  have h : factsSoap.bareNothingIsEmptyElement = true := by decide
  simp [responseNodes, hs, bareReturn, h, toParent, polyTarget_self, membersToParent]

/-- multiple return values: the i-th return value is the i-th member of the response object -/
theorem multiple_returns_in_order (name ns : Text) (b : Option Text) (k1 k2 : Text) (t1 t2 : Ty) (o : Occ) (r1 r2 : Val) :
    respValue factsSoap .wrapped (.obj name ns b [(k1, t1), (k2, t2)] o) [r1, r2] = .obj name [(k1, r1), (k2, r2)] := rfl

/-- `proc(*args, **kwargs)`: member `k` (the i-th of the request class) is the keyword argument `k` if one
    is given — WHATEVER its value: 0, False, '', Decimal 0 reach the server like any other — else the
    i-th positional argument, else None (switch `kwFalsyKept`) -/
theorem client_packs_every_keyword (fields : List (Text × Ty)) (args : List Val) (kwargs : List (Text × Val))
    (i : Nat) (k : Text) (t : Ty) (h : fields[i]? = some (k, t)) :
    (pack factsClient fields args kwargs)[i]? = some (k, (kwargs.lookup k).getD (args.getD i Val.none)) :=
  pack_getElem factsClient (by decide) fields args kwargs i k t h

/-- client fidelity (wrapped methods, the call style the client supports): the request object packed
    from the call reaches the function member by member, and the value the function returns reaches the
    caller: the wrapper with one member is unwrapped, several return values arrive as the wrapper object -/
theorem client_call_fidelity (cfg : Cfg) (hP : cfg.parseXsiType = true) (I : Iface) (hI : ifaceWf I = true)
    (ms : Methods) (name : Text) (inMsg outMsg : Ty) (hti : tyWf inMsg = true) (hto : tyWf outMsg = true)
    (hio : isObjTy outMsg = true) (hm : ms.lookup (clark I.tns name) = some inMsg)
    (args : List Val) (kwargs : List (Text × Val))
    (hok : okOneX I cfg.polymorphic cfg.soft inMsg (requestObject factsClient inMsg args kwargs) = true)
    (hfit : fitsV facts08 (requestObject factsClient inMsg args kwargs) = true)
    (rets : List Val) (outName : Text)
    (hrok : okOneX I cfg.polymorphic cfg.soft outMsg (outObject outMsg rets) = true)
    (hrfit : fitsV facts08 (outObject outMsg rets) = true) :
    (∃ e, encode facts08 cfg I I.tns name inMsg (requestObject factsClient inMsg args kwargs) = [e] ∧
      Soap.xmlServerDecode facts08 factsXml cfg I ms e =
        .ok (clark I.tns name, normOneX I inMsg (requestObject factsClient inMsg args kwargs))) ∧
    (∃ e', responseNodes facts08 factsSoap cfg I .wrapped outName outMsg rets = [e'] ∧
      (decode facts08 factsXml cfg I outMsg e').map (unwrap outMsg) =
        .ok (unwrap outMsg (normOneX I outMsg (outObject outMsg rets)))) := by
  refine ⟨xmlServerDecode_rt facts08 factsXml cfg I ms hm (one_rt (rtCtx cfg hP I hI) I.tns name inMsg hti _ hok hfit), ?_⟩
  obtain ⟨e', he', hd'⟩ := response_rt (rtCtx cfg hP I hI) factsSoap .wrapped outName outMsg hto (fun _ => hio) rets
    (by simpa [respValue, Style.outWrapped] using hrok) (by simpa [respValue, Style.outWrapped] using hrfit)
  refine ⟨e', he', ?_⟩
  rw [decode, hd']
  simp [Outcome.map, respValue, Style.outWrapped]

/-! ### non-vacuity -/

def exH1 : Ty := .obj "Session".toList "urn:x".toList none [("token".toList, .prim (.unicode 0 none none []) {})] {}
def exH2 : Ty := .obj "Trace".toList "urn:h".toList none [("hop".toList, .prim (.integer .unbounded {}) {})] {}
def exIn : Ty := .obj "m".toList "urn:x".toList none
  [("i".toList, .prim (.integer .unbounded {}) {}), ("b".toList, .prim .boolean {}), ("s".toList, .prim (.unicode 0 none none []) {})] {}

example : textsNodup ([exH1, exH2].map headerKey) = true := by decide +kernel
example : isObjTy exH1 = true ∧ tyWf exH1 = true := by decide +kernel
example : expectHdr { classes := [] } [exH1, exH2] [.obj "Session".toList [("token".toList, .str "t".toList)]] =
    [.obj "Session".toList [("token".toList, .str "t".toList)], .none] := by rfl
/-- falsy keyword values are packed like any other -/
example : requestObject factsClient exIn [] [("i".toList, .int 0), ("b".toList, .bool false), ("s".toList, .str [])] =
    .obj "m".toList [("i".toList, .int 0), ("b".toList, .bool false), ("s".toList, .str [])] := by rfl
example : requestObject factsClient exIn [.int 7] [("s".toList, .str [])] =
    .obj "m".toList [("i".toList, .int 7), ("b".toList, .none), ("s".toList, .str [])] := by rfl

end SpyneModel.Props.C01ext
