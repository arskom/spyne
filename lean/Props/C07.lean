/-
  C07 — WSDL/XSD are well-formed, closed, deterministic and drive a foreign client.
  Property theorems only; every theorem is about the model instantiated with the facts regenerated from /repo
  (`Generated.facts07`), side conditions discharged by `decide`.

  `build F e I url` = `gen F e (I.addMethodFaults F) url`: `addMethodFaults` is the step of `Interface.add_method`
  that moves declared faults into the tns, `gen` the model of `Wsdl11.build_interface_document`; `I` is the
  `Interface` (any number of
  services, methods, classes, namespaces), `e` the iteration order of every unordered container of the process
  (it stands for PYTHONHASHSEED and the memory layout), `wfCore` / `wfOps` the contract of `populate_interface`
  and of the `@rpc` declarations (evaluated by the harness on every real application).
-/
import Proofs.WsdlUnique
import Proofs.WsdlExample
import SpyneModel.Generated.Facts07
namespace SpyneModel.Props.C07
open SpyneModel SpyneModel.Wsdl SpyneModel.Generated

/-! ### deterministic -/

/-- `sorted(set_of_namespaces)`: the order in which the set is enumerated is irrelevant -/
theorem import_order_independent (e₁ e₂ : Enum) (h₁ : e₁.Valid) (h₂ : e₂.Valid) (l : List String) :
    importOrder facts07 e₁ l = importOrder facts07 e₂ l :=
  importOrder_enum_irrelevant facts07 (by decide) e₁ e₂ h₁ h₂ l

/-- `toposort2`: ties between classes of equal `repr` are broken by registration order, never by a set -/
theorem toposort_order_independent (e₁ e₂ : Enum) (key : Nat → List Nat) (d : Deps) :
    topo facts07 e₁ key d = topo facts07 e₂ key d :=
  topo_insertion facts07 facts07 (by decide) (by decide) e₁ e₂ key d

/-- `toposort2` returns every class of the dependency graph (keys and dependencies), and only those -/
theorem toposort_complete (e : Enum) (he : e.Valid) (key : Nat → List Nat) (d : Deps) (ts : List (List Nat))
    (h : topo facts07 e key d = .ok ts) (hd : d ≠ []) (x : Nat) : x ∈ ts.flatten ↔ x ∈ Deps.nodes d :=
  topo_complete facts07 e he key d ts h x

/-- **building the document in any process yields the same document**: for every application and every two
    enumerations of the process' unordered containers (hash seeds, memory layouts, repetitions) -/
theorem wsdl_deterministic (e₁ e₂ : Enum) (h₁ : e₁.Valid) (h₂ : e₂.Valid) (I : IState) (url : String) :
    build facts07 e₁ I url = build facts07 e₂ I url :=
  gen_enum_irrelevant facts07 (by decide) (by decide) e₁ e₂ h₁ h₂ _ url

/-- `add_method` puts every declared fault into the target namespace, whatever `__namespace__` it declares: the
    fault clause of the contract holds by construction -/
theorem faults_in_tns (I : IState) (h : (populated I).wfCore = true) : (populated I).wf = true :=
  wf_of_core_forced facts07 (by decide) (I.resolveHandlers facts07) h

/-! ### closed -/

/-- every `message=` (portType operations, soap:header), binding `type=` and port `binding=` resolves -/
theorem message_porttype_binding_refs_closed (e : Enum) (I : IState) (url : String) (d : Doc)
    (h : build facts07 e I url = .ok d) (hwf : (populated I).wfCore = true) :
    (∀ q ∈ d.msgRefs, d.msgDefined q = true) ∧ (∀ q ∈ d.portTypeRefs, d.portTypeDefined q = true) ∧
    (∀ q ∈ d.bindingRefs, d.bindingDefined q = true) :=
  wsdl_refs_closed_general facts07 (by decide) (by decide) e (populated I) url d h (faults_in_tns I hwf)

/-- every `type=`, `base=` (embedded schemas) and `element=` (message parts) resolves to a definition in the
    document or to an XSD builtin, and is written with a prefix declared on the root element -/
theorem schema_refs_closed (e : Enum) (he : e.Valid) (I : IState) (url : String) (d : Doc)
    (h : build facts07 e I url = .ok d) (hwf : (populated I).wfCore = true) :
    (∀ q ∈ d.typeRefs, d.typeDefined q = true) ∧ (∀ q ∈ d.elemRefs, d.elemDefined q = true) :=
  schema_refs_closed_general facts07 (by decide) e he (populated I) url d h (faults_in_tns I hwf)

/-- every `soap:header/@part` (input and output, one or several headers) names a part of the message that
    `soap:header/@message` names -/
theorem header_parts_resolve (e : Enum) (I : IState) (url : String) (d : Doc)
    (h : build facts07 e I url = .ok d) (hwf : (populated I).wfCore = true) :
    ∀ bh ∈ d.headerRefs, d.headerPartOk bh = true :=
  header_parts_general facts07 (by decide) e (populated I) url d h (faults_in_tns I hwf)

/-- **no definition occurs twice**: one `wsdl:message` per name although services share header and fault classes
    (the set of emitted names lives as long as the document), one portType / binding / service per name, distinct
    port names in a service, one schema per namespace, one type / element per name in it -/
theorem definitions_unique (e : Enum) (he : e.Valid) (I : IState) (url : String) (d : Doc)
    (h : build facts07 e I url = .ok d) (hwf : (populated I).wfCore = true) (hops : (populated I).wfOps = true) :
    d.wellDefined = true :=
  definitions_unique_general facts07 (by decide) e he (populated I) url d h (faults_in_tns I hwf) hops

/-- **the document is closed**: every QName reference (type, base, element, message incl. wsdl:fault and
    soap:header, header part, binding, port) resolves, and to exactly one definition -/
theorem wsdl_closed (e : Enum) (he : e.Valid) (I : IState) (url : String) (d : Doc)
    (h : build facts07 e I url = .ok d) (hwf : (populated I).wfCore = true) (hops : (populated I).wfOps = true) :
    d.closed = true ∧ d.wellDefined = true := by
  obtain ⟨h1, h2, h3⟩ := message_porttype_binding_refs_closed e I url d h hwf
  obtain ⟨h4, h5⟩ := schema_refs_closed e he I url d h hwf
  have h6 := header_parts_resolve e I url d h hwf
  refine ⟨?_, definitions_unique e he I url d h hwf hops⟩
  simp only [Doc.closed, Bool.and_eq_true, List.all_eq_true]
  exact ⟨⟨⟨⟨⟨h4, h5⟩, h1⟩, h2⟩, h3⟩, h6⟩

/-- two namespaces are never written with the same prefix -/
theorem prefixes_injective (e : Enum) (I : IState) (url : String) (d : Doc)
    (h : build facts07 e I url = .ok d) (hwf : (populated I).wfCore = true) (ns₁ ns₂ : String) (pf : Pref)
    (h₁ : d.prefmap.lookup ns₁ = some pf) (h₂ : d.prefmap.lookup ns₂ = some pf) : ns₁ = ns₂ := by
  obtain ⟨tr, hd⟩ := gen_built facts07 (by decide) e (populated I) url d h
  exact hd.prefix_injective (wf_unpack (populated I) (faults_in_tns I hwf)) ns₁ ns₂ pf h₁ h₂

/-- the `while pref in self.nsmap` loop of `get_namespace_prefix` finds an unused `s<k>` **for every pre-existing
    prefix table** (static prefixes, prefixes pinned by the application, earlier allocations) -/
theorem prefix_search_finds_free (taken : List Pref) (counter : Nat) :
    Pref.gen (firstFree taken (taken.length + 1) counter) ∉ taken :=
  firstFree_free taken counter

/-- starting from any consistent prefix table, after any sequence of `get_namespace_prefix` calls two namespaces
    never share a prefix and every written prefix is declared for its namespace -/
theorem prefixes_injective_any_initial (p : Prefs) (h : p.Inv) (calls : List String) (ns₁ ns₂ : String) (pf : Pref)
    (h₁ : (touchAll p calls).prefmap.lookup ns₁ = some pf) (h₂ : (touchAll p calls).prefmap.lookup ns₂ = some pf) :
    ns₁ = ns₂ ∧ (touchAll p calls).nsmap.lookup pf = some ns₁ :=
  ⟨prefix_injective _ (touchAll_inv p h calls) ns₁ ns₂ pf h₁ h₂, (touchAll_inv p h calls).back _ _ h₁⟩

/-! ### every exposed method is exactly one operation -/

/-- for every method of every service: exactly one `wsdl:operation` of that name in all portTypes, exactly one in
    all bindings, they sit in a portType and in the binding that is typed by that portType, and they agree on the
    input/output names, the messages and the declared faults -/
theorem ops_exactly_once (e : Enum) (I₀ : IState) (url : String) (d : Doc) (h : build facts07 e I₀ url = .ok d)
    (hw : (populated I₀).wfOps = true) (s : Svc) (hs : s ∈ (populated I₀).services) (m : Meth) (hm : m ∈ s.methods) :
    opCount m.opName d.portTypes = 1 ∧ bopCount m.opName d.bindings = 1 ∧
    ∃ pt ∈ d.portTypes, ∃ b ∈ d.bindings, b.type = ⟨d.tns, pt.name⟩ ∧
      ∃ o ∈ pt.ops, ∃ bo ∈ b.ops, o.name = m.opName ∧ bo.name = m.opName ∧ bo.soapAction = m.opName ∧
        o.inName = bo.inName ∧ o.outName = bo.outName ∧
        o.inMsg.loc = ((populated I₀).cls m.inMsg).elemName ∧ o.outMsg.loc = ((populated I₀).cls m.outMsg).elemName ∧
        o.faults.map (·.name) = m.faults.map (fun f => ((populated I₀).cls f).tn) ∧
        bo.faults = m.faults.map (fun f => ((populated I₀).cls f).tn) := by
  obtain ⟨h1, h2, pt, hpt, b, hb, _, hty, ho, hbo⟩ :=
    ops_exactly_once_general facts07 (by decide) (by decide) e (populated I₀) url d h hw s hs m hm
  refine ⟨h1, h2, pt, hpt, b, hb, hty, mkOp (populated I₀) m, ho, mkBOp facts07 (populated I₀) m, hbo, rfl, rfl, rfl, rfl, rfl, rfl, rfl, ?_, rfl⟩
  simp [mkOp, List.map_map, Function.comp]

/-! ### what goes wrong with other facts (the pinned tree) -/

/-- with `<xs:import>` written in set order two processes disagree (D19) -/
theorem hashseed_witness :
    gen { facts07 with importsIter := .hashOrder } Enum.id exI "u" ≠
    gen { facts07 with importsIter := .hashOrder } Enum.rev exI "u" := by
  rw [gen, gen, buildSchemas, buildSchemas, exI_tiers, exI_tiers]
  · -- the `xs:import`s of a schema come in opposite orders
    intro h
    exact absurd (congrArg (fun o : Outcome Doc => match o with
      | .ok d => d.schemas.map Schema.imports | .fault => [] | .crash _ => []) h) (by decide +kernel)
  all_goals rfl

/-- with toposort ties broken by a set of class objects two processes disagree on prefixes and schema order -/
theorem layout_witness :
    gen { facts07 with tierTies := .hashOrder } Enum.id exT "u" ≠
    gen { facts07 with tierTies := .hashOrder } Enum.rev exT "u" := by
  rw [gen, gen, buildSchemas, buildSchemas, reprKey_table]
  -- the sort keys, from the characters of the `repr` literals
  generalize ht : exT.classes.map (fun c => skey c.repr) = t
  simp only [exT, List.map] at ht
  repeat rw [skey_ofList] at ht
  subst ht
  -- the schemas of `ns.p` and `ns.q` come in opposite orders
  intro h
  exact absurd (congrArg (fun o : Outcome Doc => match o with
    | .ok d => d.schemas.map Schema.tns | .fault => [] | .crash _ => []) h) (by decide +kernel)

-- The sample applications stand in Proofs/WsdlExample.lean, and what the model makes of them is evaluated there, a family
-- of samples in one declaration (`exI_deviations` for the witnesses, `exI_checks` and `exD_checks` for the examples at
-- the end), since what the kernel has worked out of a sample it keeps within one declaration only; the witnesses and
-- examples below quote its conjuncts (`∃ d, build … = .ok d ∧ …`) and rewrite their `match` with them.
/-- with the header's own namespace prefix in `soap:header/@message` the document is not closed -/
theorem header_ref_witness :
    (match gen { facts07 with headerMsgNs := .headerNs } Enum.id exI "u" with
      | .ok d => d.closed | _ => true) = false := by
  -- the `soap:header/@message` of `H` carries the prefix of `ns.h`, where no message is defined
  obtain ⟨d, h, hd⟩ := exI_deviations.1
  rw [h]
  exact d.not_closed_of_dangling hd

/-- with every operation in the last declared portType a method has no matching binding operation -/
theorem porttype_witness :
    (match gen { facts07 with opPortType := .lastDeclared } Enum.id exI "u" with
      | .ok d => d.opsExactlyOnce exI | _ => true) = false := by
  obtain ⟨d, h, hd⟩ := exI_deviations.2.1
  rw [h]
  exact hd

/-- if `add_method` kept the declared namespace of a fault, `wsdl:fault/@message` would point outside the tns -/
theorem fault_namespace_witness :
    (match build { facts07 with faultNs := .keptDeclared } Enum.id exF "u" with
      | .ok d => d.closed | _ => true) = false := by
  -- the `wsdl:fault/@message` of `Oops` points into `urn:c07:faultlib`
  obtain ⟨d, h, hd⟩ := exI_deviations.2.2.1
  rw [h]
  exact d.not_closed_of_dangling hd

/-- with a fresh set of emitted message names per service, a shared header yields two `wsdl:message name="H"` -/
theorem message_dedup_witness :
    (match build { facts07 with messageDedup := .perService } Enum.id exM "u" with
      | .ok d => d.wellDefined | _ => true) = false := by
  obtain ⟨d, h, hd⟩ := exI_deviations.2.2.2.1
  rw [h]
  exact hd

/-- with the bases tried from the last one (`reversed(cls.__bases__)`), `class A(ComplexModel, Mixin)` gets no
    complexType and `type="..:A"` dangles -/
theorem handler_lookup_witness_last :
    (match build { facts07 with handlerLookup := .lastBase } Enum.id exY "u" with
      | .ok d => d.closed | _ => true) = false := by
  -- no schema defines the type `A` of `ns.a`
  obtain ⟨d, h, hd⟩ := exI_deviations.2.2.2.2.1
  rw [h]
  exact d.not_closed_of_dangling hd

/-- if the handler tables tried the first base first, `class A(Mixin, ComplexModel)` would get no complexType and
    `type="..:A"` would dangle -/
theorem handler_lookup_witness :
    (match build { facts07 with handlerLookup := .firstBase } Enum.id exX "u" with
      | .ok d => d.closed | _ => true) = false := by
  -- no schema defines the type `A` of `ns.a`
  obtain ⟨d, h, hd⟩ := exI_deviations.2.2.2.2.2
  rw [h]
  exact d.not_closed_of_dangling hd

/-- for an XmlData member `complex_add` calls `document.add(xtba_type.type)` and writes the member's type as the
    `xs:simpleContent` base; an attribute refers to the type it wraps. Both references of `Weight` resolve: the base
    `xs:decimal` and the enumeration type of `unit`; the method's documentation reaches its operation -/
theorem xmldata_example_closed :
    (match build facts07 Enum.id exD "u" with
      | .ok d => d.closed && d.wellDefined && (d.typeRefs.any (fun q => q == ⟨nsXsd, "decimal"⟩)) &&
                 (d.portTypes.flatMap (·.ops)).all (fun o => o.doc == some "Weighs.")
      | _ => false) = true := by
  obtain ⟨d, h, hd⟩ := exD_checks.2.2
  rw [h]
  exact hd

/-! ### non-vacuity: the hypotheses hold for a concrete application (2 port types, header in a foreign namespace,
    inheritance across namespaces, array, attribute, restricted simple type, fault, bare method) -/

example : (populated exI).wfCore = true := exI_checks.1.1
example : (populated exI).wfOps = true := exI_checks.1.2.1
example : (match build facts07 Enum.id exI "http://h/app?wsdl" with | .ok d => d.closed && d.opsExactlyOnce exI && d.importsCover | _ => false) = true :=
  exI_checks.1.2.2.elim fun _ h => h.1 ▸ h.2
example : (populated exF).wfCore = true ∧ (exF.cls 2).ns = "urn:c07:faultlib" ∧ ((populated exF).cls 2).ns = "tns.main" :=
  exI_checks.2.1.1
example : (match build facts07 Enum.id exF "u" with | .ok d => d.closed && !d.headerRefs.isEmpty | _ => false) = true :=
  exI_checks.2.1.2.elim fun _ h => h.1 ▸ h.2
example : (populated exT).wfCore = true ∧ exT.wfOps = true := exD_checks.2.1
example : (populated exM).wfCore = true ∧ (populated exM).wfOps = true := exI_checks.2.2.1.1
example : (match build facts07 Enum.id exM "u" with | .ok d => d.closed && d.wellDefined && d.messages.length == 6 | _ => false) = true :=
  exI_checks.2.2.1.2.elim fun _ h => h.1 ▸ h.2
example : (populated exX).wfCore = true ∧ (populated exX).wfOps = true := exI_checks.2.2.2.1
example : (match build facts07 Enum.id exX "u" with
    | .ok d => d.closed && d.wellDefined && d.nsdecl.lookup (.gen 2) == some "ns.a" && d.nsdecl.lookup (.gen 0) == some "ns.b"
    | _ => false) = true :=
  exI_checks.2.2.2.2.elim fun _ h => h.1 ▸ h.2
example : (populated exD).wfCore = true ∧ (populated exD).wfOps = true := exD_checks.1
example : Enum.rev.Valid := Enum.rev_valid
example : exI.deps ≠ [] := by decide

end SpyneModel.Props.C07
