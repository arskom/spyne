/-
  C11 — a request runs exactly the method it names.
  Property theorems only; every theorem is about the model instantiated with the facts regenerated
  from /repo (`Generated.facts11`), side conditions discharged by `decide`.

  Vocabulary (SpyneModel/Dispatch.lean): `ms` is the list of method descriptors of the listed services in
  listing order; `build` is `Application.__init__` as far as routing goes; `rget r k` is
  `service_method_map.get(k, [])`; `serve` is what runs. `requestKey` (Proofs/Dispatch.lean) is the key a request is
  looked up under (`get_call_handles` applied to the protocol's `method_request_string`), `methodsOf` (ibid.) the
  descriptors of one service definition.
-/
import Proofs.Dispatch
import Proofs.DispatchHttp
import Proofs.DispatchBytes
import Proofs.DispatchSoap
import Proofs.DispatchExample
import SpyneModel.Generated.Facts11
namespace SpyneModel.Props.C11
open SpyneModel SpyneModel.Dispatch SpyneModel.Dispatch.Sample SpyneModel.Generated

/-! ### which applications are accepted, and what their routing table is -/

/-- an application is accepted iff internal keys, message class names and interface keys are unique
    and no two primary methods answer to one public name — a condition that does not mention the order -/
theorem accepted_iff_valid (tns : Text) (ms : List Method) :
    (∃ r, build facts11 tns ms = .ok r) ↔ Valid tns ms :=
  build_ok_iff facts11 (by decide) (by decide) tns ms

/-- under every key: the one primary method with that name (if any), then its auxiliary methods -/
theorem routing_table (tns : Text) (ms : List Method) (r : Routes) (h : build facts11 tns ms = .ok r)
    (k : Text) :
    rget r k = prims tns ms k ++ auxs tns ms k ∧ (prims tns ms k).length ≤ 1 :=
  ⟨build_routes facts11 (by decide) (by decide) tns ms r h k,
   prims_le_one ((build_ok_iff facts11 (by decide) (by decide) tns ms).mp ⟨r, h⟩).noClash k⟩

/-- construction never ends in anything but the two documented rejections -/
theorem rejection_classes (tns : Text) (ms : List Method) (e : BuildErr)
    (h : build facts11 tns ms = .error e) : e = .methodAlreadyExists ∨ e = .valueError :=
  build_err facts11 (by decide) (by decide) tns ms e h

/-! ### a registered name runs its function (and its auxiliaries), once -/

/-- a request whose key is that of a registered primary method runs exactly that function, then the
    auxiliary functions registered under the same name -/
theorem registered_runs (tns : Text) (ms : List Method) (r : Routes) (hb : build facts11 tns ms = .ok r)
    (m : Method) (hm : m ∈ ms) (ha : m.aux = false) (q : Request)
    (hq : requestKey facts11 tns q = routeKey tns m) :
    serve facts11 r tns q = .ran (m.fid :: (auxs tns ms (routeKey tns m)).map (·.fid)) :=
  serve_registered facts11 (by decide) (by decide) (by decide) tns ms r hb m hm ha q hq

/-- whatever runs is registered under exactly the requested key; only the first may be a primary
    method; nothing runs twice -/
theorem nothing_else_runs (tns : Text) (ms : List Method) (r : Routes) (hb : build facts11 tns ms = .ok r)
    (hf : (ms.map (·.fid)).Nodup) (q : Request) (calls : List Nat)
    (hs : serve facts11 r tns q = .ran calls) :
    ∃ hs : List Method, calls = hs.map (·.fid) ∧ hs ≠ [] ∧ calls.Nodup ∧
      (∀ m ∈ hs, m ∈ ms ∧ routeKey tns m = requestKey facts11 tns q) ∧
      (∀ m ∈ hs.tail, m.aux = true) :=
  serve_sound facts11 (by decide) (by decide) (by decide) tns ms r hb hf q calls hs

/-! ### how each protocol's way of naming the method becomes the routing key -/

/-- the single key of a JSON/YAML/MessagePack document, the msgpack-rpc name field, the last segment
    of an HttpRpc path and a root tag in the target namespace all mean '{tns}name'; a qualified tag
    means itself -/
theorem naming (tns n : Text) :
    requestKey facts11 tns (.key n) = qname tns n ∧
    requestKey facts11 tns (.rpcName n) = qname tns n ∧
    (∀ ns, requestKey facts11 tns (.tag (some ns) n) = qname ns n) ∧
    (n.head? ≠ some '{' → requestKey facts11 tns (.tag none n) = qname tns n ∧
                           requestKey facts11 tns (.null n) = qname tns n ∧
                           requestKey facts11 tns (.endpoint n) = qname tns n) ∧
    (∀ p, '/' ∉ n → requestKey facts11 tns (.path (p ++ '/' :: n)) = qname tns n) := by
  refine ⟨rfl, rfl, fun _ => rfl, ?_, ?_⟩
  · intro h
    simp [requestKey, requestString, qualify_good facts11 (by decide), h]
  · intro p hn
    simp only [requestKey, requestString, qualify_good facts11 (by decide), lastSegment_append p n hn]
    rfl

/-! ### an unregistered name reaches nothing -/

/-- a name is reached iff it is *equal* to a registered public name: every near miss — other case,
    one character more or less, a prefix, a suffix — is a different string and ends in the
    not-found client fault without any user code running -/
theorem reached_iff_registered (tns : Text) (ms : List Method) (r : Routes)
    (hb : build facts11 tns ms = .ok r) (q : Request) (n : Text)
    (hq : requestKey facts11 tns q = qname tns n) :
    serve facts11 r tns q = .notFound ↔ ∀ m ∈ ms, m.name ≠ n := by
  rw [serve_notFound_iff facts11 (by decide) (by decide) (by decide) tns ms r hb, hq]
  exact ⟨fun h m hm hn => h m hm (congrArg (qname tns) hn), fun h m hm hk => h m hm (qname_inj_right tns _ _ hk)⟩

/-- a root tag qualified with another namespace reaches nothing, whatever its local name -/
theorem other_namespace_not_found (tns ns l : Text) (ms : List Method) (r : Routes)
    (hb : build facts11 tns ms = .ok r) (hne : ns ≠ tns) (h1 : '}' ∉ ns) (h2 : '}' ∉ tns) :
    serve facts11 r tns (.tag (some ns) l) = .notFound ∧
    serve facts11 r tns (.null (qname ns l)) = .notFound := by
  have hu : ∀ m ∈ ms, routeKey tns m ≠ qname ns l := fun m _ e => hne (qname_inj tns ns _ _ h2 h1 e).1.symm
  have h := fun q => (serve_notFound_iff facts11 (by decide) (by decide) (by decide) tns ms r hb q).mpr
  exact ⟨h _ hu, h _ hu⟩

/-- a dict-document key that carries a namespace of its own is not looked up in that namespace:
    it can only reach a method whose public name is literally that whole string -/
theorem qualified_key_not_found (tns ns l : Text) (ms : List Method) (r : Routes)
    (hb : build facts11 tns ms = .ok r) (hm : ∀ m ∈ ms, m.name.head? ≠ some '{') :
    serve facts11 r tns (.key (qname ns l)) = .notFound :=
  (reached_iff_registered tns ms r hb _ (qname ns l) rfl).mpr
    (fun m hmem he => hm m hmem (by rw [he]; rfl))

/-! ### names that arrive as bytes (msgpack `bin` name field / key) -/

/-- the byte-level naming function is strict UTF-8: it inverts `str.encode`, and whatever it accepts is
    *the* canonical encoding of the text it yields — so it is injective on what it accepts (no overlong
    form, surrogate, stray or truncated sequence is mapped to a "closest" name) -/
theorem bin_naming_canonical (bs : List Nat) (s : Text) :
    decodeName (encodeName s) = some s ∧ (decodeName bs = some s → bs = encodeName s) :=
  ⟨decodeName_encodeName s, decodeName_canonical bs s⟩

/-- a byte string that is not exactly the UTF-8 encoding of a registered public name runs nothing:
    it ends in the not-found fault or (undecodable) in another client fault. `mk` is `.rpcName` or `.key`. -/
theorem bin_name_unregistered (tns : Text) (ms : List Method) (r : Routes) (hb : build facts11 tns ms = .ok r)
    (mk : Text → Request) (hmk : ∀ n, requestKey facts11 tns (mk n) = qname tns n)
    (bs : List Nat) (hne : ∀ m ∈ ms, bs ≠ encodeName m.name) :
    serveWire facts11 r tns mk (.bin bs) = .notFound ∨ serveWire facts11 r tns mk (.bin bs) = .clientFault := by
  rw [serveWire_bin facts11 (by decide)]
  cases hd : decodeName bs with
  | none => exact .inr rfl
  | some n =>
    refine .inl ((serve_notFound_iff facts11 (by decide) (by decide) (by decide) tns ms r hb _).mpr fun m hm hk => ?_)
    rw [hmk n] at hk
    exact hne m hm (qname_inj_right tns _ _ hk ▸ decodeName_canonical bs n hd)

/-- the UTF-8 encoding of a registered name, sent as `bin`, runs exactly what the text form runs -/
theorem bin_name_registered (tns : Text) (ms : List Method) (r : Routes) (hb : build facts11 tns ms = .ok r)
    (mk : Text → Request) (hmk : ∀ n, requestKey facts11 tns (mk n) = qname tns n)
    (m : Method) (hm : m ∈ ms) (ha : m.aux = false) :
    serveWire facts11 r tns mk (.bin (encodeName m.name)) =
      .ran (m.fid :: (auxs tns ms (routeKey tns m)).map (·.fid)) :=
  serveWire_registered facts11 (by decide) (by decide) (by decide) (by decide) tns ms r hb mk hmk m hm ha

/-! ### the listing order does not matter -/

/-- any reordering of the descriptors (in particular any permutation of the service list) is accepted
    as well and routes every key to the same primary method and the same auxiliaries -/
theorem order_irrelevant (tns : Text) (ms ms' : List Method) (hp : ms.Perm ms') (r : Routes)
    (h : build facts11 tns ms = .ok r) :
    ∃ r', build facts11 tns ms' = .ok r' ∧
      ∀ k, ∃ A', rget r' k = prims tns ms k ++ A' ∧ A'.Perm (auxs tns ms k) ∧
             rget r k = prims tns ms k ++ auxs tns ms k :=
  build_perm facts11 (by decide) (by decide) tns ms ms' hp r h

/-- … as seen by a client: the same function answers, followed by the same auxiliaries -/
theorem order_irrelevant_run (tns : Text) (ms ms' : List Method) (hp : ms.Perm ms') (r r' : Routes)
    (h : build facts11 tns ms = .ok r) (h' : build facts11 tns ms' = .ok r')
    (m : Method) (hm : m ∈ ms) (ha : m.aux = false) (q : Request)
    (hq : requestKey facts11 tns q = routeKey tns m) :
    ∃ as as', serve facts11 r tns q = .ran (m.fid :: as) ∧ serve facts11 r' tns q = .ran (m.fid :: as') ∧
      as.Perm as' :=
  ⟨_, _, registered_runs tns ms r h m hm ha q hq,
   registered_runs tns ms' r' h' m (hp.mem_iff.mp hm) ha q hq,
   (hp.filter _).map _⟩

/-- permuting the service list permutes the descriptors (so the two theorems above apply) -/
theorem services_perm (ss ss' : List ServiceDecl) (hp : ss.Perm ss') (ms : List Method)
    (h : resolveAll facts11 ss = .ok ms) : ∃ ms', resolveAll facts11 ss' = .ok ms' ∧ ms.Perm ms' :=
  resolveAll_perm facts11 ss ss' hp ms h

/-- a rejected application is rejected in every order -/
theorem rejection_order_irrelevant (tns : Text) (ms ms' : List Method) (hp : ms.Perm ms') (e : BuildErr)
    (h : build facts11 tns ms = .error e) : ∃ e', build facts11 tns ms' = .error e' :=
  build_fails_perm facts11 (by decide) (by decide) tns ms ms' hp e h

/-! ### two methods that would answer to the same name are rejected -/

theorem duplicate_rejected (tns : Text) (a b : Method) (l1 l2 l3 ms' : List Method)
    (ha : a.aux = false) (hb : b.aux = false) (hn : a.name = b.name)
    (hp : ms'.Perm (l1 ++ a :: l2 ++ b :: l3)) :
    ∃ e, build facts11 tns ms' = .error e ∧ (e = .methodAlreadyExists ∨ e = .valueError) := by
  have ⟨e, he⟩ := clash_rejected facts11 (by decide) (by decide) tns a b l1 l2 l3 ms' ⟨ha, hb, hn⟩ hp
  exact ⟨e, he, rejection_classes tns ms' e he⟩

/-- … and so are two service methods that want the same interface key ('module.Service.name') -/
theorem interface_key_collision_rejected (tns : Text) (a b : Method) (l1 l2 l3 : List Method)
    (hk : ifaceKey a = ifaceKey b) : ∃ e, build facts11 tns (l1 ++ a :: l2 ++ b :: l3) = .error e :=
  (build_error_iff facts11 (by decide) (by decide) tns _).mpr fun v => nodup_map_ne ifaceKey a b l1 l2 l3 v.ifaces hk

/-! ### the public name of a method (decorator) -/

theorem public_name_default (d : MethodDecl) (h1 : d.opName = none) (h2 : d.inMsg = none)
    (h3 : d.func.head? ≠ some '{') : resolveIn facts11 d = .ok (none, d.func) := by
  simp [resolveIn, h1, h2, facts11, splitBrace_plain d.func h3]

theorem public_name_operation (d : MethodDecl) (o : Text) (h1 : d.opName = some o) (h2 : d.inMsg = none)
    (h3 : o.head? ≠ some '{') : resolveIn facts11 d = .ok (none, o) := by
  simp [resolveIn, h1, h2, facts11, splitBrace_plain o h3]

/-- `_in_message_name='{ns}local'`: the method answers to `local` (in the application's namespace) -/
theorem public_name_in_message (d : MethodDecl) (ns l : Text) (h1 : d.opName = none)
    (h2 : d.inMsg = some (qname ns l)) (h3 : '}' ∉ ns) (h4 : qname ns l ≠ d.func) :
    resolveIn facts11 d = .ok (some ns, l) := by
  simp [resolveIn, h1, h2, h4, splitBrace_qname ns l h3]

/-! ### `@mrpc` member methods, mixed service definitions, documents naming several methods -/

/-- a member method `f` of class `T` answers to 'T.f' — or, with `_in_message_name='n'`, to 'T.n' — and is an
    ordinary primary descriptor, so every theorem above applies to it -/
theorem member_name (tns : Text) (c : ClassDecl) (d : MethodDecl) (h1 : d.opName = none)
    (hd : '.' ∉ c.typeName) (hb : c.typeName.head? ≠ some '{') :
    (d.inMsg = none → ∃ m, resolveMember facts11 tns c d = .ok m ∧ m.name = c.typeName ++ '.' :: d.func ∧
        m.member = true ∧ m.aux = false) ∧
    (∀ n, d.inMsg = some n → n.head? ≠ some '{' → firstSeg n ≠ c.typeName →
        ∃ m, resolveMember facts11 tns c d = .ok m ∧ m.name = c.typeName ++ '.' :: n ∧ m.msgName = n) := by
  have hfs : firstSeg (c.typeName ++ '.' :: d.func) = c.typeName :=
    (takeWhile_ne_append '.' c.typeName d.func hd).1
  have hsp : splitBrace (c.typeName ++ '.' :: d.func) = (none, c.typeName ++ '.' :: d.func) :=
    splitBrace_plain _ (by cases hc : c.typeName with
      | nil => simp
      | cons x xs => rw [hc] at hb; simpa using hb)
  constructor
  · intro h2
    simp [resolveMember, h1, h2, hsp, hfs]
  · intro n h2 hn hf
    have hf11 : facts11.memberKeyPrefixed = true := by decide
    simp [resolveMember, h1, h2, splitBrace_plain n hn, hf, hf11]

/-- member methods are routed after the service methods; permuting the service list permutes the descriptors -/
theorem app_perm (tns : Text) (ss ss' : List ServiceDecl) (cs : List ClassDecl) (hp : ss.Perm ss') (ms : List Method)
    (h : resolveApp facts11 tns ss cs = .ok ms) : ∃ ms', resolveApp facts11 tns ss' cs = .ok ms' ∧ ms.Perm ms' :=
  resolveApp_perm facts11 tns ss ss' cs hp ms h

/-- a service definition that mixes primary and auxiliary methods is refused when the class is created -/
theorem mixed_aux_rejected (s : ServiceDecl) (ms : List Method) (h : resolveMethodsGo facts11 s s.methods = .ok ms)
    (a b : Method) (ha : a ∈ ms) (hb : b ∈ ms) (h1 : a.aux = true) (h2 : b.aux = false) :
    resolveMethods facts11 s s.methods = .error .mixedAux := by
  have e1 : ms.any (·.aux) = true := List.any_eq_true.mpr ⟨a, ha, h1⟩
  have e2 : ms.any (fun m => !m.aux) = true := List.any_eq_true.mpr ⟨b, hb, by simp [h2]⟩
  have hf11 : facts11.mixedAuxRefused = true := by decide
  simp [resolveMethods, h, e1, e2, hf11]

/-- a dict document that names no method or several runs nothing -/
theorem doc_needs_one_name (r : Routes) (tns : Text) (keys : List WireName) (h : keys.length ≠ 1) :
    serveDoc facts11 r tns keys = .clientFault := by
  have hf11 : facts11.docSingleKey = true := by decide
  match keys, h with
  | [], _ => rfl
  | [_], h => simp at h
  | _ :: _ :: _, _ => simp [serveDoc, hf11]

/-! ### HTTP: URL paths and HttpPatterns -/

/-- the pattern that wins matches verb and address completely and has the greatest address among
    those that do -/
theorem pattern_choice_sound (ps : List Pat) (verb path : Text) (p : Pat)
    (h : choosePattern ps verb path = some p) :
    p ∈ ps ∧ p.matches verb path = true ∧ ∀ q ∈ ps, q.matches verb path = true → q.addr ≤ p.addr :=
  choose_some h

/-- no pattern matches: the method is named by the last path segment; otherwise by the endpoint of a
    pattern of a registered primary method -/
theorem pattern_or_path (r : Routes) (verb path : Text) :
    ((∀ p ∈ httpPatterns r, p.matches verb path = false) ∧ httpRequest r verb path = .path path) ∨
    (∃ p ∈ httpPatterns r, p.matches verb path = true ∧ httpRequest r verb path = .endpoint p.endpoint) := by
  unfold httpRequest
  cases h : choosePattern (httpPatterns r) verb path with
  | none => exact .inl ⟨choose_none_iff.mp h, rfl⟩
  | some p => exact .inr ⟨p, (choose_some h).1, (choose_some h).2.1, rfl⟩

/-- a request line answered by an HttpPattern runs the function the pattern was attached to (first),
    then whatever else is registered under that function's public name -/
theorem pattern_runs (tns : Text) (ms : List Method) (r : Routes) (hb : build facts11 tns ms = .ok r)
    (hn : ∀ m ∈ ms, m.name.head? ≠ some '{') (hmsg : ∀ m ∈ ms, m.msgName = m.name) (verb path : Text) (p : Pat)
    (hc : choosePattern (httpPatterns r) verb path = some p) :
    httpRequest r verb path = .endpoint p.endpoint ∧
    ∃ hd tl, hd ∈ ms ∧ hd.fid = p.efid ∧ hd.name = p.endpoint ∧
      rget r (qname tns p.endpoint) = hd :: tl ∧
      serve facts11 r tns (httpRequest r verb path) = .ran (p.efid :: tl.map (·.fid)) :=
  Dispatch.pattern_runs facts11 (by decide) (by decide) (by decide) (by decide) tns ms r hb hn hmsg verb path p hc

/-! ### the transport's decision before dispatch: WSDL request or RPC -/

/-- a request is taken for a request for the interface document exactly when its verb upper-cases to GET and
    either the first name of the query string is (case-insensitively) `wsdl` or the path ends with `.wsdl` —
    a method whose name merely ends in the letters `wsdl` is not shadowed -/
theorem wsdl_request_iff (verb path query : Text) :
    isWsdlRequest facts11 verb path query = true ↔
      verb.map asciiUpper = "GET".toList ∧
      ((qsFirstName query).map asciiLower = "wsdl".toList ∨ ∃ p, path = p ++ ".wsdl".toList) :=
  isWsdlRequest_good facts11 (by decide) (by decide) (by decide) verb path query

/-- a WSDL request runs no user function -/
theorem wsdl_request_runs_nothing (r : Routes) (tns verb path query : Text)
    (h : isWsdlRequest facts11 verb path query = true) : serveHttp facts11 r tns verb path query = .wsdl := by
  simp [serveHttp, h]

/-- URL-path naming, complete: a request line that is not a genuine WSDL request and is answered by no
    HttpPattern, whose last path segment is a registered primary method, runs that method and its
    auxiliaries — whatever the method is called (`wsdl`, `refresh_wsdl`, …) -/
theorem url_path_registered_runs (tns : Text) (ms : List Method) (r : Routes) (hb : build facts11 tns ms = .ok r)
    (m : Method) (hm : m ∈ ms) (ha : m.aux = false) (hn : '/' ∉ m.name) (verb pre query : Text)
    (hw : isWsdlRequest facts11 verb (pre ++ '/' :: m.name) query = false)
    (hp : ∀ p ∈ httpPatterns r, p.matches verb (pre ++ '/' :: m.name) = false) :
    serveHttp facts11 r tns verb (pre ++ '/' :: m.name) query =
      .ran (m.fid :: (auxs tns ms (routeKey tns m)).map (·.fid)) := by
  rw [serveHttp_path facts11 r tns verb _ query hw hp]
  exact registered_runs tns ms r hb m hm ha _ ((naming tns m.name).2.2.2.2 pre hn)

/-- … and an unregistered last segment gets the not-found fault (404), never the interface document -/
theorem url_path_unregistered_not_found (tns : Text) (ms : List Method) (r : Routes)
    (hb : build facts11 tns ms = .ok r) (n verb pre query : Text) (hn : '/' ∉ n)
    (hu : ∀ m ∈ ms, m.name ≠ n)
    (hw : isWsdlRequest facts11 verb (pre ++ '/' :: n) query = false)
    (hp : ∀ p ∈ httpPatterns r, p.matches verb (pre ++ '/' :: n) = false) :
    serveHttp facts11 r tns verb (pre ++ '/' :: n) query = .notFound := by
  rw [serveHttp_path facts11 r tns verb _ query hw hp]
  exact (reached_iff_registered tns ms r hb _ n ((naming tns n).2.2.2.2 pre hn)).mpr hu

/-! ### address-less HttpPatterns -/

/-- an HttpPattern declared without an address answers to the method's PUBLIC name (the in-message name),
    never to the python function or operation name -/
theorem pattern_default_is_public_name (s : ServiceDecl) (d : MethodDecl) (m : Method)
    (h : resolveMethod facts11 s d = .ok m) :
    m.patterns = d.patterns.map (fun va => (va.1, va.2.getD m.name)) := by
  unfold resolveMethod at h
  cases hr : resolveIn facts11 d with
  | error e => simp [hr] at h
  | ok p =>
    obtain ⟨inNs, name⟩ := p
    simp only [hr] at h
    cases h
    exact fillPatterns_default facts11 (by decide) d name d.patterns

/-- `url_path_unregistered_not_found` over pattern defaults: when every collected pattern carries a plain
    address equal to '/' + a registered public name (which is what address-less patterns get), a GET for
    '/n' with `n` unregistered - e.g. the python function name of a renamed method - reaches nothing -/
theorem default_patterns_unregistered_not_found (tns : Text) (ms : List Method) (r : Routes)
    (hb : build facts11 tns ms = .ok r) (n verb query : Text) (hn : '/' ∉ n)
    (hu : ∀ m ∈ ms, m.name ≠ n)
    (hd : ∀ p ∈ httpPatterns r, ∃ m ∈ ms, p.addr = '/' :: m.name ∧ ∀ c ∈ p.addr, isOpener c = false)
    (hw : isWsdlRequest facts11 verb ('/' :: n) query = false) :
    serveHttp facts11 r tns verb ('/' :: n) query = .notFound := by
  apply url_path_unregistered_not_found tns ms r hb n verb [] query hn hu hw
  intro p hp
  obtain ⟨m, hm, ha, hc⟩ := hd p hp
  cases hmt : p.matches verb ([] ++ '/' :: n) with
  | false => rfl
  | true =>
    exfalso
    have := matches_plain hc hmt
    rw [ha] at this
    exact hu m hm (List.cons.inj this).2.symm

/-! ### a protocol instance serves the application it was given to first, and no other -/

/-- whatever sequence of applications a protocol instance is handed to (as in- or out-protocol of an
    `Application`, by `set_out_protocol`): if no call was refused, all of them were the SAME application
    object - so `get_call_handles`, which looks the name up in the bound application's interface, can never
    run a method registered only in another application (equal tns and name do not make two applications one) -/
theorem protocol_serves_one_application (a : Nat) (as : List Nat) (st : Option Nat)
    (h : setApps facts11 none (a :: as) = some st) : st = some a ∧ ∀ x ∈ as, x = a :=
  setApps_bound facts11 (by decide) a as st h

/-! ### SOAP: what the header contains never selects the method -/

/-- Soap11 and Soap12: the request is named by the first child of the Envelope's own Body child; the blocks
    before it (a Header quoting or relaying whole messages with Body / Header / Envelope elements of their
    own, any depth) and after it play no role -/
theorem soap_header_never_selects (soapNs : Text) (pre post rest : List Xml) (m : Xml)
    (hpre : ∀ x ∈ pre, x.isTag soapNs "Body".toList = false) (r : Routes) (tns : Text) :
    soapMethod facts11 soapNs (.node (some soapNs) "Envelope".toList
        (pre ++ .node (some soapNs) "Body".toList (m :: rest) :: post)) = some (m.ns, m.loc) ∧
    serveSoap facts11 r tns soapNs (.node (some soapNs) "Envelope".toList
        (pre ++ .node (some soapNs) "Body".toList (m :: rest) :: post)) = serve facts11 r tns (.tag m.ns m.loc) := by
  have h := soapMethod_direct facts11 (by decide) soapNs pre post rest m hpre
  exact ⟨h, serveSoap_of_method facts11 r tns soapNs _ _ _ h⟩

/-- an envelope without a Body child of its own (or with an empty one) runs nothing, even if a Body sits
    somewhere inside the Header -/
theorem soap_no_direct_body (soapNs : Text) (cs : List Xml) (r : Routes) (tns : Text)
    (h : ∀ x ∈ cs, x.isTag soapNs "Body".toList = false) :
    serveSoap facts11 r tns soapNs (.node (some soapNs) "Envelope".toList cs) = .clientFault := by
  exact serveSoap_no_body facts11 (by decide) soapNs cs r tns h

/-- FULL statement (needs `facts11.patternDup = .reject`, which the current tree does not have):
    the chosen pattern never depends on the order in which patterns were collected.
    Proved part: it does not whenever no two patterns that match the request share an address
    (the implementation keeps patterns in a `set` and sorts by address only, so ties are resolved by
    set iteration order). -/
theorem pattern_choice_order_free_partial (ps ps' : List Pat) (hp : ps.Perm ps') (verb path : Text)
    (hu : ∀ p ∈ ps, ∀ q ∈ ps, p.matches verb path = true → q.matches verb path = true →
      p.addr = q.addr → p = q) :
    choosePattern ps verb path = choosePattern ps' verb path :=
  choose_perm hp verb path hu

/-- an address without placeholders matches exactly itself (no prefix, suffix or case variant) -/
theorem literal_address_exact (s path : Text) : addrMatches (lits s) path = true ↔ path = s :=
  addrMatches_lits s path

/-! ### witnesses of the behaviour switches: what goes wrong when a switch measures its bad value

  On the facts as measured the hypotheses `facts11.auxFirst = .typeError` and `facts11.ifaceDup = .silentSkip` are false
  (the good values are `.insertFront`, `.reject`); the statements for any `F` are `build_aux_first_typeError` and
  `processMethod_silentSkip`. -/

/-- D32 (`val.insert(method, 0)`): an auxiliary service listed before the primary one makes the
    construction fail with TypeError, the other order is accepted -/
theorem aux_first_witness (h : facts11.auxFirst = .typeError) (a x : Method)
    (ha : a.aux = false) (hx : x.aux = true) (hn : x.name = a.name) (hk : ifaceKey a ≠ ifaceKey x)
    (ham : a.member = false) (hxm : x.member = false)
    (hi : internalKey a ≠ internalKey x) (hc : (classKeys [] a).Nodup) :
    build facts11 [] [x, a] = .error .typeError ∧ ∃ r, build facts11 [] [a, x] = .ok r :=
  build_aux_first_typeError facts11 h a x ha hx hn hk ham hxm hi hc

/-- with the silent skip, of two methods with one interface key the first listed wins -/
theorem iface_skip_witness (h : facts11.ifaceDup = .silentSkip) (a b : Method)
    (hk : ifaceKey a = ifaceKey b) (st : St) (hst : processMethod facts11 [] ⟨[], []⟩ a = .ok st) :
    processMethod facts11 [] st b = .ok st :=
  processMethod_silentSkip facts11 h a b hk st hst

/-! ### non-vacuity -/


/-- an accepted application with a primary, a case variant and an auxiliary; the auxiliary is listed first -/
example : (match build facts11 "tns".toList [mX, mA, mB] with
    | .ok r => (rget r "{tns}foo".toList).map (·.fid) | .error _ => []) = [1, 3] := by
  rw [build_sample]
  decide +kernel
example : (match build facts11 "tns".toList [mX, mA, mB] with
    | .ok r => serve facts11 r "tns".toList (.key "foo".toList) | .error _ => .stuck) = .ran [1, 3] := by
  rw [build_sample]
  decide +kernel
example : (match build facts11 "tns".toList [mX, mA, mB] with
    | .ok r => serve facts11 r "tns".toList (.key "fOo".toList) | .error _ => .stuck) = .notFound := by
  rw [build_sample]
  decide +kernel
example : (match build facts11 "tns".toList [mX, mA, mB] with
    | .ok r => serve facts11 r "tns".toList (.tag (some "other".toList) "foo".toList) | .error _ => .stuck) = .notFound := by
  rw [build_sample]
  decide +kernel
/-- two primaries for one name (the in-messages live in different namespaces, so only `process_method` sees it) -/
example : (match build facts11 "tns".toList [mA, mC] with | .ok _ => none | .error e => some e) = some .valueError := by decide +kernel
example : (match build facts11 "tns".toList [mC, mX, mA] with | .ok _ => none | .error e => some e) = some .valueError := by decide +kernel
example : Clash mA mC := by decide +kernel
-- Where an example below starts with `rw [String.toList_ofList]`, the literals `"…".toList` of its statement become the
-- lists of their characters before the kernel evaluates the rest (a literal is `String.ofList` of them): decoding a
-- literal's bytes is quadratic in its length there, and dearer than the function under test. It is done where a literal is long, or compared
-- often enough, that decoding it costs more than the rewrite (by measurement); short literals are left to the kernel.
example : requestKey facts11 "tns".toList (.path "/x/y/foo".toList) = "{tns}foo".toList := by
  repeat rw [String.toList_ofList]
  decide +kernel
example : choosePattern [⟨none, "/a/<x>".toList, "p".toList, 1⟩, ⟨none, "/a/b".toList, "q".toList, 2⟩]
    "GET".toList "/a/b".toList = some ⟨none, "/a/b".toList, "q".toList, 2⟩ := by decide +kernel
example : addrMatches (compileAddr "/a/<x>/c".toList) "/a/zz/c".toList = true ∧
          addrMatches (compileAddr "/a/<x>/c".toList) "/a/z/z/c".toList = false := by
  repeat rw [String.toList_ofList]
  decide +kernel

/-- undecodable / non-canonical byte names: invalid byte, stray continuation, overlong 2- and 3-byte forms,
    CESU surrogate, above U+10FFFF, truncated sequence -/
example : decodeName [0x65, 0x63, 0x68, 0x6F, 0xFF] = none ∧ decodeName [0x80, 0x65] = none ∧
    decodeName [0xC1, 0xA5, 0x63] = none ∧ decodeName [0xE0, 0x81, 0xA5] = none ∧
    decodeName [0xED, 0xA0, 0x80] = none ∧ decodeName [0xF4, 0x90, 0x80, 0x80] = none ∧
    decodeName [0x65, 0xC3] = none := by decide +kernel
example : decodeName [0x65, 0xC3, 0xA9, 0xE2, 0x82, 0xAC, 0xF0, 0x9F, 0x98, 0x80] = some "eé€😀".toList := by decide +kernel
example : encodeName "eé€😀".toList = [0x65, 0xC3, 0xA9, 0xE2, 0x82, 0xAC, 0xF0, 0x9F, 0x98, 0x80] := by decide +kernel
example : (match build facts11 "tns".toList [mX, mA, mB] with
    | .ok r => (serveWire facts11 r "tns".toList .rpcName (.bin [0x66, 0x6F, 0x6F]),
                serveWire facts11 r "tns".toList .rpcName (.bin [0x66, 0x6F, 0x6F, 0xFF]),
                serveWire facts11 r "tns".toList .key (.bin [0x66, 0x6F, 0x6F, 0x00]))
    | .error _ => (.stuck, .stuck, .stuck)) = (.ran [1, 3], .clientFault, .notFound) := by
  rw [build_sample]
  decide +kernel

example : isWsdlRequest facts11 "GET".toList "/svc/refresh_wsdl".toList [] = false ∧
          isWsdlRequest facts11 "GET".toList "/svc/wsdl".toList [] = false ∧
          isWsdlRequest facts11 "GET".toList "/svc/xwsdl".toList "a=1&wsdl".toList = false ∧
          isWsdlRequest facts11 "get".toList "/svc.wsdl".toList [] = true ∧
          isWsdlRequest facts11 "GET".toList "/svc/".toList "WSDL=1&x=2".toList = true ∧
          isWsdlRequest facts11 "HEAD".toList "/svc.wsdl".toList "wsdl".toList = false := by
  repeat rw [String.toList_ofList]
  decide +kernel

/-- member methods: `Doc.rename` by default, `Doc.doit` for `_in_message_name='doit'` (message name `doit`) -/
example : (match resolveClasses facts11 "tns".toList [docDecl] with
    | .ok ms => ms.map (fun m => (m.name, m.msgName, ifaceKey m)) | .error _ => []) =
    [("Doc.rename".toList, "Doc.rename".toList, "tns.Doc.rename".toList),
     ("Doc.doit".toList, "doit".toList, "tns.Doc.doit".toList)] := by
  repeat rw [String.toList_ofList]
  decide +kernel
example : (match resolveClasses facts11 "tns".toList [docDecl] with
    | .ok mem => (match build facts11 "tns".toList ([mX, mA] ++ mem) with
        | .ok r => serve facts11 r "tns".toList (.key "Doc.rename".toList) | .error _ => .stuck)
    | .error _ => .stuck) = .ran [5] := by decide +kernel

/-- a relayed message inside the Header naming `wipe`; the Body names `echo` -/
example : soapMethod facts11 "E".toList (.node (some "E".toList) "Envelope".toList
    [.node (some "E".toList) "Header".toList [.node (some "t".toList) "relay".toList
        [.node (some "E".toList) "Body".toList [.node (some "t".toList) "wipe".toList []]]],
     .node (some "E".toList) "Body".toList [.node (some "t".toList) "echo".toList []]]) =
    some (some "t".toList, "echo".toList) := by decide +kernel
example : fillPatterns facts11 { fid := 1, func := "get_thing".toList, inMsg := some "fetch".toList } "fetch".toList
    [(some ["GET".toList], none)] = [(some ["GET".toList], "fetch".toList)] := by decide +kernel

example : setApps facts11 none [7, 7, 7] = some (some 7) ∧ setApps facts11 none [7, 8] = none := by decide +kernel

end SpyneModel.Props.C11
