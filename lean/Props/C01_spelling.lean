/-
  C01, continued — "a request document that DENOTES those values": a document can be spelled in many ways.
  `Raw` (SpyneModel/XmlSpelling.lean) is a parsed document with comments, processing instructions, CDATA
  sections and character data in pieces; `denote` is the tree it denotes, `parserView factsDoc` the tree the
  parser that XmlDocument / Soap11 / Soap12 configure hands to `from_element` (measured: `commentsRemoved`,
  `pisRemoved`, T1 witnesses: a comment / PI inside a text value). Every theorem of Props/C01*.lean about
  `decode` on a `Node` is, through `server_sees_denoted_tree`, a theorem about every spelling of that node.
  Entity / character references, prefixes and default-namespace declarations are resolved by the parser
  (oracle) and only exist in T3. Chunked byte values: the native value of ByteArray is a sequence of chunks,
  the model's `Val.bytes` their concatenation (`chunked_bytes_written_as_concatenation`, measured
  `bytesJoinBeforeEncode`, witness `[b'a', b'bcd']`).
-/
import Proofs.XmlSpelling
import Proofs.XmlBasic
import Props.Facts08Good
import SpyneModel.Generated.Facts01
namespace SpyneModel.Props.C01spelling
open SpyneModel SpyneModel.Xml SpyneModel.Generated

/-- the deserialiser is handed the tree the document denotes: comment- and PI-free, text merged -/
theorem server_sees_denoted_tree (r : Raw) : parserView factsDoc r = denote r :=
  parserView_eq_denote factsDoc (by decide) (by decide) r

/-- so decoding a document is decoding what it denotes, whatever its spelling -/
theorem decode_of_any_spelling (cfg : Cfg) (I : Iface) (t : Ty) (r : Raw) :
    decode facts08 factsXml cfg I t (parserView factsDoc r) = decode facts08 factsXml cfg I t (denote r) := by
  rw [server_sees_denoted_tree]

/-- two spellings of the same tree are decoded alike -/
theorem same_denotation_same_outcome (cfg : Cfg) (I : Iface) (t : Ty) (r r' : Raw) (h : denote r = denote r') :
    decode facts08 factsXml cfg I t (parserView factsDoc r) = decode facts08 factsXml cfg I t (parserView factsDoc r') := by
  rw [server_sees_denoted_tree, server_sees_denoted_tree, h]

/-- a comment or processing instruction anywhere in the content of an element (inside a text value, between
    the items of an array, in front of the request element in soap:Body, …) does not change the denotation -/
theorem comments_and_pis_denote_nothing (ns name : Text) (attrs : List (Text × Text)) (pre post : List RawItem)
    (x : RawItem) (hx : isNoise x = true) :
    denote (.elem ns name attrs (pre ++ x :: post)) = denote (.elem ns name attrs (pre ++ post)) :=
  denote_insert_noise ns name attrs pre post x hx

/-- character data cut into pieces, any of them CDATA sections, denotes the concatenation -/
theorem text_pieces_and_cdata_denote_the_text (ns name : Text) (attrs : List (Text × Text)) (pre post : List RawItem)
    (a b : Text) (c1 c2 c3 : Bool) :
    denote (.elem ns name attrs (pre ++ piece c1 (a ++ b) :: post)) =
      denote (.elem ns name attrs (pre ++ piece c2 a :: piece c3 b :: post)) :=
  denote_split_text ns name attrs pre post a b c1 c2 c3

/-- respelling below respells above -/
theorem respelled_child (ns name : Text) (attrs : List (Text × Text)) (pre post : List RawItem) (e e' : Raw)
    (h : denote e = denote e') :
    denote (.elem ns name attrs (pre ++ .child e :: post)) = denote (.elem ns name attrs (pre ++ .child e' :: post)) :=
  denote_child_congr ns name attrs pre post e e' h

/-- a byte value handed over as a sequence of chunks is written as the concatenation of the chunks -/
theorem chunked_bytes_written_as_concatenation (enc : BinEnc) (chunks : List (List Nat)) :
    chunksText facts08 factsDoc enc chunks = leafToText facts08 (.bytes enc) (.bytes chunks.flatten) :=
  chunksText_join facts08 factsDoc (by decide) enc chunks

/-- another spelling many toolkits use: an element carries xsi:type naming ITS OWN declared class (whatever
    customised variant of the class the position is declared with — the model compares classes by name, the
    code through `__orig__`): the decoder continues with exactly that class -/
theorem own_xsi_type_resolves_to_the_declared_class (I : Iface) (hI : ifaceWf I = true) (c : ClassDef) (hc : c ∈ I.classes)
    (dns : Text) (db : Option Text) (dfs : List (Text × Ty)) (docc : Occ) :
    resolveXsi factsXml I (.obj c.name dns db dfs docc) (clark c.ns c.name) = some (ClassDef.toTy c) :=
  resolveXsi_class hI hc c.name dns db dfs docc (by unfold Iface.isSub Hier.isSub; simp)

/-! ### non-vacuity: the demo document of the seed -/
def exTitle : Raw := .elem "urn:d".toList "title".toList []
  [.text "Hello, ".toList, .comment " c ".toList, .text "World".toList]
example : denote exTitle = .elem "urn:d".toList "title".toList [] (some "Hello, World".toList) [] := by rfl
example : parserView { commentsRemoved := false, pisRemoved := true, bytesJoinBeforeEncode := true } exTitle =
    .elem "urn:d".toList "title".toList [] (some "Hello, ".toList) [pseudoNode " c ".toList] := by rfl
example : chunksText facts08 { commentsRemoved := true, pisRemoved := true, bytesJoinBeforeEncode := false } .base64
    [[104], [105]] = leafToText facts08 (.bytes .base64) (.bytes [104]) := by rfl

end SpyneModel.Props.C01spelling
