/-
  C05 (XML / SOAP part) — soft validation enforces exactly the declared constraints.

  "accepted iff every value satisfies the declared constraints" is proved as its two halves, for all
  types, all nesting depths, all three XML protocols (the envelope layer adds nothing: Props/C01):
    IF      `xml_soft_accepts_conformant`: a request written from values that satisfy every declared
            constraint is accepted and the function receives those values;
    ONLY IF `xml_soft_accepted_conforms`: for EVERY request document (not only well-meant ones), whatever
            the soft validator lets through to the function satisfies every declared constraint —
            nullability, min/max occurrence, ranges, fixed-width bounds, length, pattern, enumerated
            values, lexical well-formedness — recursively (`okOneX I true false`: `conformsOne` over
            the registry, i.e. an xsi:type-selected registered subclass conforms with its own members).
  The only-if half is stated about the DELIVERED value; to restate it about the value a request was
  written from one needs, in addition, that a leaf text denotes one value only (text → value is a
  function, so it does; value → text → value for non-conformant values is not part of `LeafLaws`).
  Also here: each enforcement point shown exact in isolation (`xml_soft_leaf_exact` — this is
  `xml_soft_lexical` and the facet lattice at a leaf —, `xml_soft_empty_element`,
  `xml_soft_nil_exact`, `xml_soft_freq_enforced`).
  `tyCons I t` / `ifaceCons I`: an object type that names a registered class lists that class's
  members (true by construction for types read off live classes).
-/
import Proofs.XmlAccept
import Proofs.XmlServer
import Proofs.XmlRoundtrip
import Props.Facts08Good
import SpyneModel.Generated.Facts01
namespace SpyneModel.Props.C05xml
open SpyneModel SpyneModel.Xml SpyneModel.Generated

/-- a request whose values satisfy every declared constraint is accepted, and the values arrive -/
theorem xml_soft_accepts_conformant (cfg : Cfg) (hv : cfg.validator = .soft) (hP : cfg.parseXsiType = true)
    (I : Iface) (hI : ifaceWf I = true) (ns name : Text) (t : Ty) (ht : tyWf t = true)
    (v : Val) (hc : okOneX I false true t v = true) (hf : fitsV facts08 v = true) :
    ∃ e, encode facts08 cfg I ns name t v = [e] ∧
      decode facts08 factsXml cfg I t e = .ok (normOne t v) :=
  one_rt_conforms { L := leafLaws08, hE := fun _ => by decide, hN := isNil_true (by decide), hP := hP, hI := hI }
    ns name t ht v (by rw [Cfg.soft_eq_true hv]; exact hc) hf

/-- ONLY IF: whatever document arrives, a value delivered under soft validation satisfies every
    declared constraint -/
theorem xml_soft_accepted_conforms (cfg : Cfg) (hv : cfg.validator = .soft) (I : Iface) (hI : ifaceWf I = true)
    (hC : ifaceCons I) (t : Ty) (ht : tyWf t = true) (hc : tyCons I t) (x : Node) (w : Val)
    (h : decode facts08 factsXml cfg I t x = .ok w) : okOneX I true false t w = true :=
  fromElement_acc { L := leafLaws08, hE := by decide, hX := by decide, hs := Cfg.soft_eq_true hv, hI := hI, hC := hC }
    t ht hc x w h

/-- the same at the server: the in-object of a dispatched call conforms to the in-message type, so
    the user function is only ever entered with arguments that satisfy their declared constraints -/
theorem xml_soft_server_accepted_conforms (cfg : Cfg) (hv : cfg.validator = .soft) (I : Iface) (hI : ifaceWf I = true)
    (hC : ifaceCons I) (ms : Soap.Methods) (hms : ∀ k t, ms.lookup k = some t → tyWf t = true ∧ tyCons I t)
    (doc : Node) (k : Text) (w : Val) (h : Soap.xmlServerDecode facts08 factsXml cfg I ms doc = .ok (k, w)) :
    ∃ t, ms.lookup k = some t ∧ okOneX I true false t w = true :=
  let ⟨t, hm, hd⟩ := xmlServerDecode_ok facts08 factsXml cfg I ms h
  ⟨t, hm, xml_soft_accepted_conforms cfg hv I hI hC t (hms k t hm).1 (hms k t hm).2 doc w hd⟩

/-- a leaf element with text `s` is accepted iff `s` is in the lexical space of the declared type AND
    the value satisfies every declared facet (range, fixed-width bounds, length, pattern, enumerated
    values); the accepted value is the parsed one. `leafSpec` is that specification. -/
theorem xml_soft_leaf_exact (cfg : Cfg) (hv : cfg.validator = .soft) (p : PrimTy) (o : Occ) (s : Text) :
    leafFromElement facts08 factsXml cfg p o (some s) = leafSpec facts08 p s :=
  soft_leaf_exact leafLaws08 factsXml cfg (Cfg.soft_eq_true hv) p o s

/-- lexically ill-formed text is rejected, never coerced -/
theorem xml_soft_lexical (cfg : Cfg) (hv : cfg.validator = .soft) (p : PrimTy) (o : Occ) (s : Text)
    (h : leafFromText facts08 p s = .fault) : leafFromElement facts08 factsXml cfg p o (some s) = .fault := by
  rw [xml_soft_leaf_exact cfg hv]; simp [leafSpec, h]

/-- a well-formed value outside a declared facet is rejected -/
theorem xml_soft_facet_violation (cfg : Cfg) (hv : cfg.validator = .soft) (p : PrimTy) (o : Occ) (s : Text) (v : Val)
    (h : leafFromText facts08 p s = .ok v) (hbad : p.valueOk v = false) :
    leafFromElement facts08 factsXml cfg p o (some s) = .fault := by
  rw [xml_soft_leaf_exact cfg hv]; simp [leafSpec, h, hbad]

/-- … and one inside all of them is accepted unchanged -/
theorem xml_soft_facets_ok (cfg : Cfg) (hv : cfg.validator = .soft) (p : PrimTy) (o : Occ) (s : Text) (v : Val)
    (h : leafFromText facts08 p s = .ok v) (hok : p.valueOk v = true) :
    leafFromElement facts08 factsXml cfg p o (some s) = .ok v := by
  rw [xml_soft_leaf_exact cfg hv]; simp [leafSpec, h, hok]

/-- an empty element is the empty string for string types (checked like any text) and None for the
    others, accepted iff nillable -/
theorem xml_soft_empty_element (cfg : Cfg) (hv : cfg.validator = .soft) (p : PrimTy) (o : Occ) :
    leafFromElement facts08 factsXml cfg p o none =
      (match p with
       | .unicode _ _ _ _ => leafSpec facts08 p []
       | .enum _ => .fault
       | _ => if o.nillable then .ok .none else .fault) :=
  soft_leaf_empty leafLaws08 (by decide) cfg (Cfg.soft_eq_true hv) p o

/-- nullability: an element with `xsi:nil` true is accepted iff the declared type is nillable;
    `xsi:nil="false"` is not nil (switch `nilRule`) -/
theorem xml_soft_nil_exact (cfg : Cfg) (hv : cfg.validator = .soft) (I : Iface) (t : Ty)
    (ns name : Text) (attrs : List (Text × Text)) (text : Option Text) (children : List Node)
    (hnil : isNil factsXml attrs = true) :
    decode facts08 factsXml cfg I t (.elem ns name attrs text children) =
      if t.occ.nillable then .ok .none else .fault :=
  soft_nil_exact facts08 factsXml cfg (Cfg.soft_eq_true hv) I t ns name attrs text children hnil

theorem xsi_nil_false_is_not_nil (rest : List (Text × Text)) :
    isNil factsXml ((xsiNilKey, "false".toList) :: rest) = false ∧
    isNil factsXml ((xsiNilKey, "0".toList) :: rest) = false ∧
    isNil factsXml ((xsiNilKey, "true".toList) :: rest) = true ∧
    isNil factsXml ((xsiNilKey, "1".toList) :: rest) = true :=
  isNil_xsdBoolean (by decide) rest

/-- occurrence constraints: an accepted object has every member within min_occurs..max_occurs -/
theorem xml_soft_freq_enforced (cfg : Cfg) (hv : cfg.validator = .soft) (hP : cfg.parseXsiType = true)
    (I : Iface) (cname cns : Text) (cb : Option Text) (fields : List (Text × Ty)) (o : Occ)
    (ns name : Text) (attrs : List (Text × Text)) (text : Option Text) (children : List Node) (v : Val)
    (hx : attrs.lookup xsiTypeKey = none)
    (h : decode facts08 factsXml cfg I (.obj cname cns cb fields o) (.elem ns name attrs text children) = .ok v)
    (hne : v ≠ .none) : freqOk fields children = true :=
  soft_freq_enforced facts08 factsXml cfg (Cfg.soft_eq_true hv) hP I cname cns cb fields o ns name attrs text
    children v hx h hne

/-! ### non-vacuity -/
example : ifaceCons { classes := [] } := by intro c hc; cases hc
example : tyCons { classes := [] } (.obj "A".toList [] none [("x".toList, .prim .boolean {})] {}) := by
  simp [tyCons, fieldsCons, Registry.find?]
example : leafSpec facts08 (.integer .u8 {}) "255".toList = .ok (.int 255) := by rfl
example : leafSpec facts08 (.integer .u8 {}) "256".toList = .fault := by rfl
example : leafSpec facts08 (.integer .u8 {}) "1_0".toList = .ok (.int 10) := by rfl
example : leafSpec facts08 .boolean "junk".toList = .fault := by rfl

end SpyneModel.Props.C05xml
