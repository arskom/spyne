/-
  C16 (XML / SOAP part) — inheritance and polymorphism preserve the runtime class.
  A `Val.obj cls fields` is an instance of class `cls`; the declared type names class `cname`. Class
  definitions carry their FLAT member list (ancestors first — `get_flat_type_info`; the harness checks
  on every generated class tree that the list spyne reports is the parent's list followed by the own
  members). `okOneX I true s t v`: `v` conforms to `t` where an instance of a registered descendant of
  the declared class conforms with that class's members.
-/
import Proofs.XmlRoundtrip
import Props.Facts08Good
import SpyneModel.Generated.Facts01
namespace SpyneModel.Props.C16xml
open SpyneModel SpyneModel.Xml SpyneModel.Generated

/-- polymorphic protocol: instances of subclasses (anywhere in the value: members, array items,
    repeated members) are transmitted with all their fields and come back as the same class with
    equal field values (validators None / lxml) -/
theorem poly_roundtrip (cfg : Cfg) (hpoly : cfg.polymorphic = true) (hv : cfg.validator ≠ .soft)
    (hP : cfg.parseXsiType = true) (I : Iface) (hI : ifaceWf I = true) (ns name : Text) (t : Ty)
    (ht : tyWf t = true) (v : Val) (hc : okOneX I true false t v = true) (hf : fitsV facts08 v = true) :
    ∃ e, encode facts08 cfg I ns name t v = [e] ∧
      decode facts08 factsXml cfg I t e = .ok (normOneX I t v) :=
  one_rt { L := leafLaws08, hE := fun _ => by decide, hN := isNil_true (by decide), hP := hP, hI := hI }
    ns name t ht v (by rw [hpoly, Cfg.soft_eq_false hv]; exact hc) hf

/-- the same under soft validation (needs the repaired `unicode_from_element`) -/
theorem poly_roundtrip_soft (cfg : Cfg) (hpoly : cfg.polymorphic = true) (hv : cfg.validator = .soft)
    (hP : cfg.parseXsiType = true) (I : Iface) (hI : ifaceWf I = true) (ns name : Text) (t : Ty)
    (ht : tyWf t = true) (v : Val) (hc : okOneX I true true t v = true) (hf : fitsV facts08 v = true) :
    ∃ e, encode facts08 cfg I ns name t v = [e] ∧
      decode facts08 factsXml cfg I t e = .ok (normOneX I t v) :=
  one_rt { L := leafLaws08, hE := fun _ => by decide, hN := isNil_true (by decide), hP := hP, hI := hI }
    ns name t ht v (by rw [hpoly, Cfg.soft_eq_true hv]; exact hc) hf

/-- the class survives: what comes back for an instance of a registered subclass `cls` is an instance
    of `cls` carrying that class's members -/
theorem poly_keeps_class (I : Iface) (cname cns : Text) (cb : Option Text) (fields : List (Text × Ty)) (o : Occ)
    (cls : Text) (vs : List (Text × Val)) (c : ClassDef) (hne : cls ≠ cname)
    (hf : I.classes.find? cls = some c) :
    normOneX I (.obj cname cns cb fields o) (.obj cls vs) = .obj cls (normFieldsX I c.fields vs) := by
  simp [normOneX, hne, hf]

/-- the type marker: a subclass instance is written with `xsi:type` = the class key of ITS class, and
    that key resolves (through `interface.classes`) to that very class -/
theorem xsi_type_marks_runtime_class (cfg : Cfg) (hpoly : cfg.polymorphic = true) (I : Iface)
    (hI : ifaceWf I = true) (ns name cname cns : Text) (cb : Option Text) (fields : List (Text × Ty)) (o : Occ)
    (cls : Text) (vs : List (Text × Val)) (c : ClassDef) (hne : cls ≠ cname) (hsub : I.isSub cls cname = true)
    (hf : I.classes.find? cls = some c) :
    encode facts08 cfg I ns name (.obj cname cns cb fields o) (.obj cls vs) =
      [.elem ns name [(xsiTypeKey, clark c.ns c.name)] none (membersToParent facts08 cfg I c.ns c.fields vs)] ∧
    I.lookup (clark c.ns c.name) = some (ClassDef.toTy c) ∧ c.name = cls := by
  obtain ⟨hcm, hcn⟩ := Registry.find?_some hf
  refine ⟨?_, ?_, hcn⟩
  · simp [encode, toParent, polyTarget_sub hpoly hne hsub hf]
  · exact lookup_of_class hI hcm

/-- polymorphism disabled: exactly the declared class's members are transmitted, without a type
    marker, whatever the runtime class of the instance -/
theorem nonpoly_declared_fields_only (cfg : Cfg) (hpoly : cfg.polymorphic = false) (I : Iface)
    (ns name cname cns : Text) (cb : Option Text) (fields : List (Text × Ty)) (o : Occ)
    (cls : Text) (vs : List (Text × Val)) :
    encode facts08 cfg I ns name (.obj cname cns cb fields o) (.obj cls vs) =
      [.elem ns name [] none (membersToParent facts08 cfg I cns fields vs)] ∧
    ∀ e ∈ membersToParent facts08 cfg I cns fields vs, e.name ∈ fieldNames fields := by
  refine ⟨?_, members_names facts08 cfg I cns fields vs⟩
  simp [encode, toParent, polyTarget_off hpoly]

/-- members are written in the order of the flat member list (ancestors' members first): the output
    for a member list is the output for its first member followed by the output for the rest, and all
    elements written for a member carry its name -/
theorem members_in_declared_order (cfg : Cfg) (I : Iface) (cns k : Text) (t : Ty) (v : Val)
    (fs : List (Text × Ty)) (vs : List (Text × Val)) :
    membersToParent facts08 cfg I cns ((k, t) :: fs) ((k, v) :: vs) =
      memberNodes facts08 cfg I cns k t v ++ membersToParent facts08 cfg I cns fs vs ∧
    ∀ e ∈ memberNodes facts08 cfg I cns k t v, e.name = k :=
  ⟨membersToParent_cons facts08 cfg I cns k t v fs vs,
   fun e he => (memberNodes_nodeOk facts08 cfg I cns k t v e he).1⟩

/-- both emission paths — building `ctx.out_document` and writing incrementally to `ctx.out_stream` —
    produce the same element tree (switch `streamSameTree`, measured with a witness and compared with the
    model on every XmlDocument response in T2), so everything above holds for streamed output too -/
theorem stream_emission_same_tree (cfg : Cfg) (I : Iface) (ns name : Text) (t : Ty) (v : Val) :
    encodeStream facts08 factsXml cfg I ns name t v = encode facts08 cfg I ns name t v := by
  have h : factsXml.streamSameTree = true := by decide
  simp [encodeStream, h]

/-- streamed polymorphic output carries the type marker and is read back as the same subclass -/
theorem poly_roundtrip_stream (cfg : Cfg) (hpoly : cfg.polymorphic = true) (hv : cfg.validator ≠ .soft)
    (hP : cfg.parseXsiType = true) (I : Iface) (hI : ifaceWf I = true) (ns name : Text) (t : Ty)
    (ht : tyWf t = true) (v : Val) (hc : okOneX I true false t v = true) (hf : fitsV facts08 v = true) :
    ∃ e, encodeStream facts08 factsXml cfg I ns name t v = [e] ∧
      decode facts08 factsXml cfg I t e = .ok (normOneX I t v) := by
  rw [stream_emission_same_tree]
  exact poly_roundtrip cfg hpoly hv hP I hI ns name t ht v hc hf

/-! ### non-vacuity -/

def exBase : ClassDef := ⟨"B".toList, "urn:x".toList, none, [("x".toList, .prim .boolean {})]⟩
def exSub : ClassDef := ⟨"S".toList, "urn:x".toList, some "B".toList, [("x".toList, .prim .boolean {}), ("y".toList, .prim (.integer .i8 {}) {})]⟩
def exI : Iface := { classes := [exBase, exSub], tns := "urn:x".toList }
def exArr : Ty := .arr "B".toList (ClassDef.toTy exBase) {}
def exVal : Val := .list [.obj "B".toList [("x".toList, .bool true)],
  .obj "S".toList [("x".toList, .bool false), ("y".toList, .int 5)]]

example : ifaceWf exI = true := by decide +kernel
example : tyWf exArr = true := by decide +kernel
example : okOneX exI true true exArr exVal = true := by decide +kernel
example : normOneX exI exArr exVal = exVal := by rfl

end SpyneModel.Props.C16xml
