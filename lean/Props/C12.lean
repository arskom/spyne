/-
  C12 — concurrent requests do not interfere; the lazy WSDL is built once and served whole.

  Property theorems only.  Every theorem is about the model instantiated with the facts regenerated
  from /repo on every run (`Generated.facts12`: the synchronisation skeleton of the WSDL handler
  taken from the ast, the publication order of every cache, how the validator's error text is read,
  the unclassified shared writes seen by the snapshot probe); side conditions by `decide`.

  The claim is PARTIAL by design (DESIGN.md §4 C12): what is proved is the synchronisation logic —
  which shared locations are read and written in which order under which lock — for every schedule
  (`List Nat`, unbounded) and any number of threads (thread ids are arbitrary naturals).  One
  modelled step is one Python-level load/store of a shared attribute or one call boundary; CPython's
  atomicity below that, lxml releasing the GIL inside `validate`, `WeakKeyDictionary` internals and
  memory effects are assumptions, exercised only by the real-thread runs of the harness (T2/T3).
-/
import Proofs.ConcSys
import SpyneModel.Generated.Facts12
namespace SpyneModel.Props.C12
open SpyneModel.Conc SpyneModel.Generated

/-! ### the whole system: any mix of `?wsdl` and RPC requests on one instance -/

/-- FULL STATEMENT.  Whatever the requests, however many, under every interleaving: a caller that
    receives a response receives exactly the response the same request gets when it is processed
    alone.  (No injected build failure here; with failures see `wsdl_once_and_whole`.) -/
theorem concurrent_requests_do_not_interfere (reqs : List Req) (hf : ∀ q ∈ reqs, q.Faithful facts12)
    (sched : List Nat) (i : Nat) (hi : i < reqs.length) (r : Resp)
    (hr : (sysRun facts12 allOk (sysInit reqs) sched).response i = some r) :
    alone facts12 reqs[i] = some r :=
  sys_main facts12 (by decide) reqs hf sched i hi r hr

/-- … and `build_interface_document` runs at most once -/
theorem wsdl_built_at_most_once (reqs : List Req) (sched : List Nat) :
    (sysRun facts12 allOk (sysInit reqs) sched).w.builds ≤ 1 :=
  sys_builds facts12 (by decide) reqs sched

/-- what "processed alone" yields: the sequential document … -/
theorem alone_wsdl_is_the_sequential_document : alone facts12 .wsdl = some (.doc (.doc (some .whole))) :=
  alone_answer facts12 (by decide) .wsdl (by decide)

/-- … and for an RPC request, the values a sequential run computes -/
theorem alone_rpc_is_the_sequential_response (a : Nat) (inv : Bool) (p : List ROp)
    (hq : (Req.rpc a inv p).Faithful facts12) :
    alone facts12 (.rpc a inv p) = some (.body (soloObs a inv p none (fun _ => none))) :=
  alone_answer facts12 (by decide) (.rpc a inv p) hq

-- non-vacuity: two racing `?wsdl` requests, a schema-invalid request and a request that fills
-- two caches; an interleaved schedule after which all four have their (sequential) responses
private def demoReqs : List Req :=
  [ .wsdl, .wsdl, .rpc 7 true [.validate, .readErr],
    .rpc 8 false [.validate, .probe ⟨.attr, 1, true⟩, .publish ⟨.attr, 1, true⟩, .probe ⟨.sort, 2, false⟩] ]
private def demoSched : List Nat :=
  [0, 1, 0, 1, 2, 3, 0, 1, 3, 2, 3, 3] ++ List.replicate 23 1 ++ List.replicate 23 0
example : ∀ q ∈ demoReqs, q.Faithful facts12 := by decide +kernel
example : (sysRun facts12 allOk (sysInit demoReqs) demoSched).response 1 = some (.doc (.doc (some .whole))) := by decide +kernel
example : (sysRun facts12 allOk (sysInit demoReqs) demoSched).response 0 = some (.doc (.doc (some .whole))) := by decide +kernel
example : (sysRun facts12 allOk (sysInit demoReqs) demoSched).response 2 = some (.body [.err (some 7)]) := by decide +kernel
example : (sysRun facts12 allOk (sysInit demoReqs) demoSched).w.builds = 1 := by decide +kernel

/-! ### the lazy WSDL handler (skeleton incl. its try/except/finally structure taken from the ast of /repo)

  `O : Nat → Fail` is an adversary that decides for every execution of `build_interface_document`
  whether it succeeds, raises before touching anything, or raises after the portType / service
  elements exist; every theorem of this section holds for every schedule AND every `O`. -/

private theorem resets_ok (O : Nat → Fail) : (facts12.cfg O).resets = true :=
  show facts12.builderResets = true by decide

private theorem hsk : facts12.wsdlSkeleton = expectedSkeleton := by decide

private theorem reach (O : Nat → Fail) (sched : List Nat) :
    GInv (facts12.cfg O) (run (facts12.cfg O) facts12.wsdlSkeleton init sched) := by
  rw [hsk]
  exact ginv_reachable (facts12.cfg O) (resets_ok O) sched

/-- for every schedule, any number of racing requesters and any build outcomes: at most one build
    ever succeeds; every requester that is answered is handed the complete sequential document or
    the 500 of the `except` clause (which nobody gets when no build fails: `wsdl_without_failures`);
    the cached and the published document are never anything but the complete one; a thread that
    has answered does not hold the lock -/
theorem wsdl_once_and_whole (O : Nat → Fail) (sched : List Nat) :
    let s := run (facts12.cfg O) facts12.wsdlSkeleton init sched
    s.succ ≤ 1 ∧ (∀ i a, s.responded i = some a → a = .doc (some .whole) ∨ a = .error) ∧
    (s.cache = none ∨ s.cache = some .whole) ∧ (s.pub = none ∨ s.pub = some .whole) ∧
    (∀ i, s.responded i ≠ none → s.lock ≠ some i) := by
  intro s
  have h : GInv (facts12.cfg O) s := reach O sched
  exact ⟨h.once, fun i a ha => (h.answer ha).imp_right And.left, h.cache_ok.imp_right And.left,
    h.pub_ok.imp_right And.left, fun i hi => h.finished_not_holding hi⟩

/-- when no build fails, nobody is answered 500 and the build runs at most once -/
theorem wsdl_without_failures (sched : List Nat) :
    let s := run (facts12.cfg allOk) facts12.wsdlSkeleton init sched
    s.builds ≤ 1 ∧ ∀ i a, s.responded i = some a → a = .doc (some .whole) := by
  intro s
  have h : GInv (facts12.cfg allOk) s := reach allOk sched
  exact ⟨h.builds_le_one (no_failure_allOk _), fun i a ha =>
    (h.answer ha).resolve_right fun hf => no_failure_allOk _ hf.2⟩

/-- after a failed build the next requester builds: whenever the lock is free, either no build has
    succeeded yet (and the cache is still empty) or the cache holds the document -/
theorem wsdl_failed_build_is_retried (O : Nat → Fail) (sched : List Nat) :
    let s := run (facts12.cfg O) facts12.wsdlSkeleton init sched
    s.lock = none → (s.succ = 0 ∧ s.cache = none) ∨ s.cache = some .whole := by
  intro s hl
  have h : GInv (facts12.cfg O) s := reach O sched
  rcases h.cache_ok with hn | ⟨hw, -⟩
  · exact Or.inl ⟨(h.free hl).1.resolve_right (by rw [hn]; nofun), hn⟩
  · exact Or.inr hw

/-- once `_wsdl` holds the document it holds it for good (it never goes back to `None`) -/
theorem wsdl_cache_never_reverts (O : Nat → Fail) (sched more : List Nat) (d : Doc)
    (h : (run (facts12.cfg O) facts12.wsdlSkeleton init sched).cache = some d) :
    (run (facts12.cfg O) facts12.wsdlSkeleton init (sched ++ more)).cache = some .whole ∧ d = .whole := by
  have hinv := reach O sched
  rw [hsk] at h hinv ⊢
  have hd : d = .whole := by
    rcases hinv.cache_ok with h0 | ⟨h0, -⟩
    · rw [h0] at h; cases h
    · rw [h0] at h; cases h; rfl
  subst hd
  rw [run_append]
  exact ⟨cache_stays_run _ (resets_ok O) more _ hinv h, rfl⟩

/-- the locked region (from `acquire` to the `release` of either exit) is entered by one thread at a time -/
theorem wsdl_mutual_exclusion (O : Nat → Fail) (sched : List Nat) (i j : Nat) :
    let s := run (facts12.cfg O) facts12.wsdlSkeleton init sched
    held (s.loc i).pc → held (s.loc j).pc → i = j := by
  intro s hi hj
  exact (reach O sched).mutex hi hj

/-- no deadlock, whatever fails: while some requester is unanswered, some thread can move -/
theorem wsdl_no_deadlock (O : Nat → Fail) (sched : List Nat) (i : Nat) :
    let s := run (facts12.cfg O) facts12.wsdlSkeleton init sched
    s.responded i = none → ∃ j, stuck facts12.wsdlSkeleton s j = false := by
  intro s hi
  have h : GInv (facts12.cfg O) s := reach O sched
  rw [hsk]
  apply h.not_all_stuck (i := i)
  have hl := (h.thr i).at_pc
  refine Nat.lt_of_le_of_ne hl.pc_le fun h23 => ?_
  unfold State.responded at hi
  rcases hl.answered h23 with h0 | ⟨h0, -⟩ <;> rw [hi] at h0 <;> cases h0

/-- every step that is not a skip moves its thread strictly forward and leaves the private state
    of every other thread alone: a requester is answered after at most 23 effective steps -/
theorem wsdl_progress (O : Nat → Fail) (sched : List Nat) (i j : Nat) :
    let s := run (facts12.cfg O) facts12.wsdlSkeleton init sched
    let s' := step (facts12.cfg O) facts12.wsdlSkeleton s i
    (stuck facts12.wsdlSkeleton s i = false → (s.loc i).pc < (s'.loc i).pc) ∧
    (j ≠ i → s'.loc j = s.loc j) ∧ (s'.loc i).pc ≤ 23 := by
  intro s s'
  have h : GInv (facts12.cfg O) s := reach O sched
  have hs' : s' = step (facts12.cfg O) expectedSkeleton s i := by
    show step _ facts12.wsdlSkeleton s i = _
    rw [hsk]
  refine ⟨fun hs => ?_, fun hj => step_other _ _ s i j hj, ?_⟩
  · rw [hsk] at hs
    rw [hs']
    exact h.progress hs
  · rw [hs']
    exact ((ginv_step _ (resets_ok O) s i h).thr i).at_pc.pc_le

/-- the real scheduler hands the baton over only at shared accesses (macro steps); every such run
    is a run of the fine-grained semantics, so the theorems above cover it -/
theorem wsdl_scheduler_runs_are_covered (O : Nat → Fail) (msched : List Nat) :
    let s := runMacro (facts12.cfg O) facts12.wsdlSkeleton init msched
    s.succ ≤ 1 ∧ ∀ i a, s.responded i = some a → a = .doc (some .whole) ∨ a = .error := by
  intro s
  obtain ⟨l, hl⟩ := runMacro_is_run (facts12.cfg O) facts12.wsdlSkeleton msched init
  have h := wsdl_once_and_whole O l
  have hs : s = run (facts12.cfg O) facts12.wsdlSkeleton init l := hl
  rw [hs]
  exact ⟨h.1, h.2.1⟩

-- non-vacuity: the first build raises late while the second requester waits; it then builds and is served
example : (runMacro (facts12.cfg (fun k => if k = 0 then .late else .ok)) facts12.wsdlSkeleton init
    ([0, 1, 1, 0, 1, 0, 0, 1] ++ List.replicate 9 0 ++ List.replicate 12 1)).responded 1 = some (.doc (some .whole)) := by
  decide +kernel
example : (runMacro (facts12.cfg (fun k => if k = 0 then .late else .ok)) facts12.wsdlSkeleton init
    ([0, 1, 1, 0, 1, 0, 0, 1] ++ List.replicate 9 0 ++ List.replicate 12 1)).responded 0 = some .error := by
  decide +kernel

/-- the handler as pinned (unguarded write-back of what `get_interface_document()` returned) is NOT
    safe: a 2-thread schedule with two builds after which the second requester is served, and
    everybody after it is served from the cache, a truncated document (D20) -/
theorem pinned_handler_loses_the_document :
    (run (noFail false) pinnedSkeleton init raceSchedule).builds = 2 ∧
    (run (noFail false) pinnedSkeleton init raceSchedule).responded 0 = some (.doc (some .whole)) ∧
    (run (noFail false) pinnedSkeleton init raceSchedule).responded 1 = some (.doc (some .truncated)) ∧
    (run (noFail false) pinnedSkeleton init raceSchedule).cache = some .truncated := by
  decide

/-- the lock released in an `else:` clause instead of `finally:`: the first build raises, its thread
    answers 500 and keeps the lock, the second requester is stuck forever -/
theorem lock_released_only_on_success_deadlocks :
    let s := run (firstFails .early true) elseReleaseSkeleton init (List.replicate 14 0 ++ List.replicate 30 1)
    s.responded 0 = some .error ∧ s.lock = some 0 ∧ s.responded 1 = none ∧
    stuck elseReleaseSkeleton s 1 = true ∧ stuck elseReleaseSkeleton s 0 = true := by
  decide +kernel

/-- a builder that keeps `port_type_dict` / `service_elt_dict` across builds: after a build that
    raised late, the retry serves and caches a truncated document — with the reset it is complete -/
theorem builder_must_reset_its_dicts :
    (let s := run (firstFails .late false) expectedSkeleton init (List.replicate 16 0 ++ List.replicate 22 1)
     s.responded 0 = some .error ∧ s.responded 1 = some (.doc (some .truncated)) ∧ s.cache = some .truncated) ∧
    (let s := run (firstFails .late true) expectedSkeleton init (List.replicate 16 0 ++ List.replicate 22 1)
     s.responded 0 = some .error ∧ s.responded 1 = some (.doc (some .whole)) ∧ s.cache = some .whole ∧
     s.lock = none ∧ s.builds = 2 ∧ s.succ = 1) := by
  decide +kernel

/-! ### shared caches and the shared validator -/

/-- for every schedule and any programs: a request thread that has finished observed exactly what
    it observes alone, provided each of its operations is `Safe` for the regenerated facts
    (with good facts: everything except parking request data on a shared object) -/
theorem requests_with_safe_operations_do_not_interfere (reqs : List RLocal)
    (h : ∀ l ∈ reqs, ∀ op ∈ l.todo, op.Safe facts12.rfacts) (sched : List Nat) (i : Nat)
    (hfin : ((rrun facts12.rfacts (rinit reqs) sched).loc i).finished = true) :
    ((rrun facts12.rfacts (rinit reqs) sched).loc i).obs = soloResponse ((rinit reqs).loc i) :=
  requests_alone facts12.rfacts reqs h sched i hfin

/-- with the regenerated facts every operation but park/unpark is safe -/
theorem every_modelled_operation_is_safe (op : ROp) (h : op.isPark = false) : op.Safe facts12.rfacts :=
  good_safe facts12 (by decide) op h

/-- the caches are transparent whatever else the requests do: a cell holds nothing or f(key), and
    every value a lookup ever returned is f(key) — `_attrcache`, `_sortcache`, `memoize`, `cdict` -/
theorem cache_transparent (reqs : List RLocal) (hobs : ∀ l ∈ reqs, l.obs = []) (sched : List Nat) :
    let s := rrun facts12.rfacts (rinit reqs) sched
    (∀ k v, s.table k = some v → v = .full) ∧ ∀ i k v, Obs.val k v ∈ (s.loc i).obs → v = .full := by
  intro s
  have hF : ∀ k, published facts12.rfacts k = .full := by intro k; unfold published; cases k.c <;> rfl
  refine rrun_inv (P := CacheFull) (cachefull_step _ hF) sched _ ⟨fun k v hv => (nomatch hv), fun i k v hm => ?_⟩
  rcases rinit_loc reqs i with hi | hi
  · rw [hobs _ hi] at hm; cases hm
  · rw [hi] at hm; cases hm

/-! ### per-request state -/

/-- every operation of the request touches only its own context and the caches (nothing is parked on a shared object) -/
def OwnContextOnly (l : RLocal) : Prop := ∀ op ∈ l.todo, op.isPark = false

/-- NO CROSS TALK.  If handlers write only their own context (cells `setCtx`/`getCtx`, which the measured
    fact `sharedContextCells = []` makes private) and fill caches, then for every interleaving every
    finished request observed — response headers, status, body — exactly what it observes alone. -/
theorem no_cross_talk (reqs : List RLocal) (h : ∀ l ∈ reqs, OwnContextOnly l) (sched : List Nat) (i : Nat)
    (hfin : ((rrun facts12.rfacts (rinit reqs) sched).loc i).finished = true) :
    ((rrun facts12.rfacts (rinit reqs) sched).loc i).obs = soloResponse ((rinit reqs).loc i) :=
  requests_alone facts12.rfacts reqs
    (fun l hl op hop => good_safe facts12 (by decide) op (h l hl op hop)) sched i hfin

-- non-vacuity: two requests set and read back the same context cell, interleaved
example :
    let reqs := [mkReq 5 false [.setCtx 0, .getCtx 0], mkReq 6 false [.setCtx 0, .getCtx 0], mkReq 7 false [.getCtx 0]]
    ((rrun facts12.rfacts (rinit reqs) [0, 1, 2, 0, 1]).loc 0).obs = [.scr (some 5)] ∧
    ((rrun facts12.rfacts (rinit reqs) [0, 1, 2, 0, 1]).loc 2).obs = [.scr none] := by
  decide +kernel

/-! ### each side condition is needed (and each witness is what the harness replays on real threads) -/

private def kPa : Key := ⟨.attr, 0, true⟩

/-- `get_cls_attrs` storing the entry before `attr.update(prot_attrs)`: a second thread reads the
    half-initialised entry -/
theorem attr_publication_order_matters :
    let F : RFacts := { order := fun _ => .beforeInit, errRead := .underLock }
    let reqs := [mkReq 0 false [.probe kPa, .publish kPa, .complete kPa], mkReq 1 false [.probe kPa]]
    ((rrun F (rinit reqs) [0, 0, 1]).loc 1).obs = [.val kPa .half] ∧
    soloResponse ((rinit reqs).loc 1) = [.val kPa .full] := by
  decide

/-- reading `error_log.last_error` in a separate step: a validation by another thread in between
    replaces the error text (here: by "None") -/
theorem error_log_read_must_be_atomic :
    let F : RFacts := { order := fun _ => .afterInit, errRead := .racy }
    let reqs := [mkReq 5 true [.validate, .readErr], mkReq 6 false [.validate]]
    ((rrun F (rinit reqs) [0, 1, 0]).loc 0).obs = [.err none] ∧
    soloResponse ((rinit reqs).loc 0) = [.err (some 5)] := by
  decide

/-- per-request data parked on a shared object reaches the wrong caller -/
theorem parked_request_data_crosses_threads :
    let F : RFacts := { order := fun _ => .afterInit, errRead := .underLock }
    let reqs := [mkReq 5 false [.park 0, .unpark 0], mkReq 6 false [.park 0, .unpark 0]]
    ((rrun F (rinit reqs) [0, 1, 0, 1]).loc 0).obs = [.scr (some 6)] ∧
    soloResponse ((rinit reqs).loc 0) = [.scr (some 5)] := by
  decide

/-- a protocol instance shared by the requests that switch to it and bound by its first user: when
    binding an already bound instance raises, the loser of the test-then-bind race fails -/
theorem rebinding_a_shared_protocol_fails_the_loser :
    let F : RFacts := { order := fun _ => .afterInit, errRead := .underLock, rebindRaises := true }
    let k : Key := ⟨.bind, 0, false⟩
    let reqs := [mkReq 1 false [.probe k, .publish k, .probe k], mkReq 2 false [.probe k, .publish k, .probe k]]
    ((rrun F (rinit reqs) [0, 1, 1, 0, 0, 1]).loc 0).obs = [.val k .full, .exc, .val k .full] ∧
    soloResponse ((rinit reqs).loc 0) = [.val k .full, .val k .full] ∧
    -- … and without the exception both are served as if alone
    ((rrun { F with rebindRaises := false } (rinit reqs) [0, 1, 1, 0, 0, 1]).loc 0).obs = [.val k .full, .val k .full] := by
  decide

/-- a context cell that lives on a class (e.g. `resp_headers` as a class-level dict) is one object for
    all requests: a request that never set the cell reads another request's value -/
theorem shared_context_cell_crosses_threads :
    let F : RFacts := { order := fun _ => .afterInit, errRead := .underLock, ctxShared := fun _ => true }
    let reqs := [mkReq 5 false [.getCtx 0], mkReq 6 false [.setCtx 0, .getCtx 0]]
    ((rrun F (rinit reqs) [1, 0, 1]).loc 0).obs = [.scr (some 6)] ∧
    soloResponse ((rinit reqs).loc 0) = [.scr none] := by
  decide

end SpyneModel.Props.C12
