/-
  C01, continued — XML attributes and XmlData (the quantifier "XML attributes/XmlData" of the property).

  The universe of Props/C01.lean has element members only. `TyA` (SpyneModel/XmlAttr.lean) is that universe
  with a kind on every member of a class: `element`, `attribute` (`XmlAttribute(T)`: written by
  xmlattribute_to_parent as an attribute of the element, read by the loop over the element's own attributes)
  or `data` (`XmlData(T)`: written by XmlData.marshall as the text of the element, read by `_xml_tag_body_as`).
  `encodeA` / `decodeA` are `to_parent` / `from_element` for these classes; on the element-only universe they
  ARE `encode` / `decode` (`attrs_decode_is_decode`, `attrs_encode_is_encode`), so the statements of
  Props/C01.lean are statements about this model too.

  `tyWfA t`: member names are distinct Python identifiers, attribute and data members wrap primitives that
  occur at most once, a class with an XmlData member is simple content (no element members, one data member,
  optional) — what XSD lets a schema say. `okOneA strict t v`: every declared constraint holds, an attribute
  / data member holds None (only if not required) or a value within the facets of its type.
  `normOneA` = the identifications of the statement (`normOneX`), plus: the text of an element cannot tell
  the empty string / byte string of an XmlData member from None (`dataNorm`). Attribute values are NOT
  normalised: `a=""` is the empty string.
  Switches (measured on /repo, `factsAttr`): `childAttrsIgnored`, `attrSoftChecked`.
-/
import Proofs.XmlAttrRoundtrip
import Proofs.XmlAttrBridge
import Proofs.XmlAttrKinds
import Props.Facts08Good
import SpyneModel.Generated.Facts01
namespace SpyneModel.Props.C01attrs
open SpyneModel SpyneModel.Xml SpyneModel.Generated

/-- the environment of the round-trip lemmas for the facts measured on /repo, every validator -/
theorem rtCtxA (cfg : Cfg) : RtCtxA facts08 factsXml factsAttr cfg :=
  { L := leafLaws08, hE := fun _ => by decide, hN := isNil_true (by decide), hLeak := by decide, hSoft := fun _ => by decide }

/-- C01 for classes with attribute and data members: for every well-formed type, every conformant value and
    every validator setting (None, soft; xsi:type parsing on or off, any registry), what `to_parent` writes is
    ONE element and `from_element` reads the value back from it — attribute members from its attributes, the
    data member from its text, element members from its children, at every nesting depth -/
theorem xml_roundtrip_attrs (cfg : Cfg) (I : IfaceA) (tns ns name : Text) (t : TyA) (ht : tyWfA t = true) (v : Val)
    (hok : okOneA cfg.soft t v = true) (hfit : fitsV facts08 v = true) :
    ∃ e, encodeA facts08 tns ns name t v = [e] ∧ decodeA facts08 factsXml factsAttr cfg I t e = .ok (normOneA t v) :=
  Xml.xml_roundtrip_attrs (rtCtxA cfg) I tns ns name t ht v hok hfit

/-- reading the child elements leaves attribute and data members alone (the removed child-attribute loop
    assigned a child's attributes to the parent's members) -/
theorem children_never_set_modifier_members (cfg : Cfg) (I : IfaceA) (fields : List (Text × MKind × TyA)) (k : Text)
    (kind : MKind) (t : TyA) (hk : lookupA fields k = some (kind, t)) (hne : kind ≠ .element)
    (cs : List Node) (st st' : List (Text × Val))
    (h : childLoopA facts08 factsXml factsAttr cfg I fields cs st = .ok st') : stGet st' k = stGet st k :=
  childLoopA_keeps facts08 factsXml factsAttr (by decide) cfg I fields k kind t hk hne cs st st' h

/-- the element's attributes never set an element or data member -/
theorem attributes_never_set_other_members (cfg : Cfg) (fields : List (Text × MKind × TyA)) (k : Text)
    (kind : MKind) (t : TyA) (hk : lookupA fields k = some (kind, t)) (hne : kind ≠ .attribute)
    (as : List (Text × Text)) (st st' : List (Text × Val))
    (h : attrPass facts08 factsAttr cfg fields as st = .ok st') : stGet st' k = stGet st k :=
  attrPass_keeps facts08 factsAttr cfg fields k kind t hk hne as st st' h

/-- schema-independent, writing: whatever the values, the element written for an object has child elements
    named after element members only — never after an attribute or data member — and attributes named after
    attribute members only (or the `xsi:nil` marker) -/
theorem attribute_member_never_child_element (tns ns name cname cns : Text) (cb : Option Text)
    (fields : List (Text × MKind × TyA)) (o : Occ) (hnd : namesNodupA fields = true) (cls : Text) (vs : List (Text × Val)) :
    ∃ attrs text children,
      encodeA facts08 tns ns name (.obj cname cns cb fields o) (.obj cls vs) = [.elem ns name attrs text children] ∧
      (∀ c ∈ children, c.name ∈ namesOfKind .element fields ∧ c.name ∉ namesOfKind .attribute fields ∧
        c.name ∉ namesOfKind .data fields) ∧
      (∀ a ∈ attrs, a.1 = xsiNilKey ∨ (a.1 ∈ namesOfKind .attribute fields ∧ a.1 ∉ namesOfKind .element fields ∧
        a.1 ∉ namesOfKind .data fields)) :=
  toParentA_kinds facts08 tns ns name cname cns cb fields o hnd cls vs

/-- `xsi:nil` and attributes: a nil element is None whatever attributes, text and children it carries -/
theorem nil_element_with_attributes (cfg : Cfg) (I : IfaceA) (t : TyA) (ns name : Text) (attrs : List (Text × Text))
    (text : Option Text) (children : List Node) (hnil : isNil factsXml attrs = true) :
    decodeA facts08 factsXml factsAttr cfg I t (.elem ns name attrs text children) =
      (if cfg.soft && !t.occ.nillable then .fault else .ok .none) :=
  nil_with_attributes facts08 factsXml factsAttr cfg I t ns name attrs text children hnil

/-- on the element-only universe the decoder with member kinds is the decoder of Props/C01.lean … -/
theorem attrs_decode_is_decode (cfg : Cfg) (I : Iface) (t : Ty) (x : Node) :
    decodeA facts08 factsXml factsAttr cfg (IfaceA.ofIface I) (TyA.ofTy t) x = decode facts08 factsXml cfg I t x :=
  decodeA_ofTy facts08 factsXml factsAttr (by decide) cfg I t x

/-- … and the encoder the (non-polymorphic) encoder -/
theorem attrs_encode_is_encode (cfg : Cfg) (hp : cfg.polymorphic = false) (I : Iface) (ns name : Text) (t : Ty) (v : Val) :
    encodeA facts08 I.tns ns name (TyA.ofTy t) v = encode facts08 cfg I ns name t v :=
  encodeA_ofTy facts08 cfg hp I ns name t v

/-! ### non-vacuity: a class with two attributes (one required) and a nested object of the same class; a
    simple-content class -/

def exB : TyA := .obj "B".toList "urn:x".toList none
  [("id".toList, .attribute, .prim (.integer .i32 {}) { minOccurs := 1 }),
   ("lang".toList, .attribute, .prim (.unicode 0 none none []) {}),
   ("kid".toList, .element, .obj "K".toList "urn:x".toList none
      [("id".toList, .attribute, .prim (.integer .i32 {}) {})] {})] {}
def exV : Val := .obj "B".toList [("id".toList, .int 7), ("lang".toList, .none),
  ("kid".toList, .obj "K".toList [("id".toList, .int 9)])]
def exS : TyA := .obj "S".toList "urn:x".toList none
  [("unit".toList, .attribute, .prim (.unicode 0 none none []) {}),
   ("value".toList, .data, .prim (.integer .i32 {}) {})] {}

example : tyWfA exB = true := by decide +kernel
example : tyWfA exS = true := by decide +kernel
example : okOneA true exB exV = true := by decide +kernel
example : okOneA true exS (.obj "S".toList [("unit".toList, .str "kg".toList), ("value".toList, .int 5)]) = true := by decide +kernel

/-- string-typed variant (integer literals do not reduce by `rfl`) -/
def exB2 : TyA := .obj "B".toList "urn:x".toList none
  [("id".toList, .attribute, .prim (.unicode 0 none none []) { minOccurs := 1 }),
   ("lang".toList, .attribute, .prim (.unicode 0 none none []) {}),
   ("kid".toList, .element, .obj "K".toList "urn:x".toList none
      [("id".toList, .attribute, .prim (.unicode 0 none none []) {})] {})] {}
def exV2 : Val := .obj "B".toList [("id".toList, .str "7".toList), ("lang".toList, .none),
  ("kid".toList, .obj "K".toList [("id".toList, .str "9".toList)])]
def exDoc : Node := .elem "urn:x".toList "b".toList [("id".toList, "7".toList)] none
  [.elem "urn:x".toList "kid".toList [("id".toList, "9".toList)] none []]
/-- only the nested element carries `id` -/
def exDocNested : Node := .elem "urn:x".toList "b".toList [] none
  [.elem "urn:x".toList "kid".toList [("id".toList, "9".toList)] none []]

example : tyWfA exB2 = true := by decide +kernel
example : okOneA true exB2 exV2 = true := by decide +kernel
example : encodeA facts08 "urn:x".toList "urn:x".toList "b".toList exB2 exV2 = [exDoc] := by
  simp [encodeA, toParentA, membersA, exB2, exV2, exDoc, attrOne, leafToText, TyA.occ, Occ.repeated]
example : decodeA facts08 factsXml factsAttr {} ⟨[], [], []⟩ exB2 exDoc = .ok exV2 := by rfl
/-- the child-attribute defect (switch `childAttrsIgnored`) on the repaired code: the outer object's `id` stays None -/
example : decodeA facts08 factsXml factsAttr {} ⟨[], [], []⟩ exB2 exDocNested =
    .ok (.obj "B".toList [("id".toList, .none), ("lang".toList, .none),
      ("kid".toList, .obj "K".toList [("id".toList, .str "9".toList)])]) := by rfl
/-- and under soft validation the document is refused: the required attribute is missing -/
example : decodeA facts08 factsXml factsAttr { validator := .soft } ⟨[], [], []⟩ exB2 exDocNested = .fault := by rfl
example : decodeA facts08 factsXml factsAttr { validator := .soft } ⟨[], [], []⟩ exB2 exDoc = .ok exV2 := by rfl

end SpyneModel.Props.C01attrs
