/-
  C16 (dict-document part) — inheritance and polymorphism preserve the runtime class (JSON / YAML / MessagePack
  with ignore_wrappers=False). Property theorems only, for the facts regenerated from /repo.

  Object types carry their *flattened* member list, ancestors first (`get_flat_type_info`); a registry `R` holds the
  classes known to the interface with their declared parents. The polymorphic theorems cover one polymorphic level
  per object (the instance's own members hold instances of exactly their declared classes; arrays may mix base and
  subclass instances freely): the general nesting needs an induction over the value instead of the type and is
  covered by T2/T3 only.
-/
import Proofs.HierC02
import Proofs.HierC16
import Props.Facts08Good
import SpyneModel.Generated.Facts02
namespace SpyneModel.Props.C16hier
open SpyneModel SpyneModel.Hier SpyneModel.Generated SpyneModel.Props

theorem facts02_rt : facts02.GoodRT := ⟨by decide, by decide, by decide, by decide⟩

/-- a configuration with wrapper keys and polymorphism switched on -/
def polyCfg (cfg : Cfg) : Prop :=
  cfg.ignoreWrappers = false ∧ cfg.complexAs = .dict ∧ cfg.polymorphic = true ∧ cfg.notWrapped = []

theorem ctx (cfg : Cfg) (h : polyCfg cfg) : RtCtx facts08 facts02 cfg (ownSpell facts08 cfg) true :=
  ownCtx leafLaws08 facts02_rt (by simp [Cfg.selfConsistent, h.2.1])

/-- With polymorphism enabled, an instance of a registered subclass `cd` sent or returned where the base class `name`
    is declared is written under the subclass's name with all of the subclass's members (ancestors first), and the
    reader reconstructs an instance of that same subclass with equal member values. -/
theorem poly_roundtrip_keeps_class (cfg : Cfg) (h : polyCfg cfg) (R : Registry)
    (name ns : Text) (base : Option Text) (fields : Fields) (o : Occ) (cd : ClassDef)
    (hfind : R.find? cd.name = some cd) (hne : cd.name ≠ name) (hsub : R.hier.isSub R.length cd.name name = true)
    (hnd : namesDistinct (cd.fields.map (·.1)) = true) (hwf : wfFields cd.fields = true)
    (fvs : List (Text × Val)) (hc : conformsFields cd.fields fvs = true)
    (hmp : cfg.proto.isMsgpack = true → fitsFields facts08 fvs = true ∧ mpReadableFields cd.fields = true)
    (hpl : plainFields .dict cd.fields fvs = true) :
    decode facts08 facts02 cfg R (.obj name ns base fields o)
      (encOne R (ownSpell facts08 cfg) (.obj name ns base fields o) (.obj cd.name fvs)) = .good (.obj cd.name fvs) :=
  poly_roundtrip R (ctx cfg h) (by simp [ownSpell, h.2.2.1]) (by simp [ownSpell, h.1]) name ns base fields o cd hfind hne hsub
    (by simp [h.2.2.2]) (by simp [h.2.2.2]) hnd hwf fvs hc (fun hm => ⟨(hmp hm).1, fun _ => (hmp hm).2⟩) (by simpa [ownSpell, h.2.1] using hpl)

/-- The transmitted document names the subclass: the type marker is the single wrapper key, spelled the way member
    keys are, and it resolves — in the registry the reader uses — to that subclass. -/
theorem poly_marker_resolves (cfg : Cfg) (h : polyCfg cfg) (R : Registry)
    (name ns : Text) (base : Option Text) (fields : Fields) (o : Occ) (cd : ClassDef)
    (hfind : R.find? cd.name = some cd) (hne : cd.name ≠ name) (hsub : R.hier.isSub R.length cd.name name = true)
    (fvs : List (Text × Val)) :
    ∃ body, encOne R (ownSpell facts08 cfg) (.obj name ns base fields o) (.obj cd.name fvs)
        = .map [(keyOut cfg cd.name, body)] ∧
      resolveClass R name fields (some cd.name) = .good (cd.name, cd.fields) := by
  refine ⟨Doc.map ((encodeFields (ownSpell facts08 cfg) R cd.fields fvs).map (fun p => (keyOut cfg p.1, p.2))), ?_,
    resolveClass_sub R name fields cd hfind hne hsub⟩
  have hpt := polyTarget_sub R (S := ownSpell facts08 cfg) (by simp [ownSpell, h.2.2.1]) name fields cd hfind hne hsub
  simp only [encOne, hpt, wrapPairs]
  simp [ownSpell, h.1, h.2.1, h.2.2.2]

/-- Arrays of the base type holding any mix of base and subclass instances survive as a whole, item by item. -/
theorem poly_array_roundtrip (cfg : Cfg) (R : Registry) (t : Ty) (vs : List Val)
    (hitems : ∀ v ∈ vs, decode facts08 facts02 cfg R t (encOne R (ownSpell facts08 cfg) t v) = .good v) :
    decodeItems facts08 facts02 cfg R t (encodeItems (ownSpell facts08 cfg) R t vs) = .good vs :=
  items_roundtrip_of_each R t vs hitems

/-- With polymorphism disabled exactly the declared class's members are transmitted, whatever the runtime class of the
    instance: the member names written are a sub-sequence of the declared (flattened) member names, under the
    declared class's wrapper key. -/
theorem nonpoly_declared_fields_only (cfg : Cfg) (hp : cfg.polymorphic = false) (R : Registry)
    (name ns : Text) (base : Option Text) (fields : Fields) (o : Occ) (c : Text) (fvs : List (Text × Val)) :
    encOne R (ownSpell facts08 cfg) (.obj name ns base fields o) (.obj c fvs)
      = wrapPairs (ownSpell facts08 cfg) name (encodeFields (ownSpell facts08 cfg) R fields fvs) ∧
    ((encodeFields (ownSpell facts08 cfg) R fields fvs).map (·.1)).Sublist (fields.map (·.1)) := by
  refine ⟨?_, encodeFields_names R fields fvs⟩
  simp [encOne, polyTarget_off R (S := ownSpell facts08 cfg) (by simp [ownSpell, hp])]

/-- The members of an instance written as class `cd` appear in the order of `cd.fields`, the flattened list with the
    ancestors' members first. That the list of a registered subclass extends the one of its base is checked for the
    generated universes on every run (T1/T2); it is no part of this statement. -/
theorem subclass_members_written_in_order (cfg : Cfg) (R : Registry) (cd : ClassDef) (fvs : List (Text × Val)) :
    ((encodeFields (ownSpell facts08 cfg) R cd.fields fvs).map (·.1)).Sublist (cd.fields.map (·.1)) :=
  encodeFields_names R cd.fields fvs

/-! ### non-vacuity -/

def exBase : ClassDef := ⟨"Base".toList, "tns".toList, none, [("a".toList, .prim (.integer .i8 {}) {})]⟩
def exSub : ClassDef := ⟨"Sub".toList, "tns".toList, some "Base".toList,
  [("a".toList, .prim (.integer .i8 {}) {}), ("b".toList, .prim .boolean {})]⟩
def exReg : Registry := [exBase, exSub]
def exCfg : Cfg := ⟨.json, .soft, false, .dict, true, false, true, [], []⟩

example : polyCfg exCfg := ⟨rfl, rfl, rfl, rfl⟩
example : exReg.find? exSub.name = some exSub := by simp [exReg, exSub, exBase, Registry.find?]
example : exReg.hier.isSub exReg.length exSub.name "Base".toList = true := by decide +kernel
example : namesDistinct (exSub.fields.map (·.1)) = true ∧ wfFields exSub.fields = true := by decide
example : conformsFields exSub.fields [("a".toList, .int 5), ("b".toList, .bool true)] = true := by
  simp [exSub, conformsFields, conforms, conformsOne, Ty.occ, Occ.repeated, PrimTy.valueOk, IntKind.lo, IntKind.hi, Range.holds]

end SpyneModel.Props.C16hier
