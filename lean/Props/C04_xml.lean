/-
  C04 (XML / SOAP part) — user code only ever receives values of the declared types.
  `hasTyOne I t v`: `v` is None, a native value of the declared primitive kind, an instance of the
  declared class (with the declared members) or of a registered class that descends from it (with
  that class's members), or a list of such — recursively (SpyneModel/XmlSpec.lean).
  The theorems hold for EVERY document tree and every validator setting (None included: the
  xsi:type clause of the property), given the repaired xsi:type check (switch `xsiTypeCheck`).
-/
import Proofs.XmlServer
import Proofs.XmlSound
import Props.Facts08Good
import SpyneModel.Generated.Facts01
namespace SpyneModel.Props.C04xml
open SpyneModel SpyneModel.Xml SpyneModel.Generated

/-- whatever `from_element` returns has the declared type -/
theorem xml_decode_sound (cfg : Cfg) (I : Iface) (hI : ifaceWf I = true) (t : Ty) (x : Node) (v : Val)
    (h : decode facts08 factsXml cfg I t x = .ok v) : hasTyOne I t v = true :=
  fromElement_sound leafLaws08 (by decide) cfg hI t x v h

/-- XmlDocument server: the in-object handed to the user function has the in-message type of the
    method it is dispatched to -/
theorem xml_server_decode_sound (cfg : Cfg) (I : Iface) (hI : ifaceWf I = true) (ms : Soap.Methods) (doc : Node)
    (k : Text) (v : Val) (h : Soap.xmlServerDecode facts08 factsXml cfg I ms doc = .ok (k, v)) :
    ∃ t, ms.lookup k = some t ∧ hasTyOne I t v = true :=
  let ⟨t, hm, hd⟩ := xmlServerDecode_ok facts08 factsXml cfg I ms h
  ⟨t, hm, xml_decode_sound cfg I hI t doc v hd⟩

/-- Soap11 / Soap12 server -/
theorem soap_server_decode_sound (cfg : Cfg) (I : Iface) (hI : ifaceWf I = true) (ver : Soap.Version)
    (ms : Soap.Methods) (doc : Node) (k : Text) (v : Val)
    (h : Soap.soapServerDecode facts08 factsXml factsSoap cfg I ver ms doc = .ok (k, v)) :
    ∃ t, ms.lookup k = some t ∧ hasTyOne I t v = true :=
  let ⟨t, body, hm, hd⟩ := soapServerDecode_ok facts08 factsXml factsSoap cfg I ver ms h
  ⟨t, hm, xml_decode_sound cfg I hI t body v hd⟩

/-- a request that would need a substitution is answered with a validation fault: an `xsi:type` that
    resolves to a registered type which is not the declared one or derived from it is rejected -/
theorem retag_rejected (I : Iface) (t nt : Ty) (key : Text) (hl : I.lookup key = some nt)
    (hbad : (match t, nt with
             | .obj dn _ _ _ _, .obj nn _ _ _ _ => I.isSub nn dn
             | .prim p _, .prim p' _ => primSubClass p' p
             | .arr _ _ _, .arr _ _ _ => true
             | _, _ => false) = false) :
    resolveXsi factsXml I t key = none := by
  have hX : factsXml.xsiTypeCheck = true := by decide
  unfold resolveXsi
  rw [hl]
  simp only [hX, if_true]
  cases t <;> cases nt <;> simp_all

/-- … and `from_element` turns that into a Client.ValidationError fault (any validator) -/
theorem retag_fault (cfg : Cfg) (hP : cfg.parseXsiType = true) (I : Iface) (t : Ty) (ns name : Text)
    (attrs : List (Text × Text)) (text : Option Text) (children : List Node) (key : Text)
    (hnil : isNil factsXml attrs = false) (hk : attrs.lookup xsiTypeKey = some key)
    (hr : resolveXsi factsXml I t key = none) :
    decode facts08 factsXml cfg I t (.elem ns name attrs text children) = .fault := by
  simp [decode, fromElement, hnil, hP, hk, hr]

/-- an unknown class key is rejected as well -/
theorem unknown_xsi_type_fault (I : Iface) (t : Ty) (key : Text) (hl : I.lookup key = none) :
    resolveXsi factsXml I t key = none := by
  simp [resolveXsi, hl]

/-! ### non-vacuity: a legitimate subclass retag is accepted and yields the subclass -/

def exBase : ClassDef := ⟨"B".toList, "urn:x".toList, none, [("x".toList, .prim .boolean {})]⟩
def exSub : ClassDef := ⟨"S".toList, "urn:x".toList, some "B".toList, [("x".toList, .prim .boolean {}), ("y".toList, .prim .boolean {})]⟩
def exOther : ClassDef := ⟨"O".toList, "urn:x".toList, none, [("z".toList, .prim .boolean {})]⟩
def exI : Iface := ⟨[exBase, exSub, exOther],
  [(clark "http://www.w3.org/2001/XMLSchema".toList "string".toList, .prim (.unicode 0 none none []) {})], "urn:x".toList⟩

example : ifaceWf exI = true := by decide +kernel
example : resolveXsi factsXml exI (ClassDef.toTy exBase) (clark exSub.ns exSub.name) = some (ClassDef.toTy exSub) := by
  rfl
example : resolveXsi factsXml exI (ClassDef.toTy exBase) (clark exOther.ns exOther.name) = none := by
  decide +kernel
example : resolveXsi factsXml exI (.prim .date {})
    (clark "http://www.w3.org/2001/XMLSchema".toList "string".toList) = none := by decide +kernel
example : hasTyOne exI (ClassDef.toTy exBase) (.obj "S".toList [("x".toList, .bool true), ("y".toList, .none)]) = true := by
  decide +kernel

end SpyneModel.Props.C04xml
