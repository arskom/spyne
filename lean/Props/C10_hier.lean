/-
  C10 (dict-document part) — hostile or malformed requests end in a client fault, never a crash.
  Property theorems only, for the facts regenerated from /repo.
-/
import Proofs.HierSafe
import Props.Facts08Good
import SpyneModel.Generated.Facts02
namespace SpyneModel.Props.C10hier
open SpyneModel SpyneModel.Hier SpyneModel.Generated SpyneModel.Props

/-- a request without a body is a client fault -/
theorem facts02_body : facts02.missingBodyFault = true := by decide

theorem facts02_good : facts02.Good :=
  ⟨by decide, by decide, by decide, by decide, by decide, by decide, by decide, by decide, by decide, by decide,
   by decide, by decide, by decide, by decide, by decide⟩

/-- D17 and friends: bytes the parser cannot decode and MessagePack-RPC envelopes the server cannot serve are client faults -/
theorem facts02_parse : facts02.parseErrorsFault = true := by decide

/-- For EVERY document `d` — whatever kinds of nodes stand where the declared type expects others — decoding ends in
    a value or a Client.ValidationError; no other exception escapes. Every protocol of the family, validator None
    and soft, both wrapper modes. -/
theorem hier_decode_no_crash (cfg : Cfg) (R : Registry) (hR : regWf R) (t : Ty) (hwf : wfTy t = true) (d : Doc)
    (e : String) : decode facts08 facts02 cfg R t d ≠ .crash e :=
  (decode_safe R leafLaws08 facts02_good hR d t hwf).ne_crash e

/-- The same for a whole request document (method-name envelope, body lookup, the call): never a crash, never the
    Server fault of a function called without its arguments. -/
theorem hier_request_no_crash (cfg : Cfg) (R : Registry) (hR : regWf R)
    (name ns : Text) (base : Option Text) (fields : Fields) (o : Occ)
    (hwf : wfTy (.obj name ns base fields o) = true) (d : Doc) (e : String) :
    decodeRequest facts08 facts02 cfg R (.obj name ns base fields o) d ≠ .crash e :=
  (decodeRequest_safe R leafLaws08 facts02_good facts02_body hR name ns base fields o hwf d).ne_crash e

/-- A request that is answered with a fault has not run the user function; one that ran it was decoded completely:
    the outcome of a request is exactly one of "called with arguments" or "client fault". -/
theorem hier_request_called_or_client_fault (cfg : Cfg) (R : Registry) (hR : regWf R)
    (name ns : Text) (base : Option Text) (fields : Fields) (o : Occ)
    (hwf : wfTy (.obj name ns base fields o) = true) (d : Doc) :
    (∃ v l, decodeRequest facts08 facts02 cfg R (.obj name ns base fields o) d = .ok v l) ∨
    decodeRequest facts08 facts02 cfg R (.obj name ns base fields o) d = .fault := by
  cases h : decodeRequest facts08 facts02 cfg R (.obj name ns base fields o) d with
  | ok v l => exact Or.inl ⟨v, l, rfl⟩
  | fault => exact Or.inr rfl
  | crash e => exact absurd h (hier_request_no_crash cfg R hR name ns base fields o hwf d e)

/-- The whole input side, with the third-party parser as an oracle: for any request bytes — whatever the parser returns
    for them: a document of any shape, its documented syntax error or ANY other exception class — processing ends in a
    call of the user function or in a client fault; for MessagePack-RPC including the envelope (notifications,
    responses, undecodable method names). -/
theorem hier_server_no_crash (cfg : Cfg) (R : Registry) (hR : regWf R)
    (name ns : Text) (base : Option Text) (fields : Fields) (o : Occ)
    (hwf : wfTy (.obj name ns base fields o) = true) (p : Parsed) (e : String) :
    serverRun facts08 facts02 cfg R (.obj name ns base fields o) p ≠ .crash e :=
  (serverRun_safe R leafLaws08 facts02_good facts02_body facts02_parse hR name ns base fields o hwf p).ne_crash e

/-! ### non-vacuity: documents of the wrong kinds are faults, not crashes -/

def exTy : Ty := .obj "f".toList "tns".toList none
  [("d".toList, .prim .date {}), ("m".toList, .prim (.integer .i8 {}) { maxOccurs := some 3 })] {}
def exCfg : Cfg := ⟨.yaml, .none, true, .dict, false, false, true, [], []⟩

example : (decode facts08 facts02 exCfg [] exTy (.map [(.str "d".toList, .int 5)])).isFault = true := by decide +kernel
example : (decode facts08 facts02 exCfg [] exTy (.map [(.str "m".toList, .int 5)])).isFault = true := by decide +kernel
example : regWf [] := by intro cd h; cases h

end SpyneModel.Props.C10hier
