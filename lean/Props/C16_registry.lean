/-
  C16, continued — the registry the polymorphic round trip (Props/C16_xml.lean: `okOneX` asks for
  `I.classes.find? cls`) relies on is itself built by the application. Measured: `subclassInBaseNs`
  (T1 witness: Shape <- Circle <- Ring declared in urn:shapes, application tns urn:app, only Shape named in a
  signature: `{urn:shapes}Circle` and `{urn:shapes}Ring` are in `interface.classes`).
-/
import SpyneModel.XmlRegistry
import SpyneModel.Generated.Facts01
namespace SpyneModel.Props.C16registry
open SpyneModel SpyneModel.Xml SpyneModel.Generated

/-- a subclass declared in the namespace of its registered base is registered in the next round — whatever
    the target namespace of the application is, whether or not any signature names it -/
theorem subclass_in_base_namespace_is_registered (tns : Text) (all reg : List ClassDef) (p c : ClassDef)
    (hp : p ∈ reg) (hc : c ∈ all) (hb : c.base = some p.name) (hns : c.ns = p.ns) :
    hasName (regStep factsReg tns all reg) c.name = true := by
  have hR : factsReg.subclassInBaseNs = true := by decide
  unfold regStep hasName
  rw [List.any_append]
  by_cases h : reg.any (fun d => d.name = c.name) = true
  · simp [h]
  · have h' : reg.any (fun d => d.name = c.name) = false := by simpa using h
    simp only [h', Bool.false_or, List.any_eq_true, decide_eq_true_eq]
    refine ⟨c, ?_, rfl⟩
    simp only [pulledIn, List.mem_filter, hasName, h', Bool.not_false, Bool.true_and, List.any_eq_true, Bool.and_eq_true,
      decide_eq_true_eq, hR, if_true]
    exact ⟨hc, p, hp, hb, hns⟩

/-- registration only ever adds classes -/
theorem regStep_keeps (R : FactsReg) (tns : Text) (all reg : List ClassDef) (c : ClassDef) (h : c ∈ reg) :
    c ∈ regStep R tns all reg := by
  unfold regStep; exact List.mem_append_left _ h

/-! ### non-vacuity: the witness -/
def shape : ClassDef := ⟨"Shape".toList, "urn:shapes".toList, none, [("a".toList, .prim .boolean {})]⟩
def circle : ClassDef := ⟨"Circle".toList, "urn:shapes".toList, some "Shape".toList, [("a".toList, .prim .boolean {}), ("r".toList, .prim .boolean {})]⟩
def ring : ClassDef := ⟨"Ring".toList, "urn:shapes".toList, some "Circle".toList,
  [("a".toList, .prim .boolean {}), ("r".toList, .prim .boolean {}), ("w".toList, .prim .boolean {})]⟩
def far : ClassDef := ⟨"Far".toList, "urn:other".toList, some "Shape".toList, [("a".toList, .prim .boolean {})]⟩
example : (registry factsReg "urn:app".toList [shape, circle, ring, far] [shape]).map (·.name) =
    ["Shape".toList, "Circle".toList, "Ring".toList] := by decide +kernel
/-- with the namespace of the application instead of the namespace of the base, the tree is cut off -/
example : (registry ⟨false⟩ "urn:app".toList [shape, circle, ring, far] [shape]).map (·.name) = ["Shape".toList] := by decide +kernel

end SpyneModel.Props.C16registry
