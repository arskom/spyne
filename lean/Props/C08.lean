/-
  C08 — primitive text forms are lossless and lie in the XSD lexical space.
  Property theorems only; every theorem is about the model instantiated with the facts
  regenerated from /repo (`Generated.facts08`), side conditions discharged by `decide`.
-/
import Proofs.Prim
import Proofs.Binary
import SpyneModel.Generated.Facts08
namespace SpyneModel.Props.C08
open SpyneModel SpyneModel.Generated

/-! ### integers -/

/-- every integer whose canonical text fits the length guard is read back exactly -/
theorem int_roundtrip_unbounded (i : Int)
    (h : (intToText i).length ≤ facts08.intMaxStrLen .unbounded) :
    intFromText facts08 .unbounded (intToText i) = .ok i :=
  intFromText_intToText facts08 .unbounded i h

/-- every value of every fixed-width integer type is read back exactly
    (the length guard `max_str_len` of /repo leaves room for every canonical literal) -/
theorem int_roundtrip_bounded (k : IntKind) (lo hi i : Int)
    (hlo : k.lo = some lo) (hhi : k.hi = some hi) (h1 : lo ≤ i) (h2 : i ≤ hi) :
    intFromText facts08 k (intToText i) = .ok i := by
  have hlen := intText_length_bounded k i lo hi hlo hhi h1 h2
  have hmsl : k.needLen ≤ facts08.intMaxStrLen k := by cases k <;> decide
  exact intFromText_intToText facts08 k i (Nat.le_trans hlen hmsl)

example : intFromText facts08 .i8 (intToText (-128)) = .ok (-128) := by decide +kernel
example : intFromText facts08 .u8 (intToText 255) = .ok 255 := by decide +kernel

/-! ### booleans -/

theorem bool_roundtrip (b : Bool) : boolFromText facts08 (boolToText b) = .ok b :=
  boolFromText_boolToText facts08 b

/-- the four literals of xs:boolean are read as their values -/
theorem bool_literals :
    boolFromText facts08 "true".toList = .ok true ∧ boolFromText facts08 "1".toList = .ok true ∧
    boolFromText facts08 "false".toList = .ok false ∧ boolFromText facts08 "0".toList = .ok false := by
  decide +kernel

/-- text that is not a boolean literal is rejected, not coerced -/
theorem bool_nonliteral_rejected (s : Text)
    (h1 : s.map asciiLower ≠ "true".toList) (h2 : s.map asciiLower ≠ "1".toList)
    (h3 : s.map asciiLower ≠ "false".toList) (h4 : s.map asciiLower ≠ "0".toList) :
    boolFromText facts08 s = .fault := by
  simp only [boolFromText, h1, h2, h3, h4, facts08, decide_false, Bool.or_self, Bool.false_eq_true, if_false]

/-! ### UTC offsets -/

/-- all offsets a datetime can carry (a fortiori the 1681 offsets of XSD) survive the text form -/
theorem offset_roundtrip (m : Int) (h1 : -1440 < m) (h2 : m < 1440) (rest : Text) :
    parseOffset facts08 (fmtOffset m ++ rest) = some (m, rest) :=
  parseOffset_fmtOffset facts08 (by decide) m (by omega) rest

/-- the fields of a `[+-]HH:MM` literal (sign, HH, MM, as `parseOffsetFields` returns them) are given the value
    sign·(60·HH + MM) -/
theorem offset_literal (neg : Bool) (hh mm : Nat) :
    offsetValue facts08 neg hh mm = (if neg then -((60 * hh + mm : Nat) : Int) else ((60 * hh + mm : Nat) : Int)) := by
  rw [offsetValue_sm facts08 (by decide), Nat.mul_comm]

-- Where an example below starts with `rw [String.toList_ofList]`, the literals `"…".toList` of its statement become the
-- lists of their characters before the kernel evaluates the rest (a literal is `String.ofList` of them): decoding a
-- literal's bytes is quadratic in its length there, and dearer than the function under test.
example : parseOffset facts08 "-04:49".toList = some (-289, []) := by
  repeat rw [String.toList_ofList]
  decide +kernel

/-! ### dates, times, datetimes -/

theorem date_roundtrip (x : Date) (h : x.valid = true) : dateFromText facts08 (isoDate x) = .ok x :=
  dateFromText_isoDate facts08 x h

theorem time_roundtrip (t : Time) (h : t.valid = true) : timeFromText facts08 (isoTime t) = .ok t :=
  timeFromText_isoTime facts08 t h

/-- any calendar date 0001..9999, any time of day to the microsecond, naive or with any
    whole-minute UTC offset strictly inside ±24 h -/
theorem datetime_roundtrip (x : DateTime) (h : x.valid = true) :
    dateTimeFromText facts08 (isoDateTime x) = .ok x :=
  dateTimeFromText_isoDateTime facts08 (by decide) x h

example : (DateTime.mk ⟨2024, 2, 29⟩ ⟨23, 59, 59, 5⟩ (some (-289))).valid = true := by decide
example : isoDateTime (DateTime.mk ⟨2024, 2, 29⟩ ⟨23, 59, 59, 5⟩ (some (-289))) = "2024-02-29T23:59:59.000005-04:49".toList := by
  repeat rw [String.toList_ofList]
  decide +kernel

/-! ### durations -/

/-- every `timedelta` (`timedelta.min` … `timedelta.max` in microseconds: `-(999999999 * usPerDay)` … `maxDurUs`)
    survives, to the microsecond -/
theorem duration_roundtrip (us : Int) (hlo : -86399999913600000000 ≤ us) (hhi : us ≤ 86399999999999999999) :
    durFromText facts08 (durToText facts08 us) = .ok us :=
  durFromText_durToText facts08 (by decide) (by decide) us hlo hhi

example : durToText facts08 5 = "PT0.000005S".toList := by
  repeat rw [String.toList_ofList]
  decide +kernel
example : durFromText facts08 "-P1DT0.5S".toList = .ok (-86400500000) := by
  repeat rw [String.toList_ofList]
  decide +kernel

/-! ### binary encodings (ByteArray) -/

theorem hex_roundtrip (bs : List Nat) (h : bytesOk bs) : hexdec (hexenc bs) = some bs := hexdec_hexenc bs h

theorem base64_roundtrip (bs : List Nat) (h : bytesOk bs) : b64dec false (b64enc false bs) = some bs :=
  b64dec_b64enc false bs h

theorem urlsafe_base64_roundtrip (bs : List Nat) (h : bytesOk bs) : b64dec true (b64enc true bs) = some bs :=
  b64dec_b64enc true bs h

/-- what is written for a hex / base64 ByteArray is a literal of xs:hexBinary / xs:base64Binary -/
theorem hex_in_lexical_space (bs : List Nat) (h : bytesOk bs) : xsdHexBinary (hexenc bs) = true :=
  xsdHexBinary_hexenc bs h

theorem base64_in_lexical_space (bs : List Nat) (h : bytesOk bs) : xsdBase64Binary (b64enc false bs) = true :=
  xsdBase64Binary_b64enc bs h

example : b64enc false [97, 98, 99, 100] = "YWJjZA==".toList := by
  repeat rw [String.toList_ofList]
  decide +kernel
example : bytesOk [97, 98, 99, 100] := by unfold bytesOk; decide

end SpyneModel.Props.C08
