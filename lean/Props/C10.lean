/-
  C10 — hostile or malformed requests end in a client fault, never a crash.

  The request funnel above the codecs (SpyneModel/Hostile.lean): transport decision table, charset decoding and
  third-party parser (oracles), create_in_document, generate_contexts / get_in_object / process_request of
  ServerBase, handle_rpc / handle_error of WsgiApplication.  Every `try/except` catches exactly the classes that T1
  extracted from the current source (`facts10`); the side conditions are decided by the kernel on the regenerated
  facts.  The codecs enter through their own no-crash theorems (Props/C10_xml.lean, Props/C10_hier.lean).
  Property theorems and non-vacuity examples only.
-/
import Proofs.Hostile
import Proofs.Prim2
import Props.C10_xml
import Props.C10_hier
import SpyneModel.Generated.Facts10
import SpyneModel.Generated.Facts08x
namespace SpyneModel.Props.C10
open SpyneModel SpyneModel.Hostile SpyneModel.Generated

/-! ### what the extracted facts have to be -/

/-- the `try` statements of generate_contexts, get_in_object, process_request and of handle_rpc around get_out_string
    understand every clause and end in `except Exception` -/
theorem facts10_catch_alls : total facts10.genContexts = true ∧ total facts10.getInObject = true ∧
    total facts10.processRequest = true ∧ total facts10.wsgiOutString = true := by decide +kernel

/-- `except Fault as e` comes first in generate_contexts and get_in_object and keeps the fault as the answer -/
theorem facts10_faults_kept : keeps facts10.genContexts = true ∧ keeps facts10.getInObject = true := by decide +kernel

/-- the measured transport table is complete; no row lets an exception out of the callable; a row that answers
    before the document is looked at answers with a Client-family fault, with 4xx unless the family is SOAP -/
theorem facts10_table : facts10.preTable.length = PreKey.count ∧ tableOk facts10 = true := by
  have hl : facts10.preTable.length = PreKey.count := by decide +kernel
  exact ⟨hl, (tableOk_eq_zip facts10 hl).trans (by decide +kernel)⟩

/-- non-vacuity: the table has rows that answer early -/
example : ∃ k c s, facts10.pre k = .reject c s :=
  ⟨⟨.soap, .get, .proper, .exact⟩, "Client.RequestNotAllowed", 405, by decide +kernel⟩

/-- every class the charset decoding or the parser library raises for input it rejects is turned into a
    Client.* fault by create_in_document — for every input protocol, also on the retry path -/
theorem facts10_rejections : rejectionsAreClient facts10 = true := by decide +kernel

theorem facts10_status : plainIs4xx facts10 = true ∧ facts10.okStatus = 200 := by decide

/-! ### the funnel -/

/-- `funnel_total`, ServerBase: whatever the bytes are (whatever the decoder / parser / retry raise or return),
    whatever the codec stages and the user function do, no exception escapes generate_contexts, get_in_object or
    get_out_object: the outcome is a normal response or a fault document. -/
theorem funnel_total (q : Req) (ho : q.Ordinary) (r : Raised) : runBase facts10 q ≠ .escape r :=
  runBase_no_escape facts10 facts10_catch_alls.1 facts10_catch_alls.2.1 facts10_catch_alls.2.2.1 q ho r

/-- an exception class nobody has heard of, in the deserialiser: a Server fault, not an escape -/
def weird : Exc := ⟨"Weird", ["Weird", "Exception", "BaseException", "object"]⟩
example : runBase facts10 { proto := .xml, parse := .doc, dispatch := .ok, deser := .crash weird } = .fault "Server" 0 := by
  decide +kernel

/-- `funnel_total`, WsgiApplication: for every transport class (request method x CONTENT_TYPE x CONTENT_LENGTH x
    protocol family) and every request, the callable answers with a status and a document. -/
theorem funnel_total_wsgi (k : PreKey) (hav : facts10.pre k ≠ .unavailable) (q : Req) (ho : q.Ordinary) :
    (∃ s n, runWsgi facts10 k q = .ok s n) ∨ (∃ c s n, runWsgi facts10 k q = .fault c s n) :=
  runWsgi_total facts10 facts10_catch_alls.1 facts10_catch_alls.2.1 facts10_catch_alls.2.2.1 facts10_catch_alls.2.2.2
    facts10_table.2 k hav q ho

/-- `malformed_is_client_fault`, parser side: when the charset decoding or the parser rejects the bytes with any of
    the classes of its library (and the retry, where there is one, does not succeed), the answer is a Client.* fault
    and the user function is not called. -/
theorem malformed_is_client_fault (q : Req) (h1 : q.parse ∈ rejections facts10 q.proto)
    (h2 : q.reparse ∈ retryOutcomes facts10 q.proto) :
    createInDocument facts10 q = none ∨ ∃ c, runBase facts10 q = .fault c 0 ∧ isClient c = true := by
  rcases cid_of_rejectionsAreClient facts10 facts10_rejections q.proto q.parse q.reparse h1 h2 with h | ⟨c, h, hc⟩
  · exact Or.inl h
  · exact Or.inr ⟨c, runBase_rejected facts10 facts10_faults_kept.1 q c h, hc⟩

/-! non-vacuity of `malformed_is_client_fault` -/
def jsonSyntax : Exc := ⟨"JSONDecodeError", ["JSONDecodeError", "ValueError", "Exception", "BaseException", "object"]⟩

/-- the hypotheses of `malformed_is_client_fault` are met by a JSON syntax error; the answer is a Client fault -/
example : ParseResult.parseExc jsonSyntax ∈ rejections facts10 .json ∧ ParseResult.doc ∈ retryOutcomes facts10 .json := by
  decide +kernel
example : ∃ c, runBase facts10 { proto := .json, parse := .parseExc jsonSyntax, dispatch := .ok, deser := .ok } = .fault c 0 ∧
    isClient c = true := by
  rcases malformed_is_client_fault { proto := .json, parse := .parseExc jsonSyntax, dispatch := .ok, deser := .ok }
    (by decide +kernel) (by decide +kernel) with h | h
  · exact absurd h (by decide +kernel)
  · exact h

/-- `malformed_is_client_fault`, codec side: the fault a codec stage raises (envelope, dispatch, deserialisation:
    Client.SoapError, Client.ResourceNotFound, Client.ValidationError …) is the answer, with its own code, and the user
    function is not called. -/
theorem codec_fault_is_the_answer (q : Req) (c : String) (hdoc : createInDocument facts10 q = none)
    (h : q.dispatch = .fault c ∨ (q.dispatch = .ok ∧ q.deser = .fault c)) : runBase facts10 q = .fault c 0 := by
  rcases h with h | ⟨hd, h⟩
  · exact runBase_dispatch_fault facts10 facts10_faults_kept.1 q c hdoc h
  · exact runBase_deser_fault facts10 facts10_faults_kept.2 q c hdoc hd h

/-- a transport class that is answered before the document is looked at (wrong method or no content type for SOAP,
    CONTENT_LENGTH that is not a number or above the limit, multipart without boundary …) is answered with a
    Client-family fault; over HTTP for non-SOAP protocols with 4xx -/
theorem transport_reject_is_client (k : PreKey) (c : String) (s : Nat) (h : facts10.pre k = .reject c s) :
    isClient c = true ∧ (k.fam ≠ .soap → 400 ≤ s ∧ s < 500) := by
  have := rowOk_of_tableOk facts10 facts10_table.2 k
  rw [h] at this
  simp only [rowOk, Bool.and_eq_true, Bool.or_eq_true, beq_iff_eq, decide_eq_true_eq] at this
  refine ⟨this.1, fun hs => ?_⟩
  rcases this.2 with h2 | h2
  · exact absurd h2 hs
  · exact h2

/-- over HTTP a Client fault of a non-SOAP protocol is sent with 4xx -/
theorem malformed_is_4xx (k : PreKey) (q : Req) (c : String) (n : Nat) (hpre : facts10.pre k = .proceed)
    (hf : runBase facts10 q = .fault c n) (hc : isClient c = true) (hs : q.proto.soap = false) :
    ∃ s, runWsgi facts10 k q = .fault c s n ∧ 400 ≤ s ∧ s < 500 := by
  refine ⟨facts10.statusPlain (faultClass c), ?_, statusPlain_4xx facts10 facts10_status.1 _ (faultClass_ne_server hc)⟩
  simp [runWsgi, hpre, hf, statusOf, hs]

/-- `fault_means_not_called`: a request that is answered with a fault although the user function does not raise has
    not run the user function (ServerBase and WSGI) -/
theorem fault_means_not_called (q : Req) (hu : q.user = .returns) (c : String) (n : Nat)
    (h : runBase facts10 q = .fault c n) : n = 0 :=
  runBase_fault_not_called facts10 q hu c n h

theorem fault_means_not_called_wsgi (k : PreKey) (q : Req) (hu : q.user = .returns) (hser : q.serExc = none)
    (c : String) (s n : Nat) (h : runWsgi facts10 k q = .fault c s n) : n = 0 := by
  unfold runWsgi at h
  cases hpre : facts10.pre k with
  | escape e => simp [hpre] at h
  | unavailable => simp [hpre] at h
  | reject c' s' => simp [hpre] at h; exact h.2.2.symm
  | proceed =>
    simp only [hpre] at h
    cases hb : runBase facts10 q with
    | escape r => simp [hb] at h
    | fault c' n' =>
      simp only [hb, WResult.fault.injEq] at h
      rw [← h.2.2]
      exact runBase_fault_not_called facts10 q hu c' n' hb
    | ok n' => simp [hb, hser] at h

/-- `valid_request_called_once`: a request that parses, dispatches and deserialises runs the user function exactly
    once and is answered normally (200 over HTTP) -/
theorem valid_request_called_once (q : Req) (hdoc : createInDocument facts10 q = none) (hd : q.dispatch = .ok)
    (hs : q.deser = .ok) (hu : q.user = .returns) :
    runBase facts10 q = .ok 1 ∧
    ∀ k, facts10.pre k = .proceed → q.serExc = none → runWsgi facts10 k q = .ok 200 1 := by
  have hb := runBase_valid facts10 q hdoc hd hs hu
  refine ⟨hb, fun k hk hser => ?_⟩
  simp [runWsgi, hk, hb, hser, facts10_status.2]

/-- and a normal answer always means exactly one call -/
theorem normal_answer_means_one_call (q : Req) (n : Nat) (h : runBase facts10 q = .ok n) : n = 1 :=
  runBase_ok_called_once facts10 q n h

/-! ### with the codec models in place of the codec oracle -/

/-- the outcome of a codec model as the funnel's oracle (`fault` of the models is a Client.* fault) -/
def codecOf {α : Type} : Outcome α → Codec
  | .ok _ => .ok
  | .fault => .fault "Client.ValidationError"
  | .crash e => .crash ⟨e, [e, "Exception", "BaseException", "object"]⟩

def codecOfRes {α : Type} : Hier.Res α → Codec
  | .ok _ _ => .ok
  | .fault => .fault "Client.ValidationError"
  | .crash e => .crash ⟨e, [e, "Exception", "BaseException", "object"]⟩

/-- a request whose codec stage does not crash is answered normally after one call, or with that Client fault
    after none -/
theorem answered_or_client_fault (q : Req) (hdoc : createInDocument facts10 q = none) (hd : q.dispatch = .ok)
    (hu : q.user = .returns) (hc : ∀ e, q.deser ≠ .crash e) :
    runBase facts10 q = .ok 1 ∨ ∃ c, q.deser = .fault c ∧ runBase facts10 q = .fault c 0 := by
  cases hs : q.deser with
  | ok => exact Or.inl (runBase_valid facts10 q hdoc hd hs hu)
  | fault c => exact Or.inr ⟨c, rfl, runBase_deser_fault facts10 facts10_faults_kept.2 q c hdoc hd hs⟩
  | crash e => exact absurd hs (hc e)

/-- XmlDocument, for EVERY document tree the parser can deliver, every interface, method table and configuration:
    one call and a normal answer, or a Client fault and no call — never a Server fault, never an escaping exception -/
theorem xml_request_called_or_client_fault (cfg : Xml.Cfg) (I : Xml.Iface) (ms : Soap.Methods) (doc : Xml.Node) :
    let q : Req := { proto := .xml, parse := .doc, dispatch := .ok,
                     deser := codecOf (Soap.xmlServerDecode facts08 factsXml cfg I ms doc) }
    runBase facts10 q = .ok 1 ∨ runBase facts10 q = .fault "Client.ValidationError" 0 := by
  cases hx : Soap.xmlServerDecode facts08 factsXml cfg I ms doc with
  | ok v => exact Or.inl (runBase_valid facts10 _ rfl rfl rfl rfl)
  | fault => exact Or.inr (runBase_deser_fault facts10 facts10_faults_kept.2 _ _ rfl rfl rfl)
  | crash e => exact absurd hx (C10xml.xml_server_no_crash cfg I ms doc e)

/-- Soap11 / Soap12, the same for every document tree -/
theorem soap_request_called_or_client_fault (cfg : Xml.Cfg) (I : Xml.Iface) (ver : Soap.Version) (ms : Soap.Methods)
    (doc : Xml.Node) (p : Proto) (_hp : p = .soap11 ∨ p = .soap12) :
    let q : Req := { proto := p, parse := .doc, dispatch := .ok,
                     deser := codecOf (Soap.soapServerDecode facts08 factsXml factsSoap cfg I ver ms doc) }
    runBase facts10 q = .ok 1 ∨ runBase facts10 q = .fault "Client.ValidationError" 0 := by
  cases hx : Soap.soapServerDecode facts08 factsXml factsSoap cfg I ver ms doc with
  | ok v => exact Or.inl (runBase_valid facts10 _ rfl rfl rfl rfl)
  | fault => exact Or.inr (runBase_deser_fault facts10 facts10_faults_kept.2 _ _ rfl rfl rfl)
  | crash e => exact absurd hx (C10xml.soap_server_no_crash cfg I ver ms doc e)

/-- JsonDocument / YamlDocument / MessagePackDocument / MessagePackRpc: for every configuration, registry, signature and
    whatever the parser returns (a document of any shape, its syntax error, any other class) -/
theorem dict_request_called_or_client_fault (cfg : Hier.Cfg) (R : Registry) (hR : Hier.regWf R)
    (name ns : Text) (base : Option Text) (fields : Hier.Fields) (o : Occ)
    (hwf : Hier.wfTy (.obj name ns base fields o) = true) (pd : Hier.Parsed) (p : Proto) :
    let q : Req := { proto := p, parse := .doc, dispatch := .ok,
                     deser := codecOfRes (Hier.serverRun facts08 facts02 cfg R (.obj name ns base fields o) pd) }
    runBase facts10 q = .ok 1 ∨ runBase facts10 q = .fault "Client.ValidationError" 0 := by
  cases hx : Hier.serverRun facts08 facts02 cfg R (.obj name ns base fields o) pd with
  | ok v l => exact Or.inl (runBase_valid facts10 _ rfl rfl rfl rfl)
  | fault => exact Or.inr (runBase_deser_fault facts10 facts10_faults_kept.2 _ _ rfl rfl rfl)
  | crash e => exact absurd hx (C10hier.hier_server_no_crash cfg R hR name ns base fields o hwf pd e)

/-! ### SOAP envelopes -/

/-- every measured envelope shape — Header absent / empty / one / two declared entries / an undeclared entry / text only,
    Body absent / empty / text / comment / two children / a child of another namespace / a Fault element / a valid call,
    Envelope in the protocol's namespace, in that of the other SOAP version, in neither; Soap11 and Soap12 — is dispatched or
    refused with a Client fault -/
theorem facts10_envelopes : envTableOk facts10 = true := by decide +kernel

/-- with the measured row as the dispatch stage: one call and a normal answer, or a Client fault and no call — never a Server
    fault, never an escaping exception, whatever the Header holds when the Body holds no request -/
theorem soap_envelope_called_or_client_fault (k : EnvKey) :
    let q : Req := { proto := if k.soap12 then .soap12 else .soap11, parse := .doc, dispatch := (facts10.env k).codec, deser := .ok }
    runBase facts10 q = .ok 1 ∨ ∃ c, runBase facts10 q = .fault c 0 ∧ isClient c = true :=
  runBase_of_good facts10 facts10_faults_kept.1 _ _ (env_good facts10 facts10_envelopes k)

/-- non-vacuity: a Header with an entry and an empty Body is a row of the table, and it is a Client fault -/
example : ∃ c, facts10.env ⟨false, .own, .one, .empty⟩ = .clientFault c := ⟨"Client.SoapError", by decide +kernel⟩
example : facts10.env ⟨true, .own, .two, .valid⟩ = .called := by decide +kernel

/-! ### SOAP multi-references and the url of the request -/

/-- every measured `id` / `href` shape of a Soap11 / Soap12 request — a reference that resolves, to a missing id (no id at all, or
    other ids only), empty, in a cycle of two, into itself, at the method element, duplicate ids, a long chain — is served or refused with a Client fault -/
theorem facts10_hrefs : hrefTableOk facts10 = true := by decide +kernel

theorem soap_multiref_called_or_client_fault (k : HrefKey) :
    let q : Req := { proto := if k.soap12 then .soap12 else .soap11, parse := .doc, dispatch := (facts10.href k).codec, deser := .ok }
    runBase facts10 q = .ok 1 ∨ ∃ c, runBase facts10 q = .fault c 0 ∧ isClient c = true :=
  runBase_of_good facts10 facts10_faults_kept.1 _ _ (href_good facts10 facts10_hrefs k)

/-- SCRIPT_NAME {empty, "/", "//x", a name} x PATH_INFO {empty, "/", a name} x HTTP_HOST {absent, host, host:port, junk} x
    {http, https}, per protocol family: reconstructing the url never lets an exception out -/
theorem facts10_urls : urlTableOk facts10 = true := by decide +kernel

/-- `funnel_total` for the callable including its first step -/
theorem funnel_total_wsgi_url (u : UrlKey) (k : PreKey) (hav : facts10.pre k ≠ .unavailable) (q : Req) (ho : q.Ordinary) :
    (∃ s n, runWsgiUrl facts10 u k q = .ok s n) ∨ (∃ c s n, runWsgiUrl facts10 u k q = .fault c s n) := by
  have hu := url_ok facts10 facts10_urls u
  unfold runWsgiUrl
  cases hd : facts10.url u with
  | proceed => exact funnel_total_wsgi k hav q ho
  | reject c s => exact Or.inr ⟨c, s, 0, rfl⟩
  | escape n => rw [hd] at hu; simp [urlRowOk] at hu
  | unavailable => rw [hd] at hu; simp [urlRowOk] at hu

example : facts10.url ⟨.plain, .slash, .empty, .absent, false⟩ = .proceed := by decide +kernel
example : ∃ d, facts10.href ⟨false, .cycle⟩ = d ∧ d.good = true := ⟨_, rfl, href_good facts10 facts10_hrefs _⟩

/-! ### the fault document is always written -/

/-- for every output protocol, through ServerBase and WsgiApplication, whatever characters the text of the fault quotes from the
    request (control characters, NUL, lone surrogates, characters outside the BMP, noncharacters): the fault document is written,
    no exception leaves get_out_string / handle_error (measured per row by raising such a fault at the deserialisation stage) -/
theorem facts10_fault_documents : faultDocTableOk facts10 = true := by decide +kernel

theorem fault_document_always_written (k : FaultDocKey) : facts10.faultDoc k = .proceed :=
  faultDoc_written facts10 facts10_fault_documents k

/-! ### the leaf parsers -/

/-- the leaf parsers of the shared vocabulary (integers, booleans, strings, date, time, dateTime, duration, the three
    byte-array encodings, enumerations): a value or a ValidationError for EVERY text -/
theorem shared_leaf_never_crashes (p : PrimTy) (s : Text) (e : String) : leafFromText facts08 p s ≠ .crash e :=
  leafLaws08.nocrash p s e

/-- Decimal: the length guard and `Decimal(text)` with InvalidOperation caught -/
theorem decimal_leaf_never_crashes (s : Text) (e : String) : decFromText facts08x s ≠ .crash e :=
  decFromText_ne_crash facts08x s e

/-- Uuid: `uuid.UUID(text)` with ValueError caught -/
theorem uuid_leaf_never_crashes (s : Text) (e : String) : uuidFromText s ≠ .crash e :=
  uuidFromText_ne_crash s e

/-- Double, for any behaviour of CPython's numeric-literal parser -/
theorem double_leaf_never_crashes {α : Type} (parseF : Text → Option (Dbl α)) (s : Text) (e : String) :
    doubleFromText parseF s ≠ .crash e := by
  unfold doubleFromText
  repeat' split
  all_goals (intro h; cases h)

/-- DateTime with `as_timezone`: also the conversion that leaves the years 1..9999 is a ValidationError -/
theorem datetime_as_timezone_never_crashes (asTz : Option Int) (s : Text) (e : String) :
    dateTimeFromTextC facts08 facts08x asTz s ≠ .crash e := by
  have hG : facts08x.asTzOverflowIsFault = true := by decide
  have hbase : ∀ e', dateTimeFromText facts08 s ≠ .crash e' := by
    intro e' h
    have := leafLaws08.nocrash .dateTime s e'
    simp [leafFromText, Outcome.map, h] at this
  unfold dateTimeFromTextC
  cases hd : dateTimeFromText facts08 s with
  | fault => simp
  | crash e' => exact absurd hd (hbase e')
  | ok x =>
    cases asTz with
    | none => simp
    | some o =>
      cases htz : x.tz with
      | none => simp [htz]
      | some m =>
        simp only [htz, hG, if_true]
        cases ha : astimezone false x o <;> simp

/-! ### non-vacuity of the `Ordinary` hypothesis -/

example : (Req.Ordinary { proto := .json, parse := .parseExc jsonSyntax, dispatch := .ok, deser := .ok }) :=
  ⟨by show "Exception" ∈ jsonSyntax.mro; decide, trivial, trivial, trivial, trivial, by intro e h; cases h⟩


end SpyneModel.Props.C10
