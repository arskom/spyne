/-
  C04 (dict-document part) — user code only ever receives values of the declared types.
  Property theorems only, for the facts regenerated from /repo. `hasTyOne R t v`: `v` is None, a native value of
  the declared primitive kind, an instance of the declared class or of a registered subclass of it (with that
  class's members, recursively), or a list of such for an array.
-/
import Proofs.HierSafe
import SpyneModel.HierFile
import Props.Facts08Good
import SpyneModel.Generated.Facts02
namespace SpyneModel.Props.C04hier
open SpyneModel SpyneModel.Hier SpyneModel.Generated SpyneModel.Props

/-- a request without a body is a client fault -/
theorem facts02_body : facts02.missingBodyFault = true := by decide

/-- every document-level behaviour switch of the dict-document code measured on /repo has its good value -/
theorem facts02_good : facts02.Good :=
  ⟨by decide, by decide, by decide, by decide, by decide, by decide, by decide, by decide, by decide, by decide,
   by decide, by decide, by decide, by decide, by decide⟩

/-- Whatever document a client sends — any nesting of lists, mappings, strings, bytes, numbers, nulls, in any
    place — with soft validation `_from_dict_value` either faults or yields a value of the declared type; nothing is
    passed through. All four protocols, both wrapper modes, any `complex_as`, polymorphic or not. -/
theorem hier_decode_sound (cfg : Cfg) (hs : cfg.validator = .soft) (R : Registry) (hR : regWf R)
    (t : Ty) (hwf : wfTy t = true) (d : Doc) (v : Val) (l : Bool)
    (h : decode facts08 facts02 cfg R t d = .ok v l) : l = false ∧ hasTyOne R t v = true :=
  (decode_safe R leafLaws08 facts02_good hR d t hwf).of_ok h hs

/-- The same for a whole request: the argument tuple handed to the user function consists of values of the declared
    parameter types (or the method has no parameters). -/
theorem hier_request_sound (cfg : Cfg) (hs : cfg.validator = .soft) (R : Registry) (hR : regWf R)
    (name ns : Text) (base : Option Text) (fields : Fields) (o : Occ)
    (hwf : wfTy (.obj name ns base fields o) = true) (d : Doc) (v : Val) (l : Bool)
    (h : decodeRequest facts08 facts02 cfg R (.obj name ns base fields o) d = .ok v l) :
    l = false ∧ (hasTyOne R (.obj name ns base fields o) v = true ∨ v = .obj name []) :=
  (decodeRequest_safe R leafLaws08 facts02_good facts02_body hR name ns base fields o hwf d).of_ok h hs

/-- the object form of a `File` value is read with the validator of the protocol -/
theorem facts02_file : facts02.fileFormValidated = true := by decide

/-- **File.** A `File` argument or member sent in object form (`{"name": …, "type": …, "data": …}`, a positional list
    under `complex_as=list`, inside its `FileValue` wrapper without `ignore_wrappers`) is read by `_doc_to_object` as an
    object of class `File.Value` under the protocol's validator: whatever document stands there, soft validation either
    faults or builds a `File.Value` whose `name` and `type` are text (or None) and whose `data` is bytes (or None).
    As a member of another class the same holds by `hier_decode_sound` at the type that has `fileValueTy o` in the
    member's place. -/
theorem hier_file_object_form_sound (cfg : Cfg) (hs : cfg.validator = .soft) (R : Registry) (hR : regWf R)
    (o : Occ) (ho : occWf o = true) (d : Doc) (v : Val) (l : Bool)
    (h : decodeFileObj facts08 facts02 cfg R o d = .ok v l) : l = false ∧ hasTyOne R (fileValueTy o) v = true := by
  have hwf : wfTy (fileValueTy o) = true := by
    simp only [fileValueTy, wfTy, ho, Bool.true_and, Bool.and_eq_true]
    exact ⟨by decide, by decide⟩
  simp only [decodeFileObj, facts02_file, if_true] at h
  exact hier_decode_sound cfg hs R hR (fileValueTy o) hwf d v l h

/-- **Double / Decimal kind-soundness** (outside the shared universe, so stated on the measured acceptance table): for plain and
    customized Double and Decimal, as argument and as nested member, in YAML, MessagePack and MessagePack-RPC, no native
    document node that is not a number gets through soft validation, and none makes an exception escape. -/
theorem facts02_number_kinds : facts02.nonNumberForNumber = [] := by decide

/-- integer kind-soundness at the float boundary: an integral float of any magnitude (2.0, 2**53, 1e16, 1e22, negative) for an
    Integer member reaches user code as exactly that `int` — measured for json / yaml / msgpack, arguments and array items
    (the model's `intOfFloat` converts every integral float when this holds) -/
theorem facts02_int_from_float : facts02.intFromFloat = true := by decide

/-- a class with `validate_freq=False` loses only the occurrence check of its own members (`Cfg.noFreq`, `finish`): kinds and
    facets are still validated below it — `hier_decode_sound` holds for every `cfg`, whatever `cfg.noFreq` is -/
theorem facts02_nofreq_kinds : facts02.noFreqKeepsValidation = true := by decide

/-- a class selected by a wrapper key is checked to be a subclass of the declared class, whatever list it was found in
    (witness: `X` whose `Attributes` derives from `D.Attributes` and a wrapper key naming a subclass of `D`) -/
theorem facts02_retag : facts02.retagSubclassChecked = true := by decide

/-- A wrapper key can only select the declared class or a registered subclass of it: any other key — the name of an
    unrelated class of the interface included — is answered with a validation fault when the declared class has
    subclasses (with no subclasses the key is not looked at and the declared class is used). -/
theorem hier_wrapper_retag_rejected (R : Registry) (name : Text) (fs : Fields) (k : Text)
    (hk : k ≠ name) (hsubs : (subclassesOf R name).isEmpty = false)
    (hnot : ∀ c, R.find? k = some c → R.hier.isSub R.length c.name name = false) :
    resolveClass R name fs (some k) = .fault := by
  unfold resolveClass
  simp only [Option.some.injEq, hk, if_false, hsubs, Bool.false_eq_true]
  cases hf : R.find? k with
  | none => rfl
  | some c => simp [hnot c hf]

/-! ### non-vacuity: a legitimate subclass retag decodes to an instance of the subclass -/

def exBase : ClassDef := ⟨"Base".toList, "tns".toList, none, [("a".toList, .prim (.integer .i8 {}) {})]⟩
def exSub : ClassDef := ⟨"Sub".toList, "tns".toList, some "Base".toList,
  [("a".toList, .prim (.integer .i8 {}) {}), ("b".toList, .prim .boolean {})]⟩
def exOther : ClassDef := ⟨"Other".toList, "tns".toList, none, [("x".toList, .prim .boolean {})]⟩
def exReg : Registry := [exBase, exSub, exOther]
def exBaseTy : Ty := .obj "Base".toList "tns".toList none exBase.fields {}
def exCfg : Cfg := ⟨.json, .soft, false, .dict, false, false, true, [], []⟩

example : (decode facts08 facts02 exCfg exReg exBaseTy
    (.map [(.str "Sub".toList, .map [(.str "a".toList, .int 5), (.str "b".toList, .bool true)])])).okClass
    = some "Sub".toList := by decide +kernel
example : (decode facts08 facts02 exCfg exReg exBaseTy
    (.map [(.str "Other".toList, .map [(.str "x".toList, .bool true)])])).isFault = true := by decide +kernel
example : wfTy exBaseTy = true := by decide

/-- `{"name": 5}` for a File under soft validation is a fault; `{"name": "a.txt"}` builds a `File.Value` -/
example : (decodeFileObj facts08 facts02 ⟨.json, .soft, true, .dict, false, false, true, [], []⟩ [] {}
    (.map [(.str "name".toList, .int 5)])).isFault = true := by decide +kernel
example : (decodeFileObj facts08 facts02 ⟨.json, .soft, true, .dict, false, false, true, [], []⟩ [] {}
    (.map [(.str "name".toList, .str "a.txt".toList)])).okClass = some fileValueName := by decide +kernel

end SpyneModel.Props.C04hier
