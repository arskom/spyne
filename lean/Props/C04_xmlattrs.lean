/-
  C04 (XML part), continued — classes with XmlAttribute / XmlData members (SpyneModel/XmlAttr.lean, vocabulary
  in Props/C01_attrs.lean). `hasTyOneA I t v`: `v` is None, a native value of the declared primitive kind, an
  instance of the declared class or of a registered descendant whose element members have their declared
  types and whose attribute / data members hold None or a native value of the kind of the type they wrap
  (`XmlAttribute(Integer)` never delivers a string), or a list of such — recursively.
  For EVERY document tree, every validator setting and both states of the child-attribute loop (what that
  loop assigned was converted with the member's own type: the defect is one of C01, not of C04).
-/
import Proofs.XmlAttrSound
import Props.Facts08Good
import SpyneModel.Generated.Facts01
namespace SpyneModel.Props.C04xmlattrs
open SpyneModel SpyneModel.Xml SpyneModel.Generated

/-- whatever `from_element` returns for a class with attribute / data members has the declared type -/
theorem xml_decode_sound_attrs (cfg : Cfg) (I : IfaceA) (hI : ifaceWfA I = true) (t : TyA) (ht : tyWfA t = true)
    (x : Node) (v : Val) (h : decodeA facts08 factsXml factsAttr cfg I t x = .ok v) : hasTyOneA I t v = true :=
  fromElementA_sound leafLaws08 (by decide) factsAttr cfg hI t x v ht h

/-- an attribute value / the element text that is delivered is of the kind of the wrapped type -/
theorem modifier_value_kind (cfg : Cfg) (p : PrimTy) (s : Text) (v : Val)
    (h : modifierValue facts08 factsAttr cfg p s = .ok v) : p.kindOk v = true :=
  modifierValue_sound leafLaws08 factsAttr cfg p s v h

/-- an Enum element is read as a member of the enumeration or not at all: a text that is no member — the name of a
    Python attribute of the Enum class included — is a fault, never a value -/
theorem enum_text_must_be_a_member (names : List Text) (s : Text) (h : names.contains s = false) :
    leafFromText facts08 (.enum names) s = .fault := by
  have hm : ¬ s ∈ names := by simpa using h
  simp [leafFromText]
  exact hm

theorem enum_member_is_read (names : List Text) (s : Text) (h : names.contains s = true) :
    leafFromText facts08 (.enum names) s = .ok (.enum s) := by
  have hm : s ∈ names := by simpa using h
  simp [leafFromText]
  exact hm

/-! ### non-vacuity -/
def exB : TyA := .obj "B".toList "urn:x".toList none
  [("id".toList, .attribute, .prim (.integer .i32 {}) { minOccurs := 1 }),
   ("kid".toList, .element, .obj "K".toList "urn:x".toList none
      [("id".toList, .attribute, .prim (.integer .i32 {}) {})] {})] {}
example : tyWfA exB = true := by decide +kernel
example : ifaceWfA ⟨[], [], []⟩ = true := by decide +kernel
example : hasTyOneA ⟨[], [], []⟩ exB (.obj "B".toList [("id".toList, .int 7),
    ("kid".toList, .obj "K".toList [("id".toList, .none)])]) = true := by decide +kernel
example : hasTyOneA ⟨[], [], []⟩ exB (.obj "B".toList [("id".toList, .str "7".toList), ("kid".toList, .none)]) = false := by
  decide +kernel

end SpyneModel.Props.C04xmlattrs
