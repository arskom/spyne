/-
  C09 — faults arrive intact, are classified correctly and never leak internals.
  Property theorems only; every theorem is about the model instantiated with the facts
  regenerated from /repo (`Generated.facts09`), side conditions discharged by `decide`.

  Reading guide.  `FaultV` = (code, message, actor, detail, lang, subclass members) of the raised fault, `Cls` = what
  `isinstance` says about its class (built-in or generated subclass), `Proto` = the output protocol,
  `encodeFault` = the protocol's serialiser on `ctx.out_error`, `decodeFault` = the reference
  decoder of that wire format, `wsgi` = WsgiApplication.handle_rpc from the call of the user code
  to `start_response`, `client11`/`client12` = what the spyne SOAP clients put into `ctx.in_error`.
-/
import Proofs.Faults
import SpyneModel.Generated.Facts09
namespace SpyneModel.Props.C09
open SpyneModel SpyneModel.Faults SpyneModel.Generated

/-! ### fault codes with arbitrary dotted sub-codes -/

/-- splitting any code at its dots and joining the pieces again loses nothing
    (what `gen_fault_codes` / `generate_faultcode` rely on) -/
theorem code_join_split (code : Text) : joinWith '.' (splitOn '.' code) = code :=
  joinWith_splitOn '.' code

/-- a code built from any non-empty list of dot-free segments is split into exactly these -/
theorem code_split_join (segs : List Text) (hne : segs ≠ []) (hfree : ∀ s ∈ segs, '.' ∉ s) :
    splitOn '.' (joinWith '.' segs) = segs :=
  splitOn_joinWith '.' segs hne hfree

-- `rw [String.toList_ofList]` turns a literal `"…".toList` into the list of its characters (a literal is `String.ofList`
-- of them) before the kernel evaluates the rest: left to the kernel, decoding the literal's bytes is quadratic in its
-- length and dearer than the function under test
example : splitOn '.' (T "Client.Foo.Bar") = [T "Client", T "Foo", T "Bar"] := by
  simp only [T]
  repeat rw [String.toList_ofList]
  decide +kernel

/-! ### HTTP status (fault_to_http_response_code as chosen by handle_error) -/

/-- 413 / 404 / 405 / 401 for the dedicated error classes and all their subclasses, whatever the code -/
theorem status_dedicated (p : Proto) (hp : p.isSoap = false) (c : Cls) (code : Text) :
    (c.tooLong = true → statusOf facts09 p c code = 413) ∧
    (c.tooLong = false → c.notFound = true → statusOf facts09 p c code = 404) ∧
    (c.tooLong = false → c.notFound = false → c.notAllowed = true → statusOf facts09 p c code = 405) ∧
    (c.tooLong = false → c.notFound = false → c.notAllowed = false → c.invalidCred = true →
      statusOf facts09 p c code = 401) := by
  simp only [statusOf, hp, baseStatus_doc facts09 (by decide)]
  rcases c with ⟨a, b, c, d⟩
  refine ⟨?_, ?_, ?_, ?_⟩ <;> intros <;> simp_all

/-- any other fault class: 400 exactly for the client codes (`Client`, `Client.<anything>`) … -/
theorem status_client_iff (p : Proto) (hp : p.isSoap = false) (code : Text) :
    statusOf facts09 p Cls.plain code = 400 ↔ IsClient code := by
  have h : facts09.clientTest = .eqOrDotPrefix := by decide
  simp only [statusOf, hp, baseStatus_doc facts09 (by decide), Cls.plain, h]
  rw [← isClientCode_iff]
  cases isClientCode .eqOrDotPrefix code <;> simp [facts09]

/-- … and 500 for every other code (`Server…`, `Clientx`, `client.x`, anything) -/
theorem status_otherwise_500 (p : Proto) (hp : p.isSoap = false) (code : Text) (h : ¬ IsClient code) :
    statusOf facts09 p Cls.plain code = 500 := by
  have hc : facts09.clientTest = .eqOrDotPrefix := by decide
  rw [← isClientCode_iff] at h
  simp only [statusOf, hp, baseStatus_doc facts09 (by decide), Cls.plain, hc]
  simp [h, facts09]

/-- always 500 for SOAP, for every class and code -/
theorem status_soap_500 (p : Proto) (hp : p.isSoap = true) (c : Cls) (code : Text) :
    statusOf facts09 p c code = 500 := by
  simp [statusOf, hp, facts09]

example : IsClient (T "Client.Foo.Bar") := Or.inr ⟨T "Foo.Bar", by
  simp only [T]
  repeat rw [String.toList_ofList]
  decide +kernel⟩
example : ¬ IsClient (T "Clientx") := by
  rw [← isClientCode_iff]; decide +kernel

/-! ### nested detail dicts -/

/-- XML reading of a written detail dict, for every nesting of dicts and lists: the ordered (key, value) pairs
    up to what XML cannot distinguish — `normKvs`: an empty string / dict / list and None are one empty
    element; a one-item list is its item; a list of n items is n entries with the same key; a number or boolean
    (0, 0.0 and False included: only None is written as an empty element) is its `str()` text -/
theorem detail_xml_roundtrip (kvs : List (Text × Detail)) : kidsToKvs (kvsToXml facts09.emptyTest kvs) = normKvs kvs := by
  have h : facts09.emptyTest = .isNone := by decide
  rw [h]; exact kidsToKvs_kvsToXml kvs

/-- `normKvs` is a normal form: reading what was written from a reading gives the same reading -/
theorem detail_xml_normal_form (kvs : List (Text × Detail)) : normKvs (normKvs kvs) = normKvs kvs :=
  normKvs_idem kvs

/-- … and exactly equal when no list, empty string or empty dict occurs -/
theorem detail_xml_exact (kvs : List (Text × Detail)) (h : kvsSafe kvs = true) :
    kidsToKvs (kvsToXml facts09.emptyTest kvs) = kvs := by
  rw [detail_xml_roundtrip, normKvs_of_safe kvs h]

example : normKvs [(T "zero", .scalar (T "0") true), (T "no", .scalar (T "False") true), (T "n", .null)] =
    [(T "zero", .leaf (T "0")), (T "no", .leaf (T "False")), (T "n", .null)] := by
  simp [normKvs, normEntry]

/-- dict documents carry every nested detail (dicts, lists, numbers, booleans) exactly -/
theorem detail_doc_roundtrip (d : Detail) : docToDetail (detailToDoc d) = d :=
  docToDetail_detailToDoc d

example : kvsSafe [(T "a", .leaf (T "b")), (T "c", .node [(T "d", .null)])] = true := by decide +kernel
example : normKvs [(T "k", .list [.leaf (T "x"), .node [(T "a", .leaf (T "b"))]]), (T "e", .list [])] =
    [(T "k", .leaf (T "x")), (T "k", .node [(T "a", .leaf (T "b"))]), (T "e", .null)] := by
  simp [normKvs, normEntry, normItems, normItem]

/-! ### the fault on the wire, read by the reference decoder -/

/-- XmlDocument: code, message, actor and detail of every fault — also of a generated subclass with declared
    members, whose extra child elements (any number, any names but the unqualified `detail`) do not disturb
    the standard ones -/
theorem fault_roundtrip_xml (f : FaultV) (hm : ∀ m ∈ f.members, m.1 ≠ T "detail") :
    (encodeFault facts09 .xml f).bind (decodeFault .xml) =
      some { f with str := xmlText f.str, actor := xmlText f.actor, detail := normTop11 f.detail, lang := T "en",
                    members := [] } := by
  have hx : facts09.xmlSanitise = true := rfl
  show (some (Wire.xml (faultToXml11 facts09 f))).bind (decodeFault .xml) = _
  rw [Option.bind_some]
  show xmlToFault11 (faultToXml11 facts09 f) = _
  rw [xmlToFault11_faultToXml11 facts09 (by decide) rfl f hm]
  simp only [xmlTextF, hx, if_true]

/-- the message / actor the XML protocols write is always text XML can carry (so the fault can always be sent), and it
    is the raised text itself whenever that text is XML-representable; every other character (controls, NUL, U+FFFE,
    U+FFFF; lone surrogates are outside Lean's `Char` and covered by the measured fact + T3) becomes U+FFFD -/
theorem fault_text_always_carriable (t : Text) :
    (xmlText t).all isXmlChar = true ∧ (t.all isXmlChar = true → xmlText t = t) :=
  ⟨xmlText_valid t, xmlText_of_valid t⟩

/-- SOAP 1.1: any code (the `faultcode` QName is read by its local part), any message, any detail -/
theorem fault_roundtrip_soap11 (f : FaultV) (hm : ∀ m ∈ f.members, m.1 ≠ T "detail") :
    (encodeFault facts09 .soap11 f).bind (decodeFault .soap11) =
      some { f with str := xmlText f.str, actor := xmlText f.actor, detail := normTop11 f.detail, lang := T "en",
                    members := [] } := by
  have hx : facts09.xmlSanitise = true := rfl
  show (some (Wire.xml (envelope ns11 [faultToXml11 facts09 f]))).bind (decodeFault .soap11) = _
  rw [Option.bind_some]
  show (unwrapEnvelope ns11 (envelope ns11 [faultToXml11 facts09 f])).bind xmlToFault11 = _
  rw [unwrapEnvelope_envelope, Option.bind_some, xmlToFault11_faultToXml11 facts09 (by decide) rfl f hm]
  simp only [xmlTextF, hx, if_true]

/-- SOAP 1.2: first segment Client or Server, arbitrary dotted sub-codes, any message, any detail, the language -/
theorem fault_roundtrip_soap12 (f : FaultV) (first : Text) (rest : List Text)
    (hs : splitOn '.' f.code = first :: rest) (hf : first = T "Client" ∨ first = T "Server")
    (hm : ∀ m ∈ f.members, m.1 ≠ tDetail12) :
    (encodeFault facts09 .soap12 f).bind (decodeFault .soap12) =
      some { f with str := xmlText f.str, actor := xmlText f.actor, detail := f.detail.map normKvs, members := [] } := by
  have hxs : facts09.xmlSanitise = true := rfl
  obtain ⟨x, hx, hd⟩ := xmlToFault12_faultToXml12 facts09 (by decide) rfl rfl f first rest hs hf hm
  have he : encodeFault facts09 .soap12 f = some (.xml (envelope ns12 [x])) := by simp only [encodeFault, hx]
  rw [he, Option.bind_some]
  show (unwrapEnvelope ns12 (envelope ns12 [x])).bind xmlToFault12 = _
  rw [unwrapEnvelope_envelope, Option.bind_some, hd]
  simp only [xmlTextF, hxs, if_true]

/-- JSON / YAML / MessagePack documents, dict and list form: everything, exactly -/
theorem fault_roundtrip_dict (asList : Bool) (f : FaultV) :
    (encodeFault facts09 (.dict asList) f).bind (decodeFault (.dict asList)) =
      some { f with lang := T "en", members := [] } := by
  cases asList <;> simp [encodeFault, decodeFault, docToFault_faultToDict, docToFault_faultToList]

/-- MessagePackRpc error frame -/
theorem fault_roundtrip_msgpackrpc (f : FaultV) :
    (encodeFault facts09 .msgpackRpc f).bind (decodeFault .msgpackRpc) =
      some { f with lang := T "en", members := [] } := by
  simp [encodeFault, decodeFault, rpcFrame, docToFault_faultToDict]

/-- HttpRpc (`code \n\n message` as text/plain): code and message.
    FULL STATEMENT (not provable, known finding `httprpc-detail-dropped`): … = some { f with lang := "en" },
    i.e. including actor and detail — this wire format has no place for them. -/
theorem fault_roundtrip_httprpc_partial (f : FaultV) (hc : '\n' ∉ f.code) :
    (encodeFault facts09 .httpRpc f).bind (decodeFault .httpRpc) =
      some { f with actor := [], detail := none, lang := T "en", members := [] } := by
  simp [encodeFault, decodeFault, httpText, splitBlank_httpText f.code f.str hc]

example : splitOn '.' (T "Client.a.b") = T "Client" :: [T "a", T "b"] := by decide +kernel

/-! ### the constructors of the built-in error classes -/

/-- A generated subclass of a built-in error class that overrides CODE with a more specific sub-code is raised
    with that code (and then delivered intact and classified by its class / prefix by the theorems above and below).
    FULL STATEMENT (fails on the tree until `InvalidInputError.__init__` stops passing the literal
    'Client.InvalidInput'; known finding `ctor:code-literal:InvalidInputError`): without `h1`, `h2`. -/
theorem ctor_code_is_declared_partial (b : Builtin) (c : Text) (h1 : b ≠ .invalidInput) (h2 : b ≠ .missingField) :
    ctorCode facts09 b (some c) = c := by
  have h : b ∈ facts09.ctorUsesCode := by cases b <;> first | contradiction | decide
  simp [ctorCode, h]

/-- without an override every built-in class is raised with its documented code -/
theorem ctor_code_default (b : Builtin) : ctorCode facts09 b none = b.baseCode := rfl

/-! ### the funnel -/

/-- a raised Fault becomes `ctx.out_error` unchanged (same object: class, code, message, detail)
    and `ctx.out_object` is never assigned -/
theorem funnel_fault_intact (c : Cls) (f : FaultV) :
    process facts09 (.plain (.raises (.fault c f))) = some ⟨.unset, some (c, f)⟩ := rfl

/-- once `ctx.out_error` is set, what is serialised does not depend on `ctx.out_object`,
    and it is never a response that carries a return value -/
theorem no_return_on_fault (p : Proto) (o o' : OutObj) (e : Cls × FaultV) :
    serialize facts09 p ⟨o, some e⟩ = serialize facts09 p ⟨o', some e⟩ ∧
    ∀ v, serialize facts09 p ⟨o, some e⟩ ≠ some (.ret v) := by
  refine ⟨rfl, ?_⟩
  intro v
  simp only [serialize]
  rcases p with _ | _ | _ | b | _ | _
  · simp [encodeFault]
  · simp [encodeFault]
  · simp only [encodeFault]; split <;> simp
  · cases b <;> simp [encodeFault]
  · simp [encodeFault]
  · simp [encodeFault]

/-- user code raises a Fault: the response is that fault's encoding with the documented status -/
theorem fault_response (p : Proto) (c : Cls) (f : FaultV) (w : Wire) (hw : encodeFault facts09 p f = some w) :
    wsgi facts09 p none (.plain (.raises (.fault c f))) = .response (statusOf facts09 p c f.code) w := by
  simp [wsgi, wsgiOn, process, afterRaise, funnel, handleError, hw]

/-- end to end: whatever the reference decoder reads from the encoding of the raised fault (the `fault_roundtrip_*`
    theorems say what that is under each protocol) is what it reads from the HTTP response, sent with the
    documented status -/
theorem fault_arrives (p : Proto) (c : Cls) (f g : FaultV)
    (h : (encodeFault facts09 p f).bind (decodeFault p) = some g) :
    ∃ w, wsgi facts09 p none (.plain (.raises (.fault c f))) = .response (statusOf facts09 p c f.code) w ∧
      decodeFault p w = some g := by
  cases hw : encodeFault facts09 p f with
  | none => simp [hw] at h
  | some w => exact ⟨w, fault_response p c f w hw, by simpa [hw] using h⟩

example (c : Cls) (f : FaultV) (hm : f.members = [(qn (T "tns") (T "extra"), T "x")]) :
    ∃ w, wsgi facts09 .soap11 none (.plain (.raises (.fault c f))) = .response 500 w ∧
      decodeFault .soap11 w = some { f with str := xmlText f.str, actor := xmlText f.actor, detail := normTop11 f.detail,
                                            lang := T "en", members := [] } := by
  have := fault_arrives .soap11 c f _ (fault_roundtrip_soap11 f (by rw [hm]; decide))
  rwa [status_soap_500 .soap11 rfl] at this

/-- a status that was already chosen when the fault is raised (by the in protocol, e.g. Soap11's 405 for a
    request that is not a POST, or by the user code) is left alone by the error path -/
theorem status_preset_respected (p : Proto) (s : Nat) (c : Cls) (f : FaultV) (w : Wire)
    (hw : encodeFault facts09 p f = some w) :
    wsgi facts09 p (some s) (.plain (.raises (.fault c f))) = .response s w := by
  have h : facts09.errorPathKeepsStatus = true := by decide
  simp [wsgi, wsgiOn, process, afterRaise, funnel, handleError, hw, h]

/-- the same when the fault is raised by a generator method — before its first `yield` or later,
    while the response is being produced: nothing of what it yielded is sent -/
theorem fault_response_generator (p : Proto) (c : Cls) (f : FaultV) (w : Wire)
    (hw : encodeFault facts09 p f = some w) (v : Text) (later : Option Raised) :
    wsgi facts09 p none (.gen (.raises (.fault c f)) later) = .response (statusOf facts09 p c f.code) w ∧
    wsgi facts09 p none (.gen (.value v) (some (.fault c f))) = .response (statusOf facts09 p c f.code) w := by
  have h1 : facts09.genFirstGuarded = true := by decide
  have h2 : facts09.serErr = .funnelled := by decide
  simp [wsgi, wsgiOn, process, funnel, handleError, serializeFailed, hw, h1, h2]

/-! ### every raise site: event listeners are user code too -/

/-- every listener call of `process_request` is inside its `try` block -/
theorem listeners_in_try (site : Site) (level : Level) : hookCovered facts09 site level = true := by
  cases site <;> cases level <;> decide

/-- a Fault raised by a `method_call` listener (the documented authentication hook) or by a
    `method_return_object` listener, registered with the application or with the service, becomes
    `ctx.out_error` unchanged; after a `method_return_object` listener `ctx.out_object` already holds the return
    value (which `no_return_on_fault` shows is not sent) -/
theorem funnel_listener_fault_intact (level : Level) (c : Cls) (f : FaultV) (body : Step) (v : Text) :
    process facts09 (.hook .methodCall level (.fault c f) body) = some ⟨.unset, some (c, f)⟩ ∧
    process facts09 (.hook .returnObject level (.fault c f) (.value v)) = some ⟨.value v, some (c, f)⟩ := by
  have h1 := listeners_in_try .methodCall level
  have h2 := listeners_in_try .returnObject level
  simp [process, h1, h2, afterRaise, funnel]

/-- … and the response is that fault's encoding with the documented status (401 for
    InvalidCredentialsError etc. by `status_dedicated`), never the return value -/
theorem fault_response_listener (site : Site) (level : Level) (p : Proto) (c : Cls) (f : FaultV) (w : Wire)
    (hw : encodeFault facts09 p f = some w) (v : Text) :
    wsgi facts09 p none (.hook site level (.fault c f) (.value v)) = .response (statusOf facts09 p c f.code) w := by
  have h := listeners_in_try site level
  cases site <;> simp [wsgi, wsgiOn, process, h, afterRaise, funnel, handleError, hw]

/-! ### per-request output protocol: the status is the one documented for the protocol that WRITES the fault -/

/-- User code (function body or `method_call` listener) that replaces `ctx.out_protocol` before it raises or
    returns gets, for every program and every pre-set status, exactly the response of an application configured
    with that protocol — body and status. Every theorem of this file about `wsgi … p …` therefore holds with
    `p` = the per-request protocol: 400/413/404/405/401 when a non-SOAP protocol writes the fault although the
    application is configured with SOAP, always 500 when SOAP writes it although the application is not. -/
theorem swapped_protocol_as_if_configured (app req : Proto) (preset : Option Nat) (u : UserCode) :
    wsgiSwap facts09 app (some req) preset u = wsgi facts09 req preset u := by
  have h : facts09.statusAsker = .requestProtocol := by decide
  simp [wsgiSwap, wsgi, statusProto, h]

/-- spelled out for a raised Fault: written by `req`, status `statusOf req` -/
theorem fault_response_swapped (app req : Proto) (c : Cls) (f : FaultV) (w : Wire)
    (hw : encodeFault facts09 req f = some w) :
    wsgiSwap facts09 app (some req) none (.plain (.raises (.fault c f))) =
      .response (statusOf facts09 req c f.code) w := by
  rw [swapped_protocol_as_if_configured]; exact fault_response req c f w hw

example (c : Cls) (f : FaultV) (w : Wire) (hw : encodeFault facts09 (.dict false) f = some w)
    (hc : c = Cls.plain) (hf : IsClient f.code) :
    wsgiSwap facts09 .soap11 (some (.dict false)) none (.plain (.raises (.fault c f))) = .response 400 w := by
  rw [fault_response_swapped _ _ c f w hw, hc, (status_client_iff (.dict false) rfl f.code).2 hf]

/-- without a replacement nothing changes -/
theorem no_swap (app : Proto) (preset : Option Nat) (u : UserCode) :
    wsgiSwap facts09 app none preset u = wsgi facts09 app preset u := by
  cases h : facts09.statusAsker <;> simp [wsgiSwap, wsgi, statusProto, h]

/-! ### auxiliary methods -/

/-- Whatever the auxiliary methods bound to the called method do — return, raise a Fault or any other exception
    (handled inside their own context), or fail in a way that propagates out of their processing — the response to
    the primary call is the one without them: a fault stays the fault, nothing of theirs is sent. -/
theorem aux_does_not_interfere (app : Proto) (req : Option Proto) (preset : Option Nat) (u : UserCode)
    (aux : List AuxOutcome) :
    wsgiAux facts09 app req preset u aux = wsgiSwap facts09 app req preset u := by
  have h : facts09.auxGuarded = true := by decide
  simp only [wsgiAux, h]
  cases wsgiSwap facts09 app req preset u <;> simp

/-! ### non-Fault exceptions -/

/-- non-interference: for every program (every raise site: function body, generator body, listeners), output protocol and pre-set status the whole response
    (status and body) is the same whatever type name, text and traceback the non-Fault exceptions
    raised in it carry — nothing of them can appear in it -/
theorem no_leak (p : Proto) (preset : Option Nat) (u : UserCode) :
    wsgi facts09 p preset u.erase = wsgi facts09 p preset u :=
  wsgi_erase facts09 (T "Internal Error") rfl p preset u

/-- … and that response is the generic fault, status 500, under every protocol — raised by a plain
    method, by a generator before or after its first `yield`, or by a failing redirect -/
theorem other_is_internal_error (p : Proto) (e : Exc) (v : Text) (later : Option Raised) :
    ∃ w, encodeFault facts09 p internalError = some w ∧
      wsgi facts09 p none (.plain (.raises (.other e))) = .response 500 w ∧
      wsgi facts09 p none (.plain (.raises (.redirect (some e)))) = .response 500 w ∧
      wsgi facts09 p none (.gen (.raises (.other e)) later) = .response 500 w ∧
      wsgi facts09 p none (.gen (.value v) (some (.other e))) = .response 500 w := by
  have h1 : facts09.genFirstGuarded = true := by decide
  have h2 : facts09.serErr = .funnelled := by decide
  have hg := genericFault_internalError facts09 rfl rfl e
  have hst : statusOf facts09 p Cls.plain (T "Server") = 500 := by
    cases hp : p.isSoap
    · exact status_otherwise_500 p hp _ (by rw [← isClientCode_iff]; decide)
    · exact status_soap_500 p hp _ _
  obtain ⟨w, hw⟩ := encodeFault_internalError facts09 p
  have hcode : internalError.code = T "Server" := rfl
  refine ⟨w, hw, ?_, ?_, ?_, ?_⟩ <;>
    simp [wsgi, wsgiOn, process, afterRaise, funnel, handleError, serializeFailed, hg, hw, h1, h2, hcode, hst]

/-- a non-Fault exception raised by a listener is answered with the generic fault, status 500 -/
theorem other_from_listener_is_internal_error (site : Site) (level : Level) (p : Proto) (e : Exc) (v : Text) :
    ∃ w, encodeFault facts09 p internalError = some w ∧
      wsgi facts09 p none (.hook site level (.other e) (.value v)) = .response 500 w := by
  obtain ⟨w, hw, h1, _⟩ := other_is_internal_error p e v none
  have h := listeners_in_try site level
  refine ⟨w, hw, h1 ▸ ?_⟩
  cases site <;> simp [wsgi, wsgiOn, process, h, afterRaise, funnel]

/-- the reference decoder reads `Server` / `Internal Error` from it, with no detail -/
theorem internal_error_decodes (p : Proto) :
    (encodeFault facts09 p internalError).bind (decodeFault p) = some internalError := by
  rcases p with _ | _ | _ | b | _ | _
  · rw [fault_roundtrip_xml _ (by simp [internalError])]; rfl
  · rw [fault_roundtrip_soap11 _ (by simp [internalError])]; rfl
  · rw [fault_roundtrip_soap12 internalError (T "Server") [] (by decide) (Or.inr rfl) (by simp [internalError])]; rfl
  · rw [fault_roundtrip_dict]; rfl
  · rw [fault_roundtrip_msgpackrpc]; rfl
  · rw [fault_roundtrip_httprpc_partial internalError (by decide)]; rfl

/-! ### what the spyne SOAP clients hold in `ctx.in_error` -/

/-- SOAP 1.1 client: message and detail as sent; the code is the `faultcode` QName whose local part is the raised
    code (`hne`: a `Fault` never has an empty message — its constructor puts the type name there) -/
theorem client11_sees (f : FaultV) (hne : f.str ≠ []) (hm : ∀ m ∈ f.members, m.1 ≠ T "detail")
    (hv : f.str.all isXmlChar = true) :
    ∃ w cf, encodeFault facts09 .soap11 f = some w ∧ client11 w = some cf ∧
      localPart cf.code = f.code ∧ cf.str = f.str ∧ cf.detail = normTop11 f.detail := by
  refine ⟨_, _, rfl, client11_encode facts09 (by decide) f hm, ?_, ?_, rfl⟩
  · exact localPart_prefixed _ (by decide) _
  · have hx : facts09.xmlSanitise = true := by decide
    simp [ctorString, hne, xmlTextF, hx, xmlText_of_valid f.str hv]

/-- SOAP 1.2 client: the code read in spyne's vocabulary (Sender = Client, Receiver = Server) is the
    raised code, the detail is as sent, the message is as sent when it has no blank edges.
    FULL STATEMENT (not provable while the client strips the reason text, known finding
    `client12-reason-stripped`): `cf.str = f.str` without the hypothesis `hstr`. -/
theorem client12_sees_partial (f : FaultV) (first : Text) (rest : List Text)
    (hs : splitOn '.' f.code = first :: rest) (hf : first = T "Client" ∨ first = T "Server")
    (hne : f.str ≠ []) (hstr : strip f.str = f.str) (hm : ∀ m ∈ f.members, m.1 ≠ tDetail12)
    (hv : f.str.all isXmlChar = true) :
    ∃ w cf, encodeFault facts09 .soap12 f = some w ∧ client12 facts09 w = some cf ∧
      code12ToSpyne cf.code = f.code ∧ cf.str = f.str ∧ cf.detail = f.detail.map normKvs := by
  obtain ⟨x, hx, hc⟩ := client12_encode facts09 (by decide) (by decide) (by decide) f first rest hs hf hm
  refine ⟨.xml (envelope ns12 [x]), _, by simp [encodeFault, hx], hc, ?_, ?_, rfl⟩
  · exact code12ToSpyne_client _ (by decide) f.code first rest hs hf
  · have hx : facts09.xmlSanitise = true := by decide
    simp [hstr, ctorString, hne, xmlTextF, hx, xmlText_of_valid f.str hv]

example : strip (T "msg é") = T "msg é" := by decide +kernel
example : strip (T " sp ") = T "sp" := by decide +kernel

end SpyneModel.Props.C09
