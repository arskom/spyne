/-
  C10 (XML / SOAP part) — hostile or malformed requests end in a client fault, never a crash.
  In the model an outcome is `ok` (the function is called), `fault` (a Client.* fault is returned and
  the function is NOT called: the outcome carries no arguments) or `crash cls` (an exception other
  than Fault escapes). The theorems quantify over EVERY document tree that the XML parser (oracle)
  can deliver; bytes that are not well-formed XML are turned into Client.XMLSyntaxError by
  `create_in_document` (observed in T3). They need the repaired child-attribute loop (switch
  `childAttrGuard`) and, for SOAP, the empty-body guard (switch `emptyBodyGuard`).
-/
import Proofs.XmlServer
import Proofs.XmlNoCrash
import Props.Facts08Good
import SpyneModel.Generated.Facts01
namespace SpyneModel.Props.C10xml
open SpyneModel SpyneModel.Xml SpyneModel.Generated

/-- deserialisation of any element at any declared type: no exception escapes -/
theorem xml_decode_no_crash (cfg : Cfg) (I : Iface) (t : Ty) (x : Node) (e : String) :
    decode facts08 factsXml cfg I t x ≠ .crash e :=
  fromElement_nocrash leafLaws08 (by decide) cfg I t x e

/-- XmlDocument server on any document: a call or a Client fault -/
theorem xml_server_no_crash (cfg : Cfg) (I : Iface) (ms : Soap.Methods) (doc : Node) (e : String) :
    Soap.xmlServerDecode facts08 factsXml cfg I ms doc ≠ .crash e :=
  fun h => let ⟨t, hd⟩ := xmlServerDecode_crash facts08 factsXml cfg I ms h
  xml_decode_no_crash cfg I t doc e hd

/-- Soap11 / Soap12 server on any document (no Envelope, empty Envelope, empty Body, unknown method,
    malformed arguments …): a call or a Client fault -/
theorem soap_server_no_crash (cfg : Cfg) (I : Iface) (ver : Soap.Version) (ms : Soap.Methods) (doc : Node)
    (e : String) : Soap.soapServerDecode facts08 factsXml factsSoap cfg I ver ms doc ≠ .crash e :=
  fun h => let ⟨t, body, hd⟩ := soapServerDecode_crash facts08 factsXml factsSoap cfg I ver ms (by decide) h
  xml_decode_no_crash cfg I t body e hd

/-- so every request ends in exactly one of: the function is called with some arguments, or a
    Client fault is returned without a call -/
theorem server_outcome (cfg : Cfg) (I : Iface) (ver : Soap.Version) (ms : Soap.Methods) (doc : Node) :
    (∃ k v, Soap.soapServerDecode facts08 factsXml factsSoap cfg I ver ms doc = .ok (k, v)) ∨
    Soap.soapServerDecode facts08 factsXml factsSoap cfg I ver ms doc = .fault := by
  cases h : Soap.soapServerDecode facts08 factsXml factsSoap cfg I ver ms doc with
  | ok r => exact Or.inl ⟨r.1, r.2, rfl⟩
  | fault => exact Or.inr rfl
  | crash e => exact absurd h (soap_server_no_crash cfg I ver ms doc e)

/-- non-vacuity: the empty envelope and the empty body are faults, not crashes -/
example : Soap.soapServerDecode facts08 factsXml factsSoap {} { classes := [] } .v11 []
    (.elem (Soap.envNs .v11) "Envelope".toList [] none [.elem (Soap.envNs .v11) "Body".toList [] none []]) = .fault := by
  have hS : factsSoap.emptyBodyGuard = true := by decide
  simp [Soap.soapServerDecode, Soap.childrenNamed, Node.ns, Node.name, Node.children, hS]

end SpyneModel.Props.C10xml
