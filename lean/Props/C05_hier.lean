/-
  C05 (dict-document part) — soft validation enforces exactly the declared constraints, the same in JSON, YAML and
  MessagePack. Property theorems only, for the facts regenerated from /repo.

  `conforms` (SpyneModel/Types.lean) is the protocol-independent specification: nullability, min/max occurrence,
  integer ranges and fixed-width bounds, string length / pattern / enumeration, lexical well-formedness.
-/
import Proofs.HierC02
import Proofs.HierExact
import Props.Facts08Good
import SpyneModel.Generated.Facts02
namespace SpyneModel.Props.C05hier
open SpyneModel SpyneModel.Hier SpyneModel.Generated SpyneModel.Props

theorem facts02_rt : facts02.GoodRT := ⟨by decide, by decide, by decide, by decide⟩
theorem facts02_mp : facts02.mpNameAnyKey = true := by decide

/-- soft-validating configuration of protocol `p` -/
def softCfg (p : Proto) (iw : Bool) : Cfg := ⟨p, .soft, iw, .dict, false, false, true, [], []⟩

/-- (⇐) Every request whose arguments satisfy the declared constraints is accepted under soft validation — the user
    function runs, with exactly those arguments — in every protocol of the family and both wrapper modes. -/
theorem hier_soft_accepts_conformant (p : Proto) (iw : Bool) (R : Registry)
    (name ns : Text) (base : Option Text) (fields : Fields) (o : Occ) (args : List (Text × Val))
    (hwf : wfTy (.obj name ns base fields o) = true) (hc : conformsFields fields args = true)
    (hmp : p.isMsgpack = true → fitsFields facts08 args = true)
    (hpl : plainFields .dict fields args = true) :
    decodeRequest facts08 facts02 (softCfg p iw) R (.obj name ns base fields o)
      (requestDoc (softCfg p iw) (convSpell facts08 (softCfg p iw) .dict) R (.obj name ns base fields o) (.obj name args))
      = .good (.obj name args) :=
  request_roundtrip R (convCtx leafLaws08 facts02_rt facts02_mp .dict (Or.inl rfl)) name ns base fields o
    args hwf hc (fun hm => ⟨hmp hm, fun h => by cases h⟩) hpl rfl

/-- The verdict for the same logical request is the same over JSON, YAML, MessagePack and MessagePack-RPC (and both
    wrapper modes): a conformant request is accepted by all of them with the same arguments. -/
theorem hier_verdict_protocol_independent (p q : Proto) (iw iw' : Bool) (R : Registry)
    (name ns : Text) (base : Option Text) (fields : Fields) (o : Occ) (args : List (Text × Val))
    (hwf : wfTy (.obj name ns base fields o) = true) (hc : conformsFields fields args = true)
    (hfit : fitsFields facts08 args = true) (hpl : plainFields .dict fields args = true) :
    decodeRequest facts08 facts02 (softCfg p iw) R (.obj name ns base fields o)
      (requestDoc (softCfg p iw) (convSpell facts08 (softCfg p iw) .dict) R (.obj name ns base fields o) (.obj name args))
    = decodeRequest facts08 facts02 (softCfg q iw') R (.obj name ns base fields o)
      (requestDoc (softCfg q iw') (convSpell facts08 (softCfg q iw') .dict) R (.obj name ns base fields o) (.obj name args)) := by
  rw [hier_soft_accepts_conformant p iw R name ns base fields o args hwf hc (fun _ => hfit) hpl,
    hier_soft_accepts_conformant q iw' R name ns base fields o args hwf hc (fun _ => hfit) hpl]


/-- a request without a body is a client fault -/
theorem facts02_body : facts02.missingBodyFault = true := by decide

theorem facts02_good : facts02.Good :=
  ⟨by decide, by decide, by decide, by decide, by decide, by decide, by decide, by decide, by decide, by decide,
   by decide, by decide, by decide, by decide, by decide⟩

/-- a class with `validate_freq=False` only loses the occurrence check of its own members: kinds and facets are still checked,
    also in nested objects (witness: `{"owner": 5}` for a Unicode member of such a class is a fault; two values for
    `max_occurs=1`… are accepted) -/
theorem facts02_nofreq : facts02.noFreqKeepsValidation = true := by decide

/-- non-interference: the attribute caches (incl. per-protocol attributes) are per protocol instance, so the verdict of a
    configuration is the function of (configuration, types, document) the theorems below are about — it does not depend on
    other protocol instances in the process or on the order in which they first used a type (T3: `probe_prot_attrs`) -/
theorem facts02_attr_caches : facts02.attrCachesPerInstance = true := by decide

/-- the enumeration facet treats the falsy values of a kind ('' / 0 / 0.0 / False) like any other value: only `None` passes
    for a nillable type -/
theorem facts02_values_none : facts02.valuesNullTestIsNone = true := by decide

/-- `validate_string` is applied to Unicode text that arrives as bytes as well -/
theorem facts02_bint : facts02.binTextValidated = true := by decide

/-- (⇒) Whatever document a client sends, in any protocol of the family and either wrapper mode: if soft validation
    lets it through, the decoded value satisfies EVERY declared constraint of its type — nullability, min/max
    occurrence (counted per value), integer ranges and fixed-width bounds, string length, pattern, enumeration, lexical
    well-formedness — at every nesting position. `hnf`: no class opts out of the occurrence check (`validate_freq=False`
    classes keep every kind and facet check — `hier_decode_sound` holds for them, and `facts02_nofreq` — but not min/max_occurs
    of their own members). (Types without registered subclasses: `conformsOne` demands the exact
    class; `c05Ty`: wrapped arrays are optional or nillable, see the known finding on required arrays.) -/
theorem hier_soft_accepts_only_conformant (cfg : Cfg) (hs : cfg.validator = .soft) (hnf : cfg.noFreq = [])
    (t : Ty) (hwf : wfTy t = true) (h5 : c05Ty t = true) (d : Doc) (v : Val) (l : Bool)
    (h : decode facts08 facts02 cfg [] t d = .ok v l) : l = false ∧ conformsOne t v = true :=
  (decode_ex leafLaws08 facts02_good ⟨facts02_bint, hnf⟩ d t hwf h5).of_ok h hs

/-- The same for a whole request: the user function only runs with argument tuples that conform. -/
theorem hier_soft_request_only_conformant (cfg : Cfg) (hs : cfg.validator = .soft) (hnf : cfg.noFreq = [])
    (name ns : Text) (base : Option Text) (fields : Fields) (o : Occ)
    (hwf : wfTy (.obj name ns base fields o) = true) (h5 : c05Ty (.obj name ns base fields o) = true)
    (d : Doc) (v : Val) (l : Bool)
    (h : decodeRequest facts08 facts02 cfg [] (.obj name ns base fields o) d = .ok v l) :
    l = false ∧ (conformsOne (.obj name ns base fields o) v = true ∨ v = .obj name []) :=
  (decodeRequest_ex leafLaws08 facts02_good ⟨facts02_bint, hnf⟩ facts02_body name ns base fields o hwf h5 d).of_ok h hs

/-- For a value of the declared shape, written the way the protocol writes it, soft validation
    accepts it — and hands exactly that value on — if and only if it satisfies the declared constraints.
    JSON and YAML in full; MessagePack under the side conditions of its own round trip (`fitsV`, `mpReadable`). -/
theorem hier_soft_iff_conforms (cfg : Cfg) (hs : cfg.validator = .soft) (hnf : cfg.noFreq = []) (hsc : cfg.selfConsistent = true)
    (t : Ty) (hwf : wfTy t = true) (h5 : c05Ty t = true) (v : Val) (hv : v ≠ .none)
    (hmp : cfg.proto.isMsgpack = true → fitsV facts08 v = true ∧ mpReadable t = true)
    (hpl : plain cfg.complexAs t v = true) :
    decode facts08 facts02 cfg [] t (encOne [] (ownSpell facts08 cfg) t v) = .good v ↔ conformsOne t v = true := by
  constructor
  · intro h
    exact (hier_soft_accepts_only_conformant cfg hs hnf t hwf h5 _ v false h).2
  · intro hc
    exact rt_ty [] (ownCtx leafLaws08 facts02_rt hsc) t v hv hwf hc
      (fun hm => ⟨(hmp hm).1, fun _ => (hmp hm).2⟩) (by simpa [ownSpell] using hpl)

/-- A value that violates a declared constraint is never handed to user code as it is: its own encoding is not
    accepted with that value (it is refused, or — never under the proved soundness — altered). -/
theorem hier_soft_rejects_nonconformant (cfg : Cfg) (hs : cfg.validator = .soft) (hnf : cfg.noFreq = [])
    (t : Ty) (hwf : wfTy t = true) (h5 : c05Ty t = true) (v : Val) (hnc : conformsOne t v = false) (d : Doc) (l : Bool) :
    decode facts08 facts02 cfg [] t d ≠ .ok v l := by
  intro h
  have := (hier_soft_accepts_only_conformant cfg hs hnf t hwf h5 d v l h).2
  rw [hnc] at this; cases this

/-! ### non-vacuity -/

def exTy : Ty := .obj "f".toList "tns".toList none
  [("n".toList, .prim (.integer .u8 { le := some 200 }) { nillable := false, minOccurs := 1 }),
   ("m".toList, .prim (.unicode 1 (some 3) none []) { maxOccurs := some 2 })] {}

example : wfTy exTy = true ∧ c05Ty exTy = true := by decide
-- 201 violates `le`, 3 strings violate max_occurs=2, a missing `n` violates min_occurs=1: all refused
example : (decode facts08 facts02 (softCfg .json true) [] exTy (.map [(.str "n".toList, .int 201)])).isFault = true := by decide +kernel
example : (decode facts08 facts02 (softCfg .yaml true) [] exTy
    (.map [(.str "n".toList, .int 7), (.str "m".toList, .list [.str "a".toList, .str "b".toList, .str "c".toList])])).isFault = true := by
  decide +kernel
example : (decode facts08 facts02 (softCfg .msgpack true) [] exTy (.map [(.bytes [109], .list [.str "a".toList])])).isFault = true := by
  decide +kernel
example : (decode facts08 facts02 (softCfg .json true) [] exTy
    (.map [(.str "n".toList, .int 200), (.str "m".toList, .list [.str "abc".toList])])).okClass = some "f".toList := by decide +kernel

end SpyneModel.Props.C05hier
