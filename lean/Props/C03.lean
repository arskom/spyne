/-
  C03 — HttpRpc flat key/value fidelity.
  Property theorems only; every theorem is about the model instantiated with the facts
  regenerated from /repo (`Generated.facts03`), side conditions discharged by `decide`/`simp`
  on those facts (so they are re-checked against what the code does now).

  Vocabulary (SpyneModel/FlatSpec.lean): `Members`/`SVal` a value as the documented notation
  spells it, with the writer's choice of (strictly increasing) array indexes; `docOf` its flat
  document; `expAttrs` the object graph the user function must receive; `WfSig`/`KeysOk`
  well-formed signature (distinct bracket-free names, no two members with the same flattened key);
  `WtMembers` the value fits the signature.
-/
import Proofs.FlatWalk
import Proofs.FlatOrder
import Proofs.FlatQsP
import Proofs.FlatRet
import Proofs.FlatDate
import Proofs.FlatNatural
import Proofs.FlatRound
import Proofs.FlatExamples
import Proofs.FlatDecl
import SpyneModel.Generated.Facts03
import Props.Facts08Good
namespace SpyneModel.Props.C03
open SpyneModel SpyneModel.Flat SpyneModel.Generated

/-- the leaf codecs of the current tree obey the shared leaf laws (C08) -/
theorem leafLaws03 : LeafLaws facts03.leaf := SpyneModel.Props.leafLaws08

/-! ### the documented notation reaches the user function, whatever the order of the pairs -/

/-- For every signature (nested classes, arrays of objects and of primitives, classes reused between
    members), every value spelled in the documented flattened notation with ANY strictly increasing
    (sparse or contiguous) choice of array indexes, every `hier_delim` without `[`, and ANY order of
    the keys of the flat document: `simple_dict_to_object` (idxmap branch, no validator) returns
    exactly the spelled object graph, every array in index order. -/
theorem documented_any_order (cfg : Cfg) (fields : List Fld) (ms : Members) (doc : Doc)
    (hstrict : cfg.strict = false) (hsoft : cfg.soft = false)
    (hwf : WfSig fields) (hkeys : KeysOk cfg.delim fields) (hwt : WtMembers facts03 fields ms)
    (hp : doc.Perm (docOf facts03 cfg.delim fields ms)) :
    decode facts03 cfg fields doc = .ok (.obj (expAttrs fields ms)) :=
  decode_documented facts03 leafLaws03 cfg fields ms doc hsoft (by simp [facts03]) hwf hkeys hwt
    (fun h => nomatch hstrict.symm.trans h) hp

/-- The same from the query string: any list of `name=value` pairs — percent-encoded, joined by
    `&` — whose grouping by name (what `_parse_qs` builds: names in order of first occurrence, the
    values of one name in their order) is a permutation of the documented flat document. -/
theorem documented_query_string (cfg : Cfg) (fields : List Fld) (ms : Members)
    (pairs : List (Text × Option Text))
    (hstrict : cfg.strict = false) (hsoft : cfg.soft = false)
    (hwf : WfSig fields) (hkeys : KeysOk cfg.delim fields) (hwt : WtMembers facts03 fields ms)
    (hne : ∀ p, p ∈ pairs → renderPair p ≠ [])
    (hp : (groupPairs pairs).Perm (docOf facts03 cfg.delim fields ms)) :
    decodeQs facts03 cfg fields (renderQs pairs) = .ok (.obj (expAttrs fields ms)) := by
  unfold decodeQs
  rw [parseQs_renderQs facts03 (by decide) pairs hne]
  exact documented_any_order cfg fields ms _ hstrict hsoft hwf hkeys hwt hp

/-- For EVERY flat document (documented or not), every signature and every configuration
    (strict_arrays on or off, validator None or soft): permuting the keys does not change the
    outcome — value, fault or crash — as long as no two keys are equal for the sort
    (`orderKey`: the key with its indexes read as numbers). -/
theorem pair_order_irrelevant (cfg : Cfg) (fields : List Fld) (doc doc' : Doc) (hp : doc.Perm doc')
    (hn : (doc.map (fun kv => orderKey facts03 kv.1)).Nodup) :
    decode facts03 cfg fields doc = decode facts03 cfg fields doc' :=
  decode_perm facts03 cfg fields doc doc' hp hn

/-- `strict_arrays = True`: every array numbered 0, 1, 2, … (no gap), the pairs in ANY order.
    The keys are processed in the order the current tree sorts them (`facts03.keyOrder`, natural:
    indexes compare as numbers), every index is then an existing position or the next one, and
    the user function receives exactly the spelled object. With the lexicographic order of the
    pinned tree this theorem does not type-check (`a[10]` comes before `a[2]`), see
    `lexicographic_order_rejects_twelve_elements`. -/
theorem documented_strict (cfg : Cfg) (fields : List Fld) (ms : Members) (doc : Doc)
    (hstrict : cfg.strict = true) (hsoft : cfg.soft = false)
    (hwf : WfSig fields) (hkeys : KeysOk cfg.delim fields) (hwt : WtMembers facts03 fields ms)
    (hcontig : ContigMembers ms) (hp : doc.Perm (docOf facts03 cfg.delim fields ms)) :
    decode facts03 cfg fields doc = .ok (.obj (expAttrs fields ms)) :=
  decode_documented facts03 leafLaws03 cfg fields ms doc hsoft (by simp [facts03]) hwf hkeys hwt
    (fun _ => ⟨by decide, hcontig⟩) hp

-- Where an evaluation below starts with `rw [String.toList_ofList]`, the literals `"…".toList` in sight become the lists
-- of their characters before the kernel evaluates the rest (a literal is `String.ofList` of them): left to the kernel,
-- a literal's bytes are decoded again at every comparison, at a cost quadratic in its length, and that is dearer than
-- the function under test. It is done where a literal is long, or compared
-- often enough, that decoding it costs more than the rewrite (by measurement); short literals are left to the kernel.
/-- twelve elements with strict arrays are accepted by the current tree (model, computed) -/
example : Ex.isOk (decode facts03 ⟨true, false, Ex.dot⟩ Ex.sig Ex.twelve) = true := by
  simp only [Ex.twelve, List.map]
  repeat rw [String.toList_ofList]
  decide +kernel

/-- the order `sorted(doc.items(), key=...)` uses puts the keys of a request index-first: of two
    written keys that agree up to some array, the one with the smaller index is not the larger -/
theorem key_order_sorts_indexes (delim : Text) (hd : ∀ c, c ∈ delim → c ≠ '[')
    (segs1 segs2 : List (Text × Option Nat))
    (h1 : ∀ s, s ∈ segs1 → ∀ c, c ∈ s.1 → c ≠ '[') (h2 : ∀ s, s ∈ segs2 → ∀ c, c ∈ s.1 → c ≠ '[')
    (hk : ¬ KLe segs1 segs2) :
    keyLt facts03 (renderKey delim segs2) (renderKey delim segs1) = true := by
  have := natural_lt_of_not_KLe delim hd segs1 segs2 [] h1 h2 hk
  simpa [keyLt, facts03, toks] using this

/-- witness for the lexicographic key order (D22): twelve elements with strict arrays are rejected -/
theorem lexicographic_order_rejects_twelve_elements :
    Ex.isFault (decode { facts03 with keyOrder := .lexicographic } ⟨true, false, Ex.dot⟩ Ex.sig Ex.twelve) = true := by
  simp only [Ex.twelve, List.map]
  repeat rw [String.toList_ofList]
  decide +kernel

/-! ### object -> flat dict -> object -/

/-- `object_to_simple_dict` writes the documented notation: for the object a canonical spelled
    value denotes (members in class order, arrays numbered from 0, no member-less objects; classes
    without mandatory members), the flat dict with every value as text IS the documented document. -/
theorem encode_is_documented (delim : Text) (fields : List Fld) (ms : Members)
    (hwf : WfSig fields) (hopt : OptFields fields) (hwt : WtMembers facts03 fields ms)
    (hcontig : ContigMembers ms) (hord : InOrder fields ms) :
    toDoc facts03 (encode delim fields (.obj (expAttrs fields ms))) = docOf facts03 delim fields ms :=
  toDoc_encode facts03 delim fields ms hwf hopt hwt hcontig hord

/-- … and maps back to an equal object, with strict arrays or without. -/
theorem roundtrip (cfg : Cfg) (fields : List Fld) (ms : Members) (hsoft : cfg.soft = false)
    (hwf : WfSig fields) (hkeys : KeysOk cfg.delim fields) (hopt : OptFields fields)
    (hwt : WtMembers facts03 fields ms) (hcontig : ContigMembers ms) (hord : InOrder fields ms) :
    decode facts03 cfg fields (toDoc facts03 (encode cfg.delim fields (.obj (expAttrs fields ms)))) =
      .ok (.obj (expAttrs fields ms)) := by
  rw [encode_is_documented cfg.delim fields ms hwf hopt hwt hcontig hord]
  exact decode_documented facts03 leafLaws03 cfg fields ms _ hsoft (by simp [facts03]) hwf hkeys hwt
    (fun _ => ⟨by decide, hcontig⟩) (List.Perm.refl _)

/-! ### members that go by a `sub_name` -/

/-- For every declared signature — members with or without `sub_name`, at every nesting depth, inside
    argument objects and array elements — the flat signature the member table is built for names every
    member by its OWN `sub_name` (its Python name when it has none): the keys of the documented notation
    (`order.item.qty`, `order.lines[1].qty`) are the keys the decoder knows. And a ByteArray member that
    declares its `encoding` (hex, base64, urlsafe base64) is read and written with THAT codec, the protocol's
    urlsafe base64 only serving members that declare none — so `documented_any_order_sub_names` and
    `roundtrip_sub_names` below hold for every declared encoding (`LeafLaws.roundtrip` for each codec). -/
theorem sub_names_at_every_depth (dfields : List DFld) :
    keyedFields facts03 none dfields = ownFields dfields :=
  keyedFields_own facts03 (by decide) (by decide) none dfields

/-- hence the documented notation written with the members' own sub_names reaches the user function,
    pairs in any order … -/
theorem documented_any_order_sub_names (cfg : Cfg) (dfields : List DFld) (ms : Members) (doc : Doc)
    (hstrict : cfg.strict = false) (hsoft : cfg.soft = false)
    (hwf : WfSig (ownFields dfields)) (hkeys : KeysOk cfg.delim (ownFields dfields))
    (hwt : WtMembers facts03 (ownFields dfields) ms)
    (hp : doc.Perm (docOf facts03 cfg.delim (ownFields dfields) ms)) :
    decode facts03 cfg (keyedFields facts03 none dfields) doc = .ok (.obj (expAttrs (ownFields dfields) ms)) := by
  rw [sub_names_at_every_depth]
  exact documented_any_order cfg _ ms doc hstrict hsoft hwf hkeys hwt hp

/-- … and what `object_to_simple_dict` writes for such an object maps back to an equal object. -/
theorem roundtrip_sub_names (cfg : Cfg) (dfields : List DFld) (ms : Members) (hsoft : cfg.soft = false)
    (hwf : WfSig (ownFields dfields)) (hkeys : KeysOk cfg.delim (ownFields dfields))
    (hopt : OptFields (ownFields dfields))
    (hwt : WtMembers facts03 (ownFields dfields) ms) (hcontig : ContigMembers ms)
    (hord : InOrder (ownFields dfields) ms) :
    decode facts03 cfg (keyedFields facts03 none dfields)
        (toDoc facts03 (encode cfg.delim (ownFields dfields) (.obj (expAttrs (ownFields dfields) ms)))) =
      .ok (.obj (expAttrs (ownFields dfields) ms)) := by
  rw [sub_names_at_every_depth]
  exact roundtrip cfg _ ms hsoft hwf hkeys hopt hwt hcontig hord

example : keyedFields facts03 none
    [("order".toList, {}, Ex.occ1, .obj 1 [("quantity".toList, { sub := some "qty".toList }, Ex.occ1, .prim Ex.pInt)])] =
    [("order".toList, Ex.occ1, .obj 1 [("qty".toList, Ex.occ1, .prim Ex.pInt)])] := by
  simp [keyedFields, keyedTy, keyName, facts03, effPrim, Ex.pInt]

/-- the declared signature as the decoder is run on it, and the instance as the user function sees it: a
    member no key assigned shows its `default`, a `read_only` member is never assigned -/
def decodeDecl (cfg : Cfg) (dfields : List DFld) (doc : Doc) : Outcome Node :=
  omap (finishNode (.obj 0 dfields)) (decode facts03 cfg (keyedFields facts03 none dfields) doc)

/-- the documented request over a signature with sub_names, defaults and read-only members, pairs in any
    order: exactly the spelled object graph, defaults filled in where the request says nothing -/
theorem documented_defaults_and_read_only (cfg : Cfg) (dfields : List DFld) (ms : Members) (doc : Doc)
    (hstrict : cfg.strict = false) (hsoft : cfg.soft = false)
    (hwf : WfSig (ownFields dfields)) (hkeys : KeysOk cfg.delim (ownFields dfields))
    (hwt : WtMembers facts03 (ownFields dfields) ms)
    (hp : doc.Perm (docOf facts03 cfg.delim (ownFields dfields) ms)) :
    decodeDecl cfg dfields doc =
      .ok (finishNode (.obj 0 dfields) (.obj (expAttrs (ownFields dfields) ms))) := by
  unfold decodeDecl
  rw [documented_any_order_sub_names cfg dfields ms doc hstrict hsoft hwf hkeys hwt hp]
  rfl

example : finishNode (.obj 0 [("a".toList, { dflt := some (.int 5) }, Ex.occ1, .prim Ex.pInt),
      ("c".toList, { readOnly := true }, Ex.occ1, .prim Ex.pInt), ("d".toList, {}, Ex.occ1, .prim Ex.pInt)])
    (.obj [("a".toList, .none), ("c".toList, .leaf (.int 9)), ("d".toList, .leaf (.int 2))]) =
    .obj [("a".toList, .leaf (.int 5)), ("c".toList, .none), ("d".toList, .leaf (.int 2))] := by
  simp [finishNode, finishAttrs, dfltNode]

/-! ### the in-header: HTTP request headers as a flat document -/

/-- The request headers `HTTP_<NAME>` (names distinct up to case) reach the declared in-header class as the
    flat document `<name in lower case> -> [value]`: when that is the documented notation of a header object
    (in any order — a WSGI environment is a dict), `ctx.in_header` is exactly that object. -/
theorem in_header_delivered (cfg : Cfg) (hfields : List Fld) (ms : Members) (ps : List (Text × Text))
    (hstrict : cfg.strict = false) (hsoft : cfg.soft = false)
    (hn : (ps.map (fun p => p.1.map asciiLower)).Nodup)
    (hwf : WfSig hfields) (hkeys : KeysOk cfg.delim hfields) (hwt : WtMembers facts03 hfields ms)
    (hp : (ps.map fun p => (p.1.map asciiLower, [some p.2])).Perm (docOf facts03 cfg.delim hfields ms)) :
    decode facts03 cfg hfields (httpHeaders (ps.map fun p => ("HTTP_".toList ++ p.1, p.2))) =
      .ok (.obj (expAttrs hfields ms)) := by
  rw [httpHeaders_pairs ps hn]
  exact documented_any_order cfg hfields ms _ hstrict hsoft hwf hkeys hwt hp

/-- `ByteArray(encoding='hex')`: `?k=deadbeef` are the four bytes de ad be ef, not the urlsafe-base64 reading -/
example : (match decode facts03 ⟨false, false, Ex.dot⟩
      (keyedFields facts03 none [("k".toList, { encDeclared := true }, Ex.occ1, .prim (.bytes .hex))])
      [("k".toList, [some "deadbeef".toList])] with
    | .ok (.obj [(_, .leaf (.bytes bs))]) => bs
    | _ => []) = [222, 173, 190, 239] := by decide +kernel

/-! ### shared instances -/

/-- Flattening ignores sharing: a value in which the very same instance sits at several places (two members,
    twice in a list, at any depth) — given with the identity of every object, no reference back to the root —
    is written exactly as its tree: every occurrence with all its keys. (`tags` of `object_to_simple_dict`
    guards the root only; a set of all visited instances would drop the second occurrence: T1 `encGuard`.) -/
theorem flattening_ignores_sharing (delim : Text) (fields : List Fld) (id : Nat) (attrs : List (Text × LNode))
    (h : id ∉ idsAttrsL attrs) :
    encodeShared facts03 delim fields (.obj id attrs) = encode delim fields (stripL (.obj id attrs)) :=
  encodeShared_tree facts03 (by decide) delim fields id attrs h

/-- … so the round trip of `roundtrip` holds for values with shared instances as well -/
theorem roundtrip_shared (cfg : Cfg) (fields : List Fld) (ms : Members) (id : Nat) (attrs : List (Text × LNode))
    (hsoft : cfg.soft = false) (hid : id ∉ idsAttrsL attrs)
    (hval : stripL (.obj id attrs) = .obj (expAttrs fields ms))
    (hwf : WfSig fields) (hkeys : KeysOk cfg.delim fields) (hopt : OptFields fields)
    (hwt : WtMembers facts03 fields ms) (hcontig : ContigMembers ms) (hord : InOrder fields ms) :
    decode facts03 cfg fields (toDoc facts03 (encodeShared facts03 cfg.delim fields (.obj id attrs))) =
      .ok (.obj (expAttrs fields ms)) := by
  rw [flattening_ignores_sharing cfg.delim fields id attrs hid, hval]
  exact roundtrip cfg fields ms hsoft hwf hkeys hopt hwt hcontig hord

/-! ### before the protocol: the transport's WSDL shortcut -/

/-- A GET is answered with the WSDL instead of a method call only when the query string IS a request
    for it: it starts with `wsdl` (any case) and that is the whole query, or `=` follows (`?wsdl`, `?WSDL=…`).
    A value or key that merely ends in / contains `wsdl`, in whatever position, never hides the call. -/
theorem wsdl_only_when_asked (qs : Text) (h : isWsdl facts03 qs = true) :
    ∃ w rest, qs = w ++ rest ∧ w.map asciiLower = "wsdl".toList ∧ (rest = [] ∨ ∃ r, rest = '=' :: r) :=
  isWsdl_firstName facts03 (by decide) qs h

/-- `pair_order_irrelevant`, from the transport on: two query strings, neither a request for the WSDL,
    whose parsed documents are permutations of each other (no two keys equal for the sort) have the same
    outcome — for EVERY such text, configuration and signature. -/
theorem pair_order_irrelevant_http (cfg : Cfg) (fields : List Fld) (qs qs' : Text)
    (h1 : isWsdl facts03 qs = false) (h2 : isWsdl facts03 qs' = false)
    (hp : (parseQs facts03 qs).Perm (parseQs facts03 qs'))
    (hn : ((parseQs facts03 qs).map (fun kv => orderKey facts03 kv.1)).Nodup) :
    httpGet facts03 cfg fields qs = httpGet facts03 cfg fields qs' := by
  simp only [httpGet, h1, h2, Bool.false_eq_true, if_false, decodeQs]
  rw [pair_order_irrelevant cfg fields _ _ hp hn]

example : isWsdl facts03 "doc.kind=soap&n=1&doc.name=stock.wsdl".toList = false ∧
    isWsdl facts03 "a=WSDL".toList = false ∧ isWsdl facts03 "n=1&wsdl".toList = false ∧
    isWsdl facts03 "wsdl&n=1".toList = false ∧ isWsdl facts03 "xwsdl=1".toList = false ∧
    isWsdl facts03 "WsDl".toList = true ∧ isWsdl facts03 "wsdl=&n=1".toList = true := by
  repeat rw [String.toList_ofList]
  decide +kernel

/-! ### result hand-over: body styles and declared text encodings -/

/-- whatever `_body_style` the method declares (wrapped, bare, out_bare), the single primitive result is what HttpRpc
    serializes: `return_exact` holds for all three -/
theorem return_any_body_style (bs : BodyStyle) (ret : RetVal) : resultOf facts03 bs ret = .ok ret := by
  cases bs <;> simp [resultOf, facts03]

/-- a return type that declares its text encoding is sent in THAT encoding (`e`: its codec, any), exactly the text of the
    value; a type that declares none is sent as UTF-8 (`return_exact`) -/
theorem return_declared_encoding (e : Text → List Nat) (p : PK) (v : Leaf) (text : Text)
    (ht : leafText facts03 p v = some text) :
    retBodyEnc facts03 (some e) (.leaf p v) = e text ∧ retBodyEnc facts03 none (.leaf p v) = utf8Enc text := by
  have hF : facts03.retEncDeclaredWins = true := by decide
  simp only [retBodyEnc, ht, hF, if_true, and_self]

/-! ### the mechanisms the notation rests on -/

/-- `_s2cmi` + `list.insert`: elements with pairwise distinct sparse indexes, arriving in any
    order, end up in increasing index order; the idxmap sends every index to its rank. -/
theorem s2cmi_index_order {α : Type} (ixs : List (Nat × α)) (hnd : (ixs.map Prod.fst).Nodup)
    (js : List Nat) (hs : StrictInc js) (hp : (ixs.map Prod.fst).Perm js) (d : α) :
    (insertAll ixs ([], [])).2 = js.map (fun j => (ixs.lookup j).getD d) ∧
    ∀ j, j ∈ js → mapGet (insertAll ixs ([], [])).1 j = some (rank js j) :=
  s2cmi_rank ixs hnd js hs hp d

/-- `RE_HTTP_ARRAY_INDEX` on a written key `a.b[3].c`: removing the indexes gives the key of the
    member table, finding them gives the indexes in order — for any delimiter and names without `[`. -/
theorem key_indexes (delim : Text) (segs : List (Text × Option Nat))
    (hd : ∀ c, c ∈ delim → c ≠ '[') (hs : ∀ s, s ∈ segs → ∀ c, c ∈ s.1 → c ≠ '[') :
    stripIdx (renderKey delim segs) = joinKey delim (segs.map Prod.fst) ∧
    findIdx (renderKey delim segs) = segs.filterMap Prod.snd :=
  ⟨stripIdx_renderKey delim segs hd hs, findIdx_renderKey delim segs hd hs⟩

/-- percent coding is lossless for every text (any Unicode scalar values) -/
theorem percent_coding_lossless (s : Text) : unquote (quote s) = s := unquote_quote s

/-- `_parse_qs` reads a written list of pairs back as those pairs: names in order of first
    occurrence, the values of a repeated name in their order, a name without `=` as None -/
theorem parse_qs_of_written (pairs : List (Text × Option Text)) (hne : ∀ p, p ∈ pairs → renderPair p ≠ []) :
    parseQs facts03 (renderQs pairs) = groupPairs pairs :=
  parseQs_renderQs facts03 (by decide) pairs hne

/-- the text of a primitive is read back as the value (integers within the length guard of the tree) -/
theorem leaf_text_exact (p : PK) (v : Leaf) (h : LeafOk facts03 p v) (soft nillable : Bool) :
    ∃ s, leafText facts03 p v = some s ∧ nativeOf facts03 soft nillable p (some s) = .ok v :=
  leafFrom_leafText facts03 leafLaws03 p v h soft nillable

/-! ### validator = soft -/

/-- soft validation only ever rejects: what it accepts is what the unvalidated decoder returns -/
theorem soft_only_rejects (strict : Bool) (delim : Text) (fields : List Fld) (doc : Doc) (v : Node)
    (h : decode facts03 ⟨strict, true, delim⟩ fields doc = .ok v) :
    decode facts03 ⟨strict, false, delim⟩ fields doc = .ok v :=
  decode_soft_ok facts03 strict delim fields doc v h

/-- With `validator='soft'`, whenever a documented request is accepted (pairs in any order; with strict
    arrays, arrays numbered 0, 1, 2, …), the user function receives exactly the spelled object: soft
    validation cannot change the value. The statement ASSUMES acceptance (`hacc`) and asks nothing of
    `min_occurs`/`max_occurs`. That a request whose value respects them (`FreqConf`) IS accepted — the
    frequency table (`freqOk`) never rejects a conformant documented request — is the general theorem
    `Flat.decode_documented_soft` (Proofs/FlatWalk.lean: both array modes, any facts whose frequency labels
    are member names); for the current tree with `strict_arrays = False` it is stated as
    `C05flat.flat_soft_accepts_conformant_partial`. -/
theorem documented_soft_partial (cfg : Cfg) (fields : List Fld) (ms : Members) (doc : Doc) (v : Node)
    (hsoft : cfg.soft = true)
    (hwf : WfSig fields) (hkeys : KeysOk cfg.delim fields) (hwt : WtMembers facts03 fields ms)
    (hcontig : cfg.strict = true → ContigMembers ms)
    (hp : doc.Perm (docOf facts03 cfg.delim fields ms))
    (hacc : decode facts03 cfg fields doc = .ok v) : v = .obj (expAttrs fields ms) := by
  obtain ⟨strict, soft, delim⟩ := cfg
  simp only at hsoft hcontig hkeys hp
  subst hsoft
  have h0 := soft_only_rejects strict delim fields doc v hacc
  rw [decode_documented facts03 leafLaws03 ⟨strict, false, delim⟩ fields ms doc rfl (by simp [facts03]) hwf hkeys hwt
    (fun h => ⟨by decide, hcontig h⟩) hp] at h0
  exact (Outcome.ok.inj h0).symm

/-- two arguments of the same class are counted separately by the frequency table of soft
    validation (`facts03.freqScope`) and both get their members (`facts03.tagScope`):
    `f(a: Inner, b: Inner)`, `a.x=1&b.x=2`, validator soft, is accepted with both values -/
theorem same_class_arguments_soft :
    Ex.isOk (decode facts03 ⟨false, true, Ex.dot⟩ Ex.sigAB Ex.docAB) = true ∧
    Ex.isOk (decode facts03 ⟨true, true, Ex.dot⟩ Ex.sigAB Ex.docAB) = true := by
  decide +kernel

/-! ### a single primitive return value -/

/-- the body is exactly the UTF-8 of the value's text (which reads back as the value), the
    response starts with Content-Type and ends with the truthful Content-Length, and every declared
    out-header member that is set is sent under its name with its exact text -/
theorem return_exact (mime : Text) (hdrFields : List Fld) (hp : PrimHeader hdrFields) (attrs : Attrs)
    (p : PK) (v : Leaf) (text : Text) (ht : leafText facts03 p v = some text) :
    (response facts03 mime hdrFields (.obj attrs) (.leaf p v)).2 = utf8Enc text ∧
    utf8Dec (response facts03 mime hdrFields (.obj attrs) (.leaf p v)).2 = text ∧
    (response facts03 mime hdrFields (.obj attrs) (.leaf p v)).1.head? = some ("Content-Type".toList, mime) ∧
    (response facts03 mime hdrFields (.obj attrs) (.leaf p v)).1.getLast? =
      some ("Content-Length".toList, natText (utf8Enc text).length) ∧
    ∀ n (occ : Flat.Occ) hp' hv htext, (n, occ, Flat.Ty.prim hp') ∈ hdrFields → getAttr attrs n = .leaf hv →
      hdrText facts03 hp' hv = some htext →
      (n, htext) ∈ (response facts03 mime hdrFields (.obj attrs) (.leaf p v)).1 := by
  have hb := response_body facts03 mime hdrFields (.obj attrs) p v text ht
  have hf := response_frame facts03 mime hdrFields (.obj attrs) (.leaf p v)
  refine ⟨hb.1, hb.2, hf.1, ?_, ?_⟩
  · rw [hf.2, hb.1]
  · intro n occ hp' hv htext hmem hget htx
    exact response_header facts03 mime hdrFields hp attrs (.leaf p v) n occ hp' hmem hv htext hget htx

/-- A declared out-header member of type DateTime (`__out_header__`, e.g. `Expires`) is sent as an
    RFC 1123 date in GMT that denotes the SAME INSTANT as the value that was set: an aware value
    of any UTC offset is converted (not relabelled), a naive value is taken as GMT. Other declared
    members (Integer, Unicode, Boolean) carry their exact text (`return_exact`). -/
theorem out_header_datetime_same_instant (mime : Text) (hdrFields : List Fld) (hp : PrimHeader hdrFields)
    (attrs : Attrs) (ret : RetVal) (n : Text) (occ : Flat.Occ) (x : DateTime)
    (hf : (n, occ, Flat.Ty.prim .dateTime) ∈ hdrFields) (hv : getAttr attrs n = .leaf (.dt x))
    (hx : x.valid = true) (hfirst : ¬ (x.date.y = 1 ∧ x.date.m = 1 ∧ x.date.d = 1)) :
    (n, rfc1123 (toUtc x)) ∈ (response facts03 mime hdrFields (.obj attrs) ret).1 ∧
    (toUtc x).tz = some 0 ∧ instantSec (toUtc x) = instantSec x ∧
    (toUtc x).time.h < 24 ∧ (toUtc x).time.mi < 60 ∧ (toUtc x).time.s = x.time.s := by
  have h := toUtc_instant x hx hfirst
  exact ⟨response_header facts03 mime hdrFields hp attrs ret n occ .dateTime hf (.dt x) _ hv rfl, h.2.1, h.1, h.2.2⟩

/-- raw bytes (ByteArray) are sent as they are -/
theorem return_bytes_exact (mime : Text) (hdrFields : List Fld) (hdr : Node) (chunks : List (List Nat)) :
    (response facts03 mime hdrFields hdr (.bytes chunks)).2 = chunks.flatMap id := rfl

/-! ### non-vacuity: the hypotheses are met by a concrete request
    `f(p: Array(C), q: Boolean)`, `class C: i = Integer; s = Unicode`,
    `q=true&p[10].i=5&p[2].s=x&p[2].i=7` -/

example : WfSig Ex.sig ∧ KeysOk Ex.dot Ex.sig ∧ OptFields Ex.sig := ⟨Ex.sig_wf, Ex.sig_keys, Ex.sig_opt⟩
example : WtMembers facts03 Ex.sig Ex.sparse := Ex.sparse_wt
example : WtMembers facts03 Ex.sig Ex.contig ∧ ContigMembers Ex.contig ∧ InOrder Ex.sig Ex.contig :=
  ⟨Ex.contig_wt, Ex.contig_contig, Ex.contig_inorder⟩

/-- the pairs in another order than the documented request lists them -/
example : ([("q".toList, [some "true".toList]), ("p[10].i".toList, [some "5".toList]),
            ("p[2].s".toList, [some "x".toList]), ("p[2].i".toList, [some "7".toList])] : Doc).Perm
    (docOf facts03 Ex.dot Ex.sig Ex.sparse) := Ex.sparse_shuffled

example : decode facts03 ⟨false, false, Ex.dot⟩ Ex.sig
    [("q".toList, [some "true".toList]), ("p[10].i".toList, [some "5".toList]),
     ("p[2].s".toList, [some "x".toList]), ("p[2].i".toList, [some "7".toList])]
    = .ok (.obj (expAttrs Ex.sig Ex.sparse)) :=
  documented_any_order ⟨false, false, Ex.dot⟩ Ex.sig Ex.sparse _ rfl rfl Ex.sig_wf Ex.sig_keys Ex.sparse_wt
    Ex.sparse_shuffled

example : (insertAll [(7, 'c'), (0, 'a'), (3, 'b')] ([], [])).2 = ['a', 'b', 'c'] := by decide
example : unquote (quote "a&b=c é✓".toList) = "a&b=c é✓".toList := percent_coding_lossless _
example : parseQs facts03 "p=1&q=2;p=%33+".toList =
    [("p".toList, [some "1".toList, some "3 ".toList]), ("q".toList, [some "2".toList])] := by
  repeat rw [String.toList_ofList]
  decide +kernel

/-- 01:30 at UTC+03:00 on 1 January is 22:30 GMT on 31 December -/
example : httpDate ⟨⟨2013, 1, 1⟩, ⟨1, 30, 0, 0⟩, some 180⟩ = "Mon, 31 Dec 2012 22:30:00 GMT".toList := by
  repeat rw [String.toList_ofList]
  decide +kernel
example : httpDate ⟨⟨2013, 1, 1⟩, ⟨0, 0, 0, 0⟩, none⟩ = "Tue, 01 Jan 2013 00:00:00 GMT".toList := by
  repeat rw [String.toList_ofList]
  decide +kernel

end SpyneModel.Props.C03
