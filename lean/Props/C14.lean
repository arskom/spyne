/-
  C14 — event hooks fire in documented order, exactly once, on success and failure.
  Property theorems only.  The pipeline theorems are about the model instantiated with the facts
  regenerated from /repo (`Generated.facts14`: the event sequence of every anchored function, measured);
  their side condition is the whole finite table (`trace_spec_table`: the measured facts are uniform, so the table
  follows from its plain rows, which the kernel evaluates).
  The listener algebra and the lifting to worlds are proved for all registration sequences.
-/
import Proofs.Events
import Proofs.EventsAutomaton
import Proofs.EventsViews
import Proofs.EventsReentrant
import Proofs.EventsTable
import SpyneModel.Generated.Facts14
namespace SpyneModel.Props.C14
open SpyneModel.Events SpyneModel.Generated

/-! ### listeners: registration order, exactly once, inheritance (every event name, every history) -/

/-- the listeners that run for an event are the first occurrences of the registrations for it, in order -/
theorem listeners_in_order_once {ν : Type} [DecidableEq ν] (regs : List (ν × H)) (e : ν) :
    (Mgr.build regs).fire e = firstOcc (regsFor regs e) :=
  build_get regs e

/-- a listener registered twice (or more) runs once -/
theorem listener_registered_twice_runs_once {ν : Type} [DecidableEq ν] (regs : List (ν × H)) (e : ν) (h : H) :
    ((Mgr.build regs).fire e).count h = if h ∈ regsFor regs e then 1 else 0 := by
  rw [listeners_in_order_once, (firstOcc_nodup _).count]
  simp only [mem_firstOcc]

/-- listeners run in registration order: what runs is a subsequence of what was registered, with
    exactly the same members -/
theorem listeners_run_in_registration_order {ν : Type} [DecidableEq ν] (regs : List (ν × H)) (e : ν) :
    ((Mgr.build regs).fire e).Sublist (regsFor regs e) ∧
    ∀ h, h ∈ (Mgr.build regs).fire e ↔ h ∈ regsFor regs e := by
  rw [listeners_in_order_once]
  exact ⟨firstOccFrom_sublist _ _, mem_firstOcc _⟩

/-- registering more listeners later never removes or reorders the earlier ones -/
theorem later_registrations_keep_order {ν : Type} [DecidableEq ν] (regs more : List (ν × H)) (e : ν) :
    (Mgr.build regs).fire e <+: (Mgr.build (regs ++ more)).fire e := by
  simp only [listeners_in_order_once, regsFor, List.filter_append, List.map_append]
  exact firstOcc_prefix_append _ _

/-- a service class starts with the listeners of all its bases: each of them, once, bases in order -/
theorem subclass_inherits {ν : Type} (bases : List (Mgr ν)) (e : ν) :
    (Mgr.inherit bases).fire e = firstOcc (bases.flatMap (fun b => b.fire e)) ∧
    ((Mgr.inherit bases).fire e).Nodup ∧
    ∀ b ∈ bases, ∀ h ∈ b.fire e, h ∈ (Mgr.inherit bases).fire e := by
  have h1 : (Mgr.inherit bases).fire e = firstOcc (bases.flatMap (fun b => b.fire e)) := inherit_get bases e
  refine ⟨h1, h1 ▸ firstOcc_nodup _, fun b hb h hh => ?_⟩
  rw [h1, mem_firstOcc]
  exact List.mem_flatMap.2 ⟨b, hb, hh⟩

/-- the subclass's own listeners run after the inherited ones -/
theorem subclass_own_listeners_after_inherited {ν : Type} [DecidableEq ν] (bases : List (Mgr ν))
    (regs : List (ν × H)) (e : ν) :
    ((Mgr.inherit bases).addAll regs).fire e = firstOcc (bases.flatMap (fun b => b.fire e) ++ regsFor regs e) ∧
    (Mgr.inherit bases).fire e <+: ((Mgr.inherit bases).addAll regs).fire e := by
  have h1 : (Mgr.inherit bases).fire e = firstOcc (bases.flatMap (fun b => b.fire e)) := inherit_get bases e
  have h2 : ((Mgr.inherit bases).addAll regs).fire e
      = osetAddAll ((Mgr.inherit bases).fire e) (regsFor regs e) := addAll_get _ _ _
  rw [h2, osetAddAll_eq, h1]
  exact ⟨(firstOccFrom_append [] _ _).symm, _, rfl⟩

/-! ### histories with removals (`del_listener` / `oset.discard`), every event name, every history -/

/-- after ANY history of add_listener / del_listener(event, handler) / del_listener(event) calls, what fires
    is the first occurrences of the net registrations, each once, and exactly the listeners with a net
    registration -/
theorem history_fires_net_registrations {ν : Type} [DecidableEq ν] (ops : List (Op ν)) (e : ν) :
    (Mgr.empty.applyAll ops).fire e = firstOcc (netRegs e [] ops) ∧
    ((Mgr.empty.applyAll ops).fire e).Nodup ∧
    ∀ h, h ∈ (Mgr.empty.applyAll ops).fire e ↔ h ∈ netRegs e [] ops := by
  have h1 : (Mgr.empty.applyAll ops).fire e = firstOcc (netRegs e [] ops) :=
    applyAll_get Mgr.empty ops e [] rfl
  exact ⟨h1, h1 ▸ firstOcc_nodup _, fun h => h1 ▸ mem_firstOcc _ h⟩

/-- histories that interleave firings with add / del / clear: every firing calls exactly the first
    occurrences of the net registrations made before it (so a listener added after an event has already
    fired runs from the next firing on, and a removed one no longer does) -/
theorem every_firing_sees_current_registrations {ν : Type} [DecidableEq ν] (ops : List (Op ν)) :
    Mgr.empty.runHistory ops = specFires [] ops :=
  runHistory_spec [] ops

/-- the same for a service class: the history starts from the listeners inherited at class creation -/
theorem history_after_inheritance {ν : Type} [DecidableEq ν] (bases : List (Mgr ν)) (ops : List (Op ν)) (e : ν) :
    ((Mgr.inherit bases).applyAll ops).fire e
      = firstOcc (netRegs e (bases.flatMap (fun b => b.fire e)) ops) ∧
    (((Mgr.inherit bases).applyAll ops).fire e).Nodup := by
  have h1 : ((Mgr.inherit bases).applyAll ops).fire e = _ :=
    applyAll_get (Mgr.inherit bases) ops e (bases.flatMap (fun b => b.fire e)) (inherit_get bases e)
  exact ⟨h1, h1 ▸ firstOcc_nodup _⟩

/-- removing a listener that is not registered changes nothing (Python raises KeyError), and a removal
    never touches another event -/
theorem removal_of_absent_is_noop {ν : Type} [DecidableEq ν] (m : Mgr ν) (e : ν) (h : H) :
    (h ∉ m.fire e → (m.delListener e h).fire e = m.fire e ∧ m.delRaises e h = true) ∧
    ∀ e', e' ≠ e → (m.delListener e h).fire e' = m.fire e' := by
  refine ⟨fun hn => ⟨?_, by simpa [Mgr.delRaises, Mgr.fire] using hn⟩, fun e' he => by simp [Mgr.fire, Mgr.delListener, he]⟩
  simp only [Mgr.fire, Mgr.delListener, osetDiscard, if_true]
  apply List.filter_eq_self.2
  intro a ha
  have : a ≠ h := fun c => hn (c ▸ ha)
  simp [this]

/-- a removed listener no longer fires; all the others still do, in the same relative order -/
theorem removed_listener_does_not_fire {ν : Type} [DecidableEq ν] (m : Mgr ν) (e : ν) (h : H) :
    h ∉ (m.delListener e h).fire e ∧ ((m.delListener e h).fire e).Sublist (m.fire e) ∧
    ∀ x, x ≠ h → (x ∈ (m.delListener e h).fire e ↔ x ∈ m.fire e) := by
  simp only [Mgr.fire, Mgr.delListener, osetDiscard, if_true]
  refine ⟨by simp, List.filter_sublist, fun x hx => by simp [hx]⟩

/-- registering a listener again after its removal puts it at the end -/
theorem readd_after_removal_appends_at_end {ν : Type} [DecidableEq ν] (m : Mgr ν) (e : ν) (h : H) :
    ((m.delListener e h).addListener e h).fire e = (m.fire e).filter (fun x => x != h) ++ [h] := by
  simp [Mgr.fire, Mgr.addListener, Mgr.delListener, osetDiscard, osetAdd]

/-! ### listeners that register / unregister listeners of the event while it fires -/

/-- Whatever the listeners add to or remove from the handler set during a firing (each at its first call): a
    listener that was registered before the firing and that nobody removes during it is called exactly once. -/
theorem reentrant_listener_called_once (prog : H → List ROp) (fuel : Nat) (s : List H) (h : H) (hs : s.Nodup)
    (hh : h ∈ s) (hnd : ∀ k, ROp.del h ∉ prog k) (hterm : (fireReentrant prog fuel s).next = none) :
    (fireReentrant prog fuel s).calls.count h = 1 :=
  reentrant_called_once prog fuel s h hs hh hnd hterm

/-- the walk of the model and the real EventManager agree on the witness scenarios that pin the semantics
    down (measured on /repo on every run) -/
theorem reentrant_semantics_measured :
    facts14.reentrantCalls = reentrantScenarios.map (fun sc => (fireReentrant (progOf sc.2) 50 sc.1).calls) := by
  decide

/-- one firing calls the reached listeners in order — application's manager, then the managers given to
    @rpc, then the service class's — and stops after the first one that raises; if none raises it calls
    every one of them -/
theorem fire_calls_in_order_until_raise (w : World) (src : Src) (ev : Event) :
    (∃ pre, pre <+: targets w src ev ∧ expand w (.fire src ev) = pre.map (mkObs ev)) ∧
    ((∀ p ∈ targets w src ev, w.raises p.2 ev = none) →
      expand w (.fire src ev) = (targets w src ev).map (mkObs ev)) :=
  ⟨⟨_, called_prefix w src ev, expand_fire w src ev⟩, fun hq => by rw [expand_fire, called_quiet w src ev hq]⟩

/-- firing raises exactly what the first raising listener among the reached ones raises -/
theorem fire_outcome_first_raiser (w : World) (ev : Event) (ts : List (Level × H)) :
    (runHandlers w.raises ev ts).2 =
      (ts.find? (fun p => (w.raises p.2 ev).isSome)).bind (fun p => w.raises p.2 ev) :=
  runHandlers_outcome w.raises ev ts

/-! ### the automaton is sound for the sentences of the property (EVERY trace) -/

theorem automaton_sound (t : List Sym) (u r f : Bool) (h : final t = .done u r f) :
    clauses t u r f = true := by
  have hm := accepted_mem t (by rw [h]; rfl)
  have := List.all_eq_true.1 lang_clauses _ hm
  simp only [h] at this
  exact this

/-! ### the pipeline: all output protocols × transports × injected failures × listener outcomes -/

/-- the whole table on the facts measured on /repo: they are uniform (`Facts14.Uniform`), so the table follows from its
    96 plain rows, which the kernel evaluates -/
theorem trace_spec_table : allRows.all (rowOk facts14) = true :=
  table_of_uniform facts14
    ⟨by decide, by decide, by decide, by decide, by decide, by decide, by decide, by decide, by decide, by decide⟩
    (by decide +kernel)

/-- Application.process_request fires the same events whatever the method declares to return: nothing,
    one value, several values, a bare output message -/
theorem proc_events_same_for_every_signature (sg : Sig) (pc : ProcCase) :
    facts14.proc sg pc = facts14.proc .single pc := by
  cases sg <;> cases pc <;> (try rename_i k; cases k) <;> rfl

/-- a call leaves the transport with an exception exactly when the return value cannot be serialised
    and the transport is the bare ServerBase call sequence; the WSGI transport never lets one escape -/
theorem escapes_exactly (c : Cfg) (inj : Inj) (co ro : Option ExcKind) :
    (run facts14 c inj co ro).escaped = ((truth inj co ro).serFail && c.transport == .serverBase) :=
  (run_row facts14 trace_spec_table proc_events_same_for_every_signature c inj co ro).1

theorem wsgi_never_escapes (o : OutProto) (sh : Shape) (sg : Sig) (pd : Bool) (inj : Inj) (co ro : Option ExcKind) :
    (run facts14 ⟨o, .wsgi, sh, sg, pd⟩ inj co ro).escaped = false := by
  rw [escapes_exactly]; simp

/-- the trace is accepted, in the state that records what really happened -/
theorem trace_spec (c : Cfg) (inj : Inj) (co ro : Option ExcKind)
    (h : (run facts14 c inj co ro).escaped = false) :
    final (methodView (run facts14 c inj co ro).steps)
      = .done (truth inj co ro).userRan (truth inj co ro).returned (truth inj co ro).faulted :=
  ((run_row facts14 trace_spec_table proc_events_same_for_every_signature c inj co ro).2.2 h).1

/-- method_context_created first, method_context_closed last, each exactly once -/
theorem created_first_closed_last_once (c : Cfg) (inj : Inj) (co ro : Option ExcKind)
    (h : (run facts14 c inj co ro).escaped = false) :
    (methodView (run facts14 c inj co ro).steps).head? = some (.ev .created) ∧
    (methodView (run facts14 c inj co ro).steps).getLast? = some (.ev .closed) ∧
    (methodView (run facts14 c inj co ro).steps).count (.ev .created) = 1 ∧
    (methodView (run facts14 c inj co ro).steps).count (.ev .closed) = 1 := by
  have := automaton_sound _ _ _ _ (trace_spec c inj co ro h)
  simp only [clauses, clCreatedClosed, Bool.and_eq_true, beq_iff_eq] at this
  exact ⟨this.1.1.1.1.1.1.1, this.1.1.1.1.1.1.2, this.1.1.1.1.1.2, this.1.1.1.1.2⟩

/-- the user function runs at most once, only after method_call, and exactly when nothing failed before it -/
theorem user_function_at_most_once_after_method_call (c : Cfg) (inj : Inj) (co ro : Option ExcKind)
    (h : (run facts14 c inj co ro).escaped = false) :
    (methodView (run facts14 c inj co ro).steps).count .user ≤ 1 ∧
    onlyAfter (.ev .call) .user (methodView (run facts14 c inj co ro).steps) = true ∧
    ((methodView (run facts14 c inj co ro).steps).contains .user = (truth inj co ro).userRan) := by
  have := automaton_sound _ _ _ _ (trace_spec c inj co ro h)
  simp only [clauses, clUser, Bool.and_eq_true, beq_iff_eq, decide_eq_true_eq] at this
  exact ⟨this.1.1.1.2.1.1.1, this.1.1.1.2.1.1.2, this.1.1.1.2.1.2⟩

/-- method_return_object fires exactly when the function returned normally (once, after the function) -/
theorem return_object_iff_returned_normally (c : Cfg) (inj : Inj) (co ro : Option ExcKind)
    (h : (run facts14 c inj co ro).escaped = false) :
    ((methodView (run facts14 c inj co ro).steps).contains (.ev .returnObject) = (truth inj co ro).returned) ∧
    (methodView (run facts14 c inj co ro).steps).count (.ev .returnObject) ≤ 1 ∧
    onlyAfter .user (.ev .returnObject) (methodView (run facts14 c inj co ro).steps) = true := by
  have := automaton_sound _ _ _ _ (trace_spec c inj co ro h)
  simp only [clauses, clReturnObject, Bool.and_eq_true, beq_iff_eq, decide_eq_true_eq] at this
  exact ⟨this.1.1.2.1.1, this.1.1.2.1.2, this.1.1.2.2⟩

/-- method_exception_object fires exactly when the call ends in a fault — whichever stage failed, with a
    Fault or with any other exception — and at most once.  (One documented variant: when the function raises
    a Redirect whose do_redirect() itself raises, the fault is announced by method_redirect_exception
    instead; never both.) -/
theorem exception_object_iff_fault (c : Cfg) (inj : Inj) (co ro : Option ExcKind)
    (h : (run facts14 c inj co ro).escaped = false) :
    (((methodView (run facts14 c inj co ro).steps).contains (.ev .exceptionObject) ||
      (methodView (run facts14 c inj co ro).steps).contains (.ev .redirectException)) = (truth inj co ro).faulted) ∧
    (methodView (run facts14 c inj co ro).steps).count (.ev .exceptionObject) +
      (methodView (run facts14 c inj co ro).steps).count (.ev .redirectException) ≤ 1 := by
  have := automaton_sound _ _ _ _ (trace_spec c inj co ro h)
  simp only [clauses, clExceptionObject, Bool.and_eq_true, beq_iff_eq, decide_eq_true_eq] at this
  exact ⟨this.1.2.1.1, this.1.2.1.2⟩

/-- a Redirect raised by the function is not a fault: method_redirect, then the return document and string
    events, no method_return_object and no method_exception_object -/
theorem redirect_is_not_a_fault (c : Cfg) (k : ExcKind) (b : Bool)
    (h : (run facts14 c ⟨.redirect, k, b⟩ none none).escaped = false) :
    final (methodView (run facts14 c ⟨.redirect, k, b⟩ none none).steps) = .done true false false := by
  rw [trace_spec c ⟨.redirect, k, b⟩ none none h]; rfl

/-- a ?wsdl request to the WSGI transport also opens and closes exactly one method context -/
theorem wsdl_request_created_closed :
    methodView facts14.wsdlSteps = [.ev .created, .ev .closed] ∧ transportView facts14.wsdlSteps = [.wsdl] ∧
    methodView facts14.wsdlFailSteps = [.ev .created, .ev .closed] ∧
    transportView facts14.wsdlFailSteps = [.wsdlException] := by
  decide

/-- ... followed by the matching document and string events in that order, then closed, and none of
    the events of the other outcome (commit-or-rollback listeners see exactly one of the two) -/
theorem document_and_string_events_follow (c : Cfg) (inj : Inj) (co ro : Option ExcKind)
    (h : (run facts14 c inj co ro).escaped = false) :
    clFollowedBy (methodView (run facts14 c inj co ro).steps) (truth inj co ro).faulted = true := by
  have := automaton_sound _ _ _ _ (trace_spec c inj co ro h)
  simp only [clauses, Bool.and_eq_true] at this
  exact this.2

/-- method_context_created / method_context_closed are never fired with a descriptor set -/
theorem created_closed_application_level_only (c : Cfg) (inj : Inj) (co ro : Option ExcKind) :
    Event.created ∉ descEvents (run facts14 c inj co ro).steps ∧
    Event.closed ∉ descEvents (run facts14 c inj co ro).steps := by
  have := (run_row facts14 trace_spec_table proc_events_same_for_every_signature c inj co ro).2.1
  simpa [descScopeOk] using this

/-- transport level (WSGI): wsgi_call, then wsgi_return or wsgi_exception according to the outcome,
    then wsgi_close; the bare ServerBase sequence fires nothing of its own -/
theorem transport_events (c : Cfg) (inj : Inj) (co ro : Option ExcKind)
    (h : (run facts14 c inj co ro).escaped = false) :
    transportOk c.transport (run facts14 c inj co ro).steps (truth inj co ro).faulted = true :=
  ((run_row facts14 trace_spec_table proc_events_same_for_every_signature c inj co ro).2.2 h).2

/-! ### lifting to worlds: arbitrary listeners registered on every manager -/

/-- A listener registered first on the application's manager (for every event) that never raises —
    whatever else is registered anywhere, whichever other listener raises on method_call or
    method_return_object — sees a trace that satisfies every sentence of the property. -/
theorem first_app_listener_sees_spec (c : Cfg) (inj : Inj) (w : World) (o : H)
    (hfirst : ∀ ev, ∃ rest, w.app ev = o :: rest ∧ o ∉ rest)
    (hquiet : ∀ ev, w.raises o ev = none)
    (hne : (worldRun facts14 c inj w).escaped = false) :
    symView o (trace facts14 c inj w) = methodView (worldRun facts14 c inj w).steps ∧
    final (symView o (trace facts14 c inj w))
      = .done (truth inj (callOutcome w) (retOutcome w)).userRan
              (truth inj (callOutcome w) (retOutcome w)).returned
              (truth inj (callOutcome w) (retOutcome w)).faulted ∧
    clauses (symView o (trace facts14 c inj w))
      (truth inj (callOutcome w) (retOutcome w)).userRan
      (truth inj (callOutcome w) (retOutcome w)).returned
      (truth inj (callOutcome w) (retOutcome w)).faulted = true := by
  have hv : symView o (trace facts14 c inj w) = methodView (worldRun facts14 c inj w).steps :=
    first_observer_view w o hfirst hquiet _
  have hf := trace_spec c inj (callOutcome w) (retOutcome w) hne
  refine ⟨hv, ?_, ?_⟩
  · rw [hv]; exact hf
  · rw [hv]; exact automaton_sound _ _ _ _ hf

/-- When no listener raises, every listener of every level sees exactly the events it registered for,
    each firing once, in pipeline order: application level all method-context events, method and
    service level those fired after dispatch. -/
theorem quiet_listener_views (c : Cfg) (inj : Inj) (w : World) (hq : ∀ h ev, w.raises h ev = none) (h : H) :
    ((∀ ev, (w.app ev).Nodup) →
      viewOf .app h (trace facts14 c inj w)
        = (ctxEvents (worldRun facts14 c inj w).steps).filter (fun ev => h ∈ w.app ev)) ∧
    ((∀ ev, (w.svc ev).Nodup) →
      viewOf .svc h (trace facts14 c inj w)
        = (descEvents (worldRun facts14 c inj w).steps).filter (fun ev => h ∈ w.svc ev)) ∧
    (∀ j m, w.meths[j]? = some m → (∀ ev, (m ev).Nodup) →
      viewOf (.meth j) h (trace facts14 c inj w)
        = (descEvents (worldRun facts14 c inj w).steps).filter (fun ev => h ∈ m ev)) :=
  ⟨fun hn => ctxEvents_eq _ ▸ quiet_view w hq .app h hn _,
   fun hn => descEvents_eq .svc (.inl rfl) _ ▸ quiet_view w hq .svc h hn _,
   fun j m hj hn => by
    have hm : w.mgr (.meth j) = m := by simp [World.mgr, hj]
    rw [descEvents_eq (.meth j) (.inr ⟨j, rfl⟩), ← hm]
    exact quiet_view w hq (.meth j) h (hm ▸ hn) _⟩

/-- whatever the listeners do, method- and service-level listeners never see method_context_created or
    method_context_closed -/
theorem lower_levels_never_see_created_closed (c : Cfg) (inj : Inj) (w : World) (lvl : Level) (h : H)
    (hl : lvl = .svc ∨ ∃ j, lvl = .meth j) :
    Event.created ∉ viewOf lvl h (trace facts14 c inj w) ∧ Event.closed ∉ viewOf lvl h (trace facts14 c inj w) := by
  have hd := created_closed_application_level_only c inj (callOutcome w) (retOutcome w)
  rw [descEvents_eq lvl hl] at hd
  exact ⟨fun hm => hd.1 (viewOf_subset w lvl h _ _ hm), fun hm => hd.2 (viewOf_subset w lvl h _ _ hm)⟩

/-! ### the measured facts are necessary: the two repaired defects, as witnesses -/

/-- if the WSGI transport does not fire method_exception_object when serialising the return value fails
    (the pinned tree: D21), the property fails for that injection -/
theorem serialize_failure_needs_exception_object :
    rowOk { facts14 with wsgiSerFail := ⟨[], false⟩ } ⟨false, false, .wsgi, .serialize, .exc, none, none⟩ = false := by
  decide

/-- if an exception that is not a Fault escapes ServerBase.generate_contexts / get_in_object (the pinned
    tree), the context is never closed -/
theorem parse_escape_breaks_closed :
    rowOk { facts14 with genCtx := fun _ => ⟨[], true⟩ } ⟨false, false, .wsgi, .createInDoc, .exc, none, none⟩ = false ∧
    rowOk { facts14 with getIn := fun _ => ⟨[], true⟩ } ⟨false, false, .wsgi, .deserialize, .exc, none, none⟩ = false := by
  decide

/-- the string event must not depend on whether the output protocol produced any bytes: a
    finalize_context that skips it when ctx.out_string is None breaks the property for a method without a
    return value served by HttpRpc -/
theorem string_event_needed_when_out_string_is_none :
    rowOk { facts14 with fin := fun fault none =>
              if none then (if fault then [.exceptionDocument] else [.returnDocument]) else facts14.fin fault none }
      ⟨true, false, .wsgi, .none, .fault, none, none⟩ = false := by
  decide

/-- an EventManager given to @rpc reaches the method's descriptor under each of the four keywords
    (`_evmgr`, `_evmgrs`, `_event_manager`, `_event_managers`), so the world's method-level managers are heard -/
theorem decorator_keywords_reach_descriptor (sp : Spelling) (ms : List (Mgr Event)) :
    descriptorManagers facts14 sp ms = ms := by
  cases sp <;> rfl

/-- the service class given to `@mrpc(_service_class=S)` is heard like the service class of an @rpc method -/
theorem mrpc_service_class_manager_reaches_descriptor (svc : Mgr Event) :
    descriptorService facts14 true svc = svc := rfl

/-- when user code or a listener has pre-set ctx.out_document (a cached response), get_out_string still fires
    the document and string events of finalize_context: the table (which uses `fin`) covers these calls -/
theorem preset_document_still_finalized : facts14.getOutStringPreset = facts14.fin false false := by
  decide

/-! ### non-vacuity -/

-- a registration history with duplicates, two events
example : (Mgr.build [(1, 7), (2, 9), (1, 8), (1, 7), (1, 5), (1, 8)]).fire 1 = [7, 8, 5] := by decide
example : (Mgr.inherit [Mgr.build [(1, 7), (1, 8)], Mgr.build [(1, 8), (1, 3)]]).fire 1 = [7, 8, 3] := by decide
-- removal of the head, then re-registration: B, A — and A once
example : (Mgr.empty.applyAll [Op.add 1 7, .add 1 8, .add 1 7, .del 1 7]).fire 1 = [8] := by decide
example : (Mgr.empty.applyAll [Op.add 1 7, .add 1 8, .del 1 7, .add 1 7, .del 1 9, .add 2 3]).fire 1 = [8, 7] := by decide
example : (Mgr.empty.applyAll [Op.add 1 7, .add 1 8, .clear 1, .add 1 8]).fire 1 = [8] := by decide
-- a method without a return value over HttpRpc: the output protocol leaves out_string None, all events still fire
example : facts14.leavesNone .httpRpc .void = true := by decide
example : methodView (run facts14 ⟨.httpRpc, .wsgi, .void, .void, false⟩ ⟨.none, .fault, false⟩ none none).steps
    = [.ev .created, .ev .call, .user, .ev .returnObject, .ev .returnDocument, .ev .returnString, .ev .closed] := by decide
-- A registered, E fired, B registered, E fired again, A removed, E fired
example : Mgr.empty.runHistory [Op.add 1 7, .fire 1, .add 1 8, .fire 1, .del 1 7, .fire 1, .fire 2] = [[7], [7, 8], [8], []] := by decide
-- a one-shot listener and a listener that installs its successor: everybody registered before still runs once
example : (fireReentrant (progOf [(1, [.del 1]), (2, [.add 4])]) 20 [1, 2, 3]).calls = [1, 2, 3, 4] := by decide
example : (fireReentrant (progOf [(1, [.del 1]), (2, [.add 4])]) 20 [1, 2, 3]).next = none := by decide
-- the table is not empty, the automaton accepts seven traces
example : allRows.length = 1728 := by
  simp only [allRows, allTransport, allStage, allKind, allOptKind, List.length_flatMap,
    List.map_cons, List.map_nil, List.sum_cons, List.sum_nil, List.length_cons, List.length_nil]
  rfl
example : (lang 9 .start).length = 7 := by rw [lang_start]; rfl
-- runs that do not escape exist for every kind of failure; one that escapes exists
example : (run facts14 ⟨.soap11, .wsgi, .value, .single, false⟩ ⟨.serialize, .exc, true⟩ none none).escaped = false := by decide
example : (run facts14 ⟨.soap11, .serverBase, .value, .single, false⟩ ⟨.serialize, .exc, true⟩ none none).escaped = true := by decide
example : methodView (run facts14 ⟨.json, .wsgi, .value, .single, false⟩ ⟨.none, .fault, false⟩ none (some .exc)).steps
    = [.ev .created, .ev .call, .user, .ev .returnObject, .ev .exceptionObject, .ev .exceptionDocument,
       .ev .exceptionString, .ev .closed] := by decide
-- a world that satisfies the hypotheses of `first_app_listener_sees_spec`, with a raising listener
def exampleWorld : World where
  app := fun _ => [0, 4]
  meths := [fun ev => if ev = .call then [5, 6] else []]
  svc := fun _ => [7]
  inProt := fun _ => [1]
  outProt := fun _ => [2]
  transport := fun _ => [3]
  raises := fun h ev => if h = 6 ∧ ev = .call then some .exc else none
example : callOutcome exampleWorld = some .exc := by decide
example : (∀ ev, ∃ rest, exampleWorld.app ev = 0 :: rest ∧ 0 ∉ rest) ∧ (∀ ev, exampleWorld.raises 0 ev = none) :=
  ⟨fun _ => ⟨[4], rfl, by decide⟩, fun ev => by simp [exampleWorld]⟩
example : viewOf (.meth 0) 6 (trace facts14 ⟨.xml, .wsgi, .value, .single, false⟩ ⟨.none, .fault, false⟩ exampleWorld) = [.call] := by decide +kernel
example : viewOf .svc 7 (trace facts14 ⟨.xml, .wsgi, .value, .single, false⟩ ⟨.none, .fault, false⟩ exampleWorld)
    = [.exceptionObject, .exceptionDocument, .exceptionString] := by decide +kernel

end SpyneModel.Props.C14
