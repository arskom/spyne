/-
  C02 — dict-document wire fidelity (JSON, YAML, MessagePack).
  Property theorems only, about the model instantiated with the facts regenerated from /repo
  (`facts08` leaf switches, `facts02` dict-document switches); side conditions discharged by `decide`.

  `cfg` ranges over {json, yaml, msgpack, msgpackRpc} × validator {none, soft} × ignore_wrappers × complex_as
  {dict, list} × polymorphic; `Cfg.selfConsistent` excludes only `complex_as=list` with `ignore_wrappers=False` for documents
  the protocol itself has to read back (it writes positional lists without the wrappers its reader insists on);
  requests in the documented spellings are covered for every configuration by `hier_decodes_conventional`.
-/
import Proofs.HierC02
import Proofs.HierAlias
import Props.Facts08Good
import SpyneModel.Generated.Facts02
namespace SpyneModel.Props.C02
open SpyneModel SpyneModel.Hier SpyneModel.Generated SpyneModel.Props

/-- the dict-document switches the round trip depends on have their good values in /repo (D09; `null` for a
    complex member is `None`; JSON lets `null` through for nillable dates; arrays of arrays are written level by
    level, so that the model's encoder is the code's) -/
theorem facts02_rt : facts02.GoodRT := ⟨by decide, by decide, by decide, by decide⟩

/-- D10: MessagePackDocument finds the request body under a `str` as well as a `bytes` method name -/
theorem facts02_mp : facts02.mpNameAnyKey = true := by decide

/-- Every member value that conforms to its declared type — any nesting of objects, wrapped arrays and repeated
    members, `None` where nillable, integers of any magnitude in JSON/YAML — is written by `_object_to_doc` and
    read back by `_from_dict_value` as the same native value, for every self-consistent configuration. -/
theorem hier_roundtrip (cfg : Cfg) (hsc : cfg.selfConsistent = true)
    (R : Registry) (t : Ty) (v : Val)
    (hr : t.occ.repeated = false) (hwf : wfTy t = true) (hc : conforms t v = true)
    (hmp : cfg.proto.isMsgpack = true → fitsV facts08 v = true ∧ mpReadable t = true)
    (hpl : plain cfg.complexAs t v = true) :
    decode facts08 facts02 cfg R t (encode facts08 cfg R t v) = .good v :=
  member_roundtrip R (ownCtx leafLaws08 facts02_rt hsc) t v hr hwf hc
    (fun hm => ⟨(hmp hm).1, fun _ => (hmp hm).2⟩) hpl

/-- A request written the way the protocol itself writes documents, for conformant arguments, invokes the user
    function with exactly those arguments (request decoding incl. the method-name envelope). -/
theorem hier_request_fidelity (cfg : Cfg) (hsc : cfg.selfConsistent = true)
    (R : Registry) (name ns : Text) (base : Option Text) (fields : Fields) (o : Occ) (args : List (Text × Val))
    (hwf : wfTy (.obj name ns base fields o) = true) (hc : conformsFields fields args = true)
    (hmp : cfg.proto.isMsgpack = true → fitsFields facts08 args = true ∧ mpReadableFields fields = true)
    (hpl : plainFields cfg.complexAs fields args = true)
    (hnm : cfg.notWrapped.contains name = false) :
    decodeRequest facts08 facts02 cfg R (.obj name ns base fields o)
      (requestDoc cfg (ownSpell facts08 cfg) R (.obj name ns base fields o) (.obj name args)) = .good (.obj name args) :=
  request_roundtrip R (ownCtx leafLaws08 facts02_rt hsc) name ns base fields o args hwf hc
    (fun hm => ⟨(hmp hm).1, fun _ => (hmp hm).2⟩) hpl hnm

/-- **Both ends.** What `serialize(REQUEST)` of the protocol itself writes for conformant arguments — the input message through
    `_object_to_doc` (T2: `hier.client-request`) — is read by `deserialize(REQUEST)` of the same configuration as exactly those
    arguments, whenever the written request still names the method: MessagePack-RPC (method name in the envelope) or
    `ignore_wrappers=False`. (With `ignore_wrappers=True` the other protocols write the request without the method name:
    known finding `client:ignore-wrappers-request-without-method-name`.) -/
theorem hier_client_request_roundtrip (cfg : Cfg) (hsc : cfg.selfConsistent = true)
    (hw : cfg.proto = .msgpackRpc ∨ cfg.ignoreWrappers = false)
    (R : Registry) (name ns : Text) (base : Option Text) (fields : Fields) (o : Occ) (args : List (Text × Val))
    (hwf : wfTy (.obj name ns base fields o) = true) (hc : conformsFields fields args = true)
    (hmp : cfg.proto.isMsgpack = true → fitsFields facts08 args = true ∧ mpReadableFields fields = true)
    (hpl : plainFields cfg.complexAs fields args = true)
    (hnm : cfg.notWrapped.contains name = false) :
    decodeRequest facts08 facts02 cfg R (.obj name ns base fields o)
      (encode facts08 cfg R (.obj name ns base fields o) (.obj name args)) = .good (.obj name args) := by
  rw [encode_eq_requestDoc hw]
  exact hier_request_fidelity cfg hsc R name ns base fields o args hwf hc hmp hpl hnm

/-- The documented alternative spellings are understood by every configuration: `str` keys, numbers as numbers,
    dates / durations / enumerations / base64 as `str` text (MessagePack: raw `bin` for plain byte arrays, text for
    integers outside the 64-bit window), objects as maps or — `cas = list` — as positional lists for fully populated
    objects, whatever `complex_as` the server is configured with. No restriction on the leaf kinds for MessagePack. -/
theorem hier_decodes_conventional (cfg : Cfg) (cas : ComplexAs) (hcas : cas = .dict ∨ cfg.ignoreWrappers = true)
    (R : Registry) (name ns : Text) (base : Option Text) (fields : Fields) (o : Occ) (args : List (Text × Val))
    (hwf : wfTy (.obj name ns base fields o) = true) (hc : conformsFields fields args = true)
    (hmp : cfg.proto.isMsgpack = true → fitsFields facts08 args = true)
    (hpl : plainFields cas fields args = true)
    (hnm : cfg.notWrapped.contains name = false) :
    decodeRequest facts08 facts02 cfg R (.obj name ns base fields o)
      (requestDoc cfg (convSpell facts08 cfg cas) R (.obj name ns base fields o) (.obj name args)) = .good (.obj name args) :=
  request_roundtrip R (convCtx leafLaws08 facts02_rt facts02_mp cas hcas) name ns base fields o args hwf hc
    (fun hm => ⟨hmp hm, fun h => by cases h⟩) hpl hnm

/-- MessagePack clients may mix: `bytes` keys with `str` text leaves (`bk = true`), or `str` keys with the `bin`
    leaves the protocol itself writes (`bk = false`, readable leaf kinds). -/
theorem hier_decodes_msgpack_keys (cfg : Cfg) (cas : ComplexAs) (bk : Bool) (hcas : cas = .dict ∨ cfg.ignoreWrappers = true)
    (R : Registry) (name ns : Text) (base : Option Text) (fields : Fields) (o : Occ) (args : List (Text × Val))
    (hwf : wfTy (.obj name ns base fields o) = true) (hc : conformsFields fields args = true)
    (hmp : cfg.proto.isMsgpack = true → fitsFields facts08 args = true ∧ (bk = false → mpReadableFields fields = true))
    (hpl : plainFields cas fields args = true)
    (hnm : cfg.notWrapped.contains name = false) :
    decodeRequest facts08 facts02 cfg R (.obj name ns base fields o)
      (requestDoc cfg (mixSpell facts08 cfg cas bk) R (.obj name ns base fields o) (.obj name args)) = .good (.obj name args) := by
  exact request_roundtrip R (mixCtx leafLaws08 facts02_rt facts02_mp cas bk hcas) name ns base fields o args hwf hc
    (fun hm => ⟨(hmp hm).1, fun h => (hmp hm).2 (by simpa using h)⟩) hpl hnm

/-- What `serialize` writes for a conformant return value — `None` included — decodes, by the same conventions, to
    exactly the value returned. -/
theorem hier_response_fidelity (cfg : Cfg) (hsc : cfg.selfConsistent = true)
    (R : Registry) (method : Text) (ret : Ty) (v : Val)
    (hr : ret.occ.repeated = false) (hwf : wfTy ret = true) (hc : conforms ret v = true)
    (hmp : cfg.proto.isMsgpack = true → fitsV facts08 v = true ∧ mpReadable ret = true)
    (hpl : plain cfg.complexAs ret v = true)
    (hnone : v = .none → cfg.complexAs = .dict) :
    decodeResponse facts08 facts02 cfg R method ret (encodeResponse facts08 cfg R method ret v) = .good v :=
  response_roundtrip leafLaws08 facts02_rt hsc R method ret v hr hwf hc
    (fun hm => ⟨(hmp hm).1, fun _ => (hmp hm).2⟩) hpl hnone

/-- the cycle guard of `_object_to_doc` is path-local in /repo: `_get_member_pairs` hands a copy of the set to the
    members (`tags | {id(inst)}`), so the set holds ancestors only -/
theorem facts02_guard : facts02.guardPathLocal = true := by decide

/-- a ByteArray value given in chunks is encoded as the concatenation of its chunks (witness `[b'a', b'bcd']` for base64, hex
    and urlsafe members): chunking is below the model, `Val.bytes` is the concatenation -/
theorem facts02_bytes_join : facts02.bytesJoinBeforeEncode = true := by decide

/-- both branches of `_complex_to_dict` (str keys: json / yaml; encoded keys: MessagePack) write a `not_wrapped` class without its
    wrapper when wrappers are kept -/
theorem facts02_not_wrapped : facts02.notWrappedStrKeys = true ∧ facts02.notWrappedBytesKeys = true := ⟨by decide, by decide⟩

/-- so the spelling the code uses is the spelling the round-trip theorems are about: `not_wrapped` classes (`cfg.notWrapped`)
    travel without a wrapper in both directions, in every protocol -/
theorem ownSpellG_eq (cfg : Cfg) : ownSpellG facts08 facts02 cfg = ownSpell facts08 cfg := by
  simp [ownSpellG, ownSpell, facts02_not_wrapped.1, facts02_not_wrapped.2]

/-- **The document depends on the value, not on object identity.** Whatever Python objects the nodes of a returned
    value are (`ids`: the same `ComplexModel` instance may sit in several members of one object, in several slots of
    one array, in cousins …), as long as no object contains itself, `_object_to_doc` with its cycle guard writes
    exactly the document of the plain value tree: nothing is dropped, no array is thrown away. -/
theorem hier_encoding_ignores_identity (cfg : Cfg) (R : Registry) (t : Ty) (v : Val) (ids : Ids)
    (hac : acyclic [] ids = true) :
    encodeIds facts08 cfg R facts02 t v ids = encode facts08 cfg R t v := by
  simp only [encodeIds, facts02_guard, Bool.not_true, encode, encodeG_local _ R t v ids [] hac, ownSpellG_eq]

/-- two presentations of one value — aliased or built from distinct objects — are written identically -/
theorem hier_aliasing_invisible (cfg : Cfg) (R : Registry) (t : Ty) (v : Val) (ids ids' : Ids)
    (hac : acyclic [] ids = true) (hac' : acyclic [] ids' = true) :
    encodeIds facts08 cfg R facts02 t v ids = encodeIds facts08 cfg R facts02 t v ids' := by
  rw [hier_encoding_ignores_identity cfg R t v ids hac, hier_encoding_ignores_identity cfg R t v ids' hac']

/-- response fidelity for results with shared sub-objects: the response written for a conformant value decodes to
    exactly that value, however its nodes are shared -/
theorem hier_response_fidelity_aliased (cfg : Cfg) (hsc : cfg.selfConsistent = true)
    (R : Registry) (method : Text) (ret : Ty) (v : Val) (ids : Ids) (hac : acyclic [] ids = true)
    (hr : ret.occ.repeated = false) (hwf : wfTy ret = true) (hc : conforms ret v = true)
    (hmp : cfg.proto.isMsgpack = true → fitsV facts08 v = true ∧ mpReadable ret = true)
    (hpl : plain cfg.complexAs ret v = true)
    (hnone : v = .none → cfg.complexAs = .dict) :
    decodeResponse facts08 facts02 cfg R method ret (encodeResponseIds facts08 cfg R facts02 method ret v ids) = .good v := by
  have h : encodeResponseIds facts08 cfg R facts02 method ret v ids = encodeResponse facts08 cfg R method ret v := by
    simp only [encodeResponseIds, encodeResponse, hier_encoding_ignores_identity cfg R ret v ids hac]
  rw [h]
  exact hier_response_fidelity cfg hsc R method ret v hr hwf hc hmp hpl hnone

/-- JSON and YAML carry integers of any magnitude natively: no bound, no length guard. -/
theorem bigint_survives (cfg : Cfg) (hj : cfg.proto.isMsgpack = false) (r : Range) (o : Occ) (i : Int)
    (hrange : r.holds i = true) :
    primIn facts08 facts02 cfg (.integer .unbounded r) o (leafOut facts08 cfg (.integer .unbounded r) (.int i)) = .good (.int i) := by
  have hv : (PrimTy.integer .unbounded r).valueOk (.int i) = true := by simp [PrimTy.valueOk, IntKind.lo, IntKind.hi, hrange]
  exact primIn_leafOut leafLaws08 facts02 cfg _ o _ hv (fun h => by simp [hj] at h) (fun h => by simp [hj] at h)

/-- MessagePack: integers inside [-2^63, 2^64) travel natively, all others as decimal text (`bin`), and survive as
    long as the text passes the `max_str_len` guard of the unbounded Integer. -/
theorem bigint_survives_msgpack (cfg : Cfg) (hm : cfg.proto.isMsgpack = true) (r : Range) (o : Occ) (i : Int)
    (hrange : r.holds i = true) (hfit : (intToText i).length ≤ facts08.intMaxStrLen .unbounded) :
    primIn facts08 facts02 cfg (.integer .unbounded r) o (leafOut facts08 cfg (.integer .unbounded r) (.int i)) = .good (.int i) := by
  have hv : (PrimTy.integer .unbounded r).valueOk (.int i) = true := by simp [PrimTy.valueOk, IntKind.lo, IntKind.hi, hrange]
  exact primIn_leafOut leafLaws08 facts02 cfg _ o _ hv (fun _ => by simpa [fitsV, fitsInt] using hfit) (fun _ => rfl)

/-- Every Unicode scalar value survives the UTF-8 form MessagePack text and keys travel in. -/
theorem utf8_roundtrip (t : Text) : utf8Dec (utf8Enc t) = some t := utf8Dec_utf8Enc t

/-! ### non-vacuity -/

def exInner : Ty := .obj "Inner".toList "tns".toList none
  [("a".toList, .prim (.integer .i8 {}) {}), ("s".toList, .prim (.unicode 0 none none []) { maxOccurs := some 3 })] {}
def exMsg : Ty := .obj "f".toList "tns".toList none
  [("o".toList, exInner), ("l".toList, .arr "m".toList (.prim .date {}) {})] {}
def exArgs : List (Text × Val) :=
  [("o".toList, .obj "Inner".toList [("a".toList, .int (-128)), ("s".toList, .list [.str "hé".toList, .str []])]),
   ("l".toList, .list [.date ⟨2024, 2, 29⟩, .none])]
def exCfg : Cfg := ⟨.json, .soft, false, .dict, false, false, true, [], []⟩

example : wfTy exMsg = true := by decide
example : conformsFields [("o".toList, exInner), ("l".toList, .arr "m".toList (.prim .date {}) {})] exArgs = true := by
  simp [exArgs, exInner, conformsFields, conforms, conformsOne, conformsItems, conformsArr, Ty.occ, Occ.repeated,
    Occ.countOk, PrimTy.valueOk, IntKind.lo, IntKind.hi, Range.holds, Date.valid, daysInMonth, isLeap]
example : plainFields .dict [("o".toList, exInner), ("l".toList, .arr "m".toList (.prim .date {}) {})] exArgs = true := by decide
example : exCfg.selfConsistent = true := by decide

/-- `Seg(start=p, end=p, more=[q, r, q])`: `p` (id 1) in two members, `q` (id 2) in two slots -/
def exAliased : Ids := .node (some 0) [.node (some 1) [], .node (some 1) [], .node none [.node (some 2) [], .node (some 3) [], .node (some 2) []]]
example : acyclic [] exAliased = true := by decide
/-- a genuine cycle is not acyclic -/
example : acyclic [] (.node (some 0) [.node (some 1) [.node (some 0) []]]) = false := by decide

end SpyneModel.Props.C02
