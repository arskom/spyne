/-
  C06 — the published XML Schema is truthful about the wire. Property theorems only.
  Every theorem is about the model instantiated with the facts regenerated from /repo
  (`Generated.facts06`, `Generated.facts08`); side conditions by `decide`.
-/
import Proofs.SchemaDocs
import Proofs.SchemaSoft
import Proofs.SchemaAttrCompile
import Proofs.SchemaMethods
import Proofs.SchemaExample
import SpyneModel.Generated.Facts01
import Props.Facts08Good
import SpyneModel.Generated.Facts06
namespace SpyneModel.Props.C06
open SpyneModel SpyneModel.Xml SpyneModel.Schema SpyneModel.Generated

/-- an application as the generator sees it, with the measured generator and leaf-codec facts;
    `vals` = the `values=` facet of the non-string primitives -/
def app (I : Iface) (enumKeys : List (List Text × Key)) (vals : List (PrimTy × List Val) := []) : App :=
  { facts := facts06, leaf := facts08, iface := I, enumKeys := enumKeys, values := vals }

/-- T1: the type names measured on /repo are the XSD built-ins the model maps the primitives to
    (so that, e.g., the value space `xs:byte` checked by the reference validator is Integer8's) -/
theorem facts06_good : facts06.Good where
  ints := fun k => by cases k <;> decide +kernel
  bool := by decide +kernel
  unicode := by decide +kernel
  date := by decide +kernel
  time := by decide +kernel
  dateTime := by decide +kernel
  duration := by decide +kernel
  bytes := fun e => by cases e <;> decide +kernel
  qualified := by decide +kernel

/-- **emitted_valid.** For every well-formed application whose inheritance chains stay within one
    namespace (`sameNsChains`: the encoder model, build-XML's, writes every member of an instance in
    the namespace of the instance's class; chains that cross namespaces are covered by
    `generated_schema_denotes` on the schema side and by T2/T3 on the real encoder), every registered
    class (message classes included), every protocol configuration (`polymorphic` on or off) and every instance that
    satisfies the declared constraints — `conformsOne`, and at every leaf `leafCond`: the value has an
    XSD literal and is one of the declared `values` if the member declares any — the document the XML
    encoder writes is valid against the schema generated for the application. -/
theorem emitted_valid (I : Iface) (ek : List (List Text × Key)) (vals : List (PrimTy × List Val))
    (hwf : (app I ek vals).wf = true) (hsn : (app I ek vals).sameNsChains = true) (cfg : Cfg)
    (C : ClassDef) (hC : C ∈ I.classes) (vs : List (Text × Val))
    (hc : conformsOne (ClassDef.toTy C) (.obj C.name vs) = true)
    (hr : leavesOne (leafCond (app I ek vals)) (ClassDef.toTy C) (.obj C.name vs) = true) :
    ∃ x, encode facts08 cfg I C.ns C.name (ClassDef.toTy C) (.obj C.name vs) = [x] ∧
      (gen (app I ek vals)).valid x = true :=
  emitted_valid_gen (app I ek vals) facts08_good hwf hsn cfg C hC vs hc hr

/-- **enumeration literals.** Every `<xs:enumeration value=…>` the generator writes for a declared
    value is the literal the XML protocol puts on the wire for that value (`leafToText`), lies in the
    lexical and value space of the base type, and the restriction as a whole is legal XSD. -/
theorem enumeration_literals_legal (I : Iface) (ek : List (List Text × Key)) (vals : List (PrimTy × List Val))
    (hv : (app I ek vals).valuesWf = true) (p : PrimTy) (hw : Schema.primWf p = true) :
    (app I ek vals).enumLits p = ((app I ek vals).extraVals p).filterMap (leafToText facts08 p) ∧
    simpleDefOk { base := builtinOf p, facets := primFacetsA (app I ek vals) p } = true :=
  ⟨rfl, prim_def_legalA (app I ek vals) facts08_good hv p hw⟩

/-- **schema = denotation.** On a well-formed application — any number of namespaces, inheritance
    chains within or across namespaces — the reference validator run on the generated set of
    documents decides exactly validity for the type the class denotes (`denoteG`: every member is an
    element in the namespace of the class that DECLARES it, an inherited member in its ancestor's):
    every reference of the generated documents resolves to the definition generated for it, base
    chains are followed to the root through `<xs:extension base=…>` into other documents,
    restrictions carry the declared facets. -/
theorem generated_schema_denotes (I : Iface) (ek : List (List Text × Key)) (vals : List (PrimTy × List Val))
    (hwf : (app I ek vals).wf = true)
    (C : ClassDef) (hC : C ∈ I.classes) (x : Node) (hkey : nodeKey x = (C.ns, C.name)) :
    (gen (app I ek vals)).valid x = validS (denoteG (app I ek vals) C.ns (ClassDef.toTy C)) false x :=
  valid_gen (app I ek vals) hwf C hC x hkey

/-- on same-namespace chains the denotation is the one the encoder theorem is stated against: all
    members of a class in the class's namespace -/
theorem generated_schema_denotes_same_ns (I : Iface) (ek : List (List Text × Key)) (vals : List (PrimTy × List Val))
    (hwf : (app I ek vals).wf = true) (hsn : (app I ek vals).sameNsChains = true)
    (C : ClassDef) (hC : C ∈ I.classes) (x : Node) (hkey : nodeKey x = (C.ns, C.name)) :
    (gen (app I ek vals)).valid x =
      validS (denote (primFacetsA (app I ek vals)) I.tns C.ns (ClassDef.toTy C)) false x :=
  valid_gen_same (app I ek vals) hwf hsn C hC x hkey

/-- every conformant leaf value is written as a literal of the simple type the schema declares for
    it: lexical space of the XSD built-in and every generated facet -/
theorem leaf_literal_valid (I : Iface) (ek : List (List Text × Key)) (vals : List (PrimTy × List Val))
    (p : PrimTy) (v : Val) (hv : p.valueOk v = true) (hr : leafCond (app I ek vals) p v = true) :
    ∃ s, leafToText facts08 p v = some s ∧ simpleOk (builtinOf p) (primFacetsA (app I ek vals) p) s = true :=
  leaf_simpleOkA (app I ek vals) facts08_good p v hv hr

/-- **default literals.** The `default="…"` written into an element or attribute declaration for a
    conformant default value is the wire literal of that value and a valid literal of the declared
    simple type — what XSD demands of a `default` (otherwise the schema does not compile), and what
    makes the document valid in which the protocol writes the default in place of None. -/
theorem default_literal_valid (I : Iface) (ek : List (List Text × Key)) (vals : List (PrimTy × List Val))
    (p : PrimTy) (v : Val) (hv : p.valueOk v = true) (hr : leafCond (app I ek vals) p v = true) :
    ∃ s, defaultLiteral facts08 p v = some s ∧ leafToText facts08 p v = some s ∧
      simpleOk (builtinOf p) (primFacetsA (app I ek vals) p) s = true := by
  obtain ⟨s, h1, h2⟩ := leaf_simpleOkA (app I ek vals) facts08_good p v hv hr
  exact ⟨s, h1, h1, h2⟩

/-- **lxml_soft_agree.** On a document whose root is the element of a registered class and that is in
    the common form — declared members only, in declared order and namespaces, no attribute but a
    true `xsi:nil` on an empty element, and at every leaf a literal on which the XSD lexical space and
    spyne's parser agree (`lexAgree`) — schema validation and soft validation reach the same verdict.
    What is left to both is exactly what both implement: nillable, minOccurs / maxOccurs, the
    value-space bounds of the integer kinds, ge/gt/le/lt, min_len/max_len, pattern, values,
    enumeration membership. The one-sided constraints excluded by the common form are listed in
    `OnlySchema` / `OnlySoft`. Holds for the switches of xml.py as measured (`factsXml`), good or not.
    (Stated for applications without `values` on non-string primitives: the soft decoder model is
    build-XML's and has no such facet; T3 compares the two real validators on enumerated members.) -/
theorem lxml_soft_agree (I : Iface) (ek : List (List Text × Key)) (hwf : (app I ek).wf = true)
    (hsn : (app I ek).sameNsChains = true) (C : ClassDef) (hC : C ∈ I.classes) (ns name : Text) (text : Option Text) (children : List Node)
    (hkey : (ns, name) = (C.ns, C.name))
    (hcf : commonForm facts08 factsXml I.tns C.ns (ClassDef.toTy C) (.elem ns name [] text children) = true) :
    (gen (app I ek)).valid (.elem ns name [] text children) =
      softAccepts facts08 factsXml I (ClassDef.toTy C) (.elem ns name [] text children) :=
  lxml_soft_agree_gen facts08 factsXml (app I ek) hwf hsn rfl C hC ns name text children hkey hcf

/-! ### the schema compiles -/

/-- **gen_compiles.** For every well-formed application — any number of classes and namespaces,
    inheritance chains, nested objects, wrapped arrays (of classes, primitives, enums, customised
    primitives, arrays), restrictions on every primitive — the generated schema passes every check
    libxml2 applies to this subset: names unique per symbol space, simple and complex names disjoint,
    every restriction step legal, every complexType legal (base visible + complex, chain finite,
    member types resolve to visible components, occurrence bounds ordered, deterministic content
    model), every global element resolves, every `<xs:import>` names a namespace that has a document
    of the set. -/
theorem gen_compiles (I : Iface) (ek : List (List Text × Key)) (vals : List (PrimTy × List Val))
    (hwf : (app I ek vals).wf = true) : (gen (app I ek vals)).compiles = true :=
  Schema.gen_compiles (app I ek vals) facts08_good hwf

/-- **the set of documents.** One document per namespace in use; the `<xs:import>` elements of a
    document are exactly its namespace's imports, in `sorted` order (fixes/C07-01); every import
    names a namespace that has a document. -/
theorem documents_and_imports (I : Iface) (ek : List (List Text × Key)) (vals : List (PrimTy × List Val))
    (hwf : (app I ek vals).wf = true) (ns : Text) :
    List.Pairwise (fun a b => textLe a b = true) ((gen (app I ek vals)).doc ns).imports ∧
    (∀ n, n ∈ ((gen (app I ek vals)).doc ns).imports ↔ (ns, n) ∈ (gen (app I ek vals)).imports) ∧
    (∀ n, n ∈ ((gen (app I ek vals)).doc ns).imports → n ∈ (gen (app I ek vals)).docNs) := by
  refine ⟨(doc_imports _ ns).1, (doc_imports _ ns).2, ?_⟩
  exact fun n hn => imports_have_docs (app I ek vals) hwf (ns, n) (((doc_imports _ ns).2 n).mp hn)

/-- **no dangling QName.** With the interface's prefixes (one per namespace in use, no prefix
    shared), every `type=` / `base=` of the generated documents reads back — through the `xmlns`
    declarations every document carries — as the name meant; that name is defined in the set; and it
    lives in the referring document's namespace or in one the document imports, which has a document. -/
theorem no_dangling_qname (I : Iface) (ek : List (List Text × Key)) (vals : List (PrimTy × List Val))
    (hwf : (app I ek vals).wf = true) (pm : PrefMap) (hp : prefixesOk pm (gen (app I ek vals)) = true) :
    ∀ r ∈ (gen (app I ek vals)).namedRefs,
      (∃ q, qnameOf pm r.2 = some q ∧ resolveQ pm q = some r.2) ∧
      ((gen (app I ek vals)).hasSimple r.2 || (gen (app I ek vals)).hasComplex r.2) = true ∧
      (r.2.1 = r.1 ∨ r.2.1 ∈ ((gen (app I ek vals)).doc r.1).imports) ∧ r.2.1 ∈ (gen (app I ek vals)).docNs :=
  Schema.no_dangling_qname _ (Schema.gen_compiles (app I ek vals) facts08_good hwf) pm hp

/-- **method elements.** Declaring the request / response elements of the methods in the document of
    the application's namespace — for a `_body_style='bare'` method an element typed by the argument
    class itself, in whatever namespace that class lives, together with the import of that namespace
    (`Interface.add_method`) — keeps the set compiling: element names unique, every element type
    visible from the application's document and defined, every import with a document. Without that
    import the element conjunct of `compiles` fails (libxml2: "references ... are not allowed, since
    not indicated by an import statement"). -/
theorem method_elements_compile (I : Iface) (ek : List (List Text × Key)) (vals : List (PrimTy × List Val))
    (hwf : (app I ek vals).wf = true) (M : Methods)
    (hm : M.elems.all (fun m => (gen (app I ek vals)).hasComplex m.2 || (gen (app I ek vals)).hasSimple m.2) = true) :
    ((gen (app I ek vals)).withMethods M).compiles = true :=
  gen_withMethods_compiles (app I ek vals) facts08_good hwf M hm

/-- **root of a bare response = declared element of the out message.** With the measured serializer
    (`facts06.bareRootIsSubName`, T1 witness `f() -> Integer` under XmlDocument), the root element of
    the response of a method that is not wrapped — whether its out message is a class or an
    uncustomised primitive — is a global element the published set declares. -/
theorem bare_response_root_declared (hF : facts06.bareRootIsSubName = true) (S : Schema) (M : Methods)
    (subName typeName : Text)
    (hm : (∃ k, (subName, k) ∈ M.elems) ∨ (M.prims.lookup subName).isSome = true) :
    S.declaresRoot M (S.tns, bareRootName facts06 subName typeName) = true :=
  bare_root_declared facts06 hF S M subName typeName hm

/-! ### member kinds: XmlAttribute, XmlData, xml_choice_group -/

/-- an application whose classes have attribute / data members (build-XML's `IfaceA`) and choice
    groups, with the measured generator facts -/
def appA (I : IfaceA) (enumKeys : List (List Text × Key)) (vals : List (PrimTy × List Val))
    (modNs : List (Text × Text)) (choice : List ((Key × Text) × Text)) : AppA :=
  { facts := facts06, leaf := facts08, iface := I, enumKeys := enumKeys, values := vals, modNs := modNs, choice := choice }

/-- **gen_compiles with member kinds.** For every well-formed application with `XmlAttribute`
    members (own and inherited through `<xs:extension>`, plain or customised types, `use`), an
    `XmlData` member (`<xs:simpleContent>`) and `xml_choice_group`s, the extended set of documents
    compiles: the element part as in `gen_compiles`; the simple types of customised attribute /
    data members legal, uniquely named and not clashing with a complexType; every `type=` of an
    attribute and every simpleContent `base=` a visible, defined simple type; own and inherited
    attribute names distinct; a simple-content class without element content, base or extension;
    the namespaces imported for such members have documents. Needs the generator to define the type
    of a customised XmlData member (`dataTypeDefined`, measured by T1; fixes/C06-04). -/
theorem gen_compiles_member_kinds (I : IfaceA) (ek : List (List Text × Key)) (vals : List (PrimTy × List Val))
    (mn : List (Text × Text)) (ch : List ((Key × Text) × Text))
    (hdt : facts06.dataTypeDefined = true) (hwf : (appA I ek vals mn ch).wf = true) :
    (genA (appA I ek vals mn ch)).compiles = true :=
  genA_compiles (appA I ek vals mn ch) facts08_good hdt hwf

/-- **the member-kind layer is conservative.** For an application without attribute, data or choice
    members the extended reference validator on the extended documents is `(gen A).valid`: the
    theorems above (`emitted_valid`, `generated_schema_denotes`, `lxml_soft_agree`) are statements
    about the extended layer too. -/
theorem member_kinds_conservative (I : Iface) (ek : List (List Text × Key)) (vals : List (PrimTy × List Val)) (x : Node) :
    (genA (AppA.ofApp (app I ek vals))).valid x = (gen (app I ek vals)).valid x :=
  genA_ofApp_valid (app I ek vals) x

/-- every class (message classes included) of a well-formed application gets a complexType
    definition that passes libxml2's checks, and a global element that resolves -/
theorem class_definitions_compile (I : Iface) (ek : List (List Text × Key)) (vals : List (PrimTy × List Val))
    (hwf : (app I ek vals).wf = true) (D : ClassDef) (hD : D ∈ (app I ek vals).allClasses) :
    complexDefOk (gen (app I ek vals)) ((D.ns, D.name), (classComplex (app I ek vals) D).2) = true ∧
    (gen (app I ek vals)).hasComplex (D.ns, D.name) = true :=
  class_definition_ok (app I ek vals) hwf D hD

/-- the restriction written for a well-formed customised integer is legal XSD: every bound is a
    value of the base type and the bounds do not contradict each other -/
theorem integer_restriction_legal (k : IntKind) (r : Range) (hw : Schema.primWf (.integer k r) = true) :
    simpleDefOk { base := .integer k, facets := primFacets facts06 (.integer k r) } = true :=
  prim_base_legal facts06 (.integer k r) hw

theorem string_restriction_legal (a : Nat) (b : Option Nat) (pat : Option Pattern) (vals : List Text)
    (hw : Schema.primWf (.unicode a b pat vals) = true) :
    simpleDefOk { base := .string, facets := primFacets facts06 (.unicode a b pat vals) } = true :=
  string_facets_legal facts06 a b pat vals hw

/-- for ANY generator with the two repairs of fixes/C06-01 (bounds outside the base type dropped,
    double bounds merged): every integer declaration that some value satisfies — including the ones
    the model class only warns about, `UnsignedInteger8(gt=-1)`, `Integer(gt=1, ge=3)` — yields a
    restriction libxml2 accepts. (On a tree without the repair the switches measure `false`, the
    witnesses are replayed by T1 and reported.) -/
theorem repaired_generator_restrictions_legal (F6 : Facts06) (hc : F6.clampFacets = true) (hm : F6.mergeBounds = true)
    (k : IntKind) (r : Range) (i : Int) (hi : r.holds i = true) :
    simpleDefOk { base := .integer k, facets := primFacets F6 (.integer k r) } = true :=
  fixed_facets_legal F6 hc hm k r i hi

/-- the repair does not change what a type accepts: whatever the two switches measure, the written
    facets allow exactly the declared values of the base type (for declarations the model class
    does not refuse with ValueError) -/
theorem written_facets_same_value_space (k : IntKind) (r : Range) (i : Int)
    (hs : rangeSane k r = true) (hi : inKind k i = true) :
    (writtenRange facts06 k r).holds i = r.holds i :=
  writtenRange_same_values facts06 k r i hs hi

example : Schema.primWf (.integer .u8 { gt := some 3, le := some 200 }) = true := by decide
example : rangeSane .u8 { gt := some (-1) } = true ∧ Schema.primWf (.integer .u8 { gt := some (-1) }) = false := by decide
example : ({ gt := some 1, ge := some 3, lt := some 10, le := some 12 } : Range).holds 5 = true := by decide

/-! ### non-vacuity: a universe with inheritance, an array and restricted primitives -/

-- The universe and its documents stand in Proofs/SchemaExample.lean; everything asked of one universe is checked there by
-- one evaluation (`Example.iface_checks`, `ExampleA.iface_checks`), since what the kernel has worked out of a universe
-- (the string constants of the model first of all) it keeps within one declaration only; the examples quote its conjuncts.
open SpyneModel.Schema.Example in
example : (app iface []).wf = true := iface_checks.1.1

open SpyneModel.Schema.Example in
example : (gen (app iface [])).compiles = true := iface_checks.1.2.1

open SpyneModel.Schema.Example in
example : (app iface []).sameNsChains = true := iface_checks.1.2.2

open SpyneModel.Schema.Example in
example : cMsg ∈ iface.classes := by simp [iface]

/-- a chain that crosses namespaces (`urn:b`:Base ⊂ `urn:a`:Derived): well-formed, not same-namespace,
    the set compiles, `urn:a` imports `urn:b`, the prefixes are fine, the inherited member is accepted
    in its declaring class's namespace only -/
example : (app ExampleX.iface []).wf = true ∧ (app ExampleX.iface []).sameNsChains = false ∧
    (gen (app ExampleX.iface [])).compiles = true ∧
    ((gen (app ExampleX.iface [])).doc (Example.T "urn:a")).imports = [Example.T "urn:b", Example.T "urn:t"] ∧
    prefixesOk ExampleX.pm (gen (app ExampleX.iface [])) = true ∧
    (gen (app ExampleX.iface [])).valid ExampleX.goodDoc = true ∧
    (gen (app ExampleX.iface [])).valid ExampleX.wrongNsDoc = false := by decide +kernel

open SpyneModel.Schema.Example in
example : conformsOne (ClassDef.toTy cMsg) (.obj cMsg.name value) = true := value_conforms

open SpyneModel.Schema.Example in
example : leavesOne (leafCond (app iface [] exVals)) (ClassDef.toTy cMsg) (.obj cMsg.name value) = true := by
  simp [leavesOne, leavesFields, leaves, leavesItems, ClassDef.toTy, cMsg, msgFields, value, derFields, baseFields,
    Ty.occ, Occ.repeated, itemOcc, T, leafCond, tzOk, App.extraVals, app, exVals, leafEq, List.lookup]

open SpyneModel.Schema.Example in
/-- with `values = [5, 7]` declared on the Integer8(ge=3) member: wf, compiles, member accepted, non-member rejected -/
example : (app iface [] exVals).wf = true ∧ (gen (app iface [] exVals)).compiles = true ∧
    (gen (app iface [] exVals)).valid goodDoc = false ∧
    (encode facts08 {} iface cMsg.ns cMsg.name (ClassDef.toTy cMsg) (.obj cMsg.name value)).map
      (fun x => (gen (app iface [] exVals)).valid x) = [true] := iface_checks.2.2.2.1

open SpyneModel.Schema.Example in
/-- the encoder's document for `value` is accepted by the reference validator (computed by the kernel) -/
example : (encode facts08 {} iface cMsg.ns cMsg.name (ClassDef.toTy cMsg) (.obj cMsg.name value)).map
    (fun x => (gen (app iface [])).valid x) = [true] := iface_checks.2.1

open SpyneModel.Schema.Example in
/-- common-form documents on both sides of the `ge = 3` boundary -/
example : commonForm facts08 factsXml iface.tns cMsg.ns (ClassDef.toTy cMsg) goodDoc = true ∧
    commonForm facts08 factsXml iface.tns cMsg.ns (ClassDef.toTy cMsg) badDoc = true ∧
    (gen (app iface [])).valid goodDoc = true ∧ (gen (app iface [])).valid badDoc = false := iface_checks.2.2.1

/-- a bare method `x0(Derived)` of the example application: its request element lives in `urn:t`, is
    typed by `urn:a`:Derived, and `urn:t` imports `urn:a`; dropping that import breaks `compiles` -/
example :
    let S := (gen (app Example.iface [])).withMethods { elems := [(Example.T "x0", (Example.T "urn:a", Example.T "Derived"))] }
    S.compiles = true ∧ S.elements.lookup (Example.T "urn:t", Example.T "x0") = some (Example.T "urn:a", Example.T "Derived") ∧
    ({ S with imports := S.imports.filter (fun i => i.1 ≠ Example.T "urn:t") } : Schema).compiles = false :=
  Example.iface_checks.2.2.2.2

/-! ### non-vacuity: attributes (inherited, required, customised), simple content, a choice -/

open SpyneModel.Schema.ExampleA in
example : (appA iface [] [] modNs choice).wf = true ∧ (genA (appA iface [] [] modNs choice)).compiles = true ∧
    (genA (appA iface [] [] modNs choice)).ximports = [(Example.T "urn:a", Example.T "spyne.model.primitive.string")] :=
  iface_checks.1

open SpyneModel.Schema.ExampleA in
/-- accepted with its attributes; rejected without the required one, with both alternatives of the
    choice, with a too long customised attribute, with non-byte simple content, with an undeclared
    attribute -/
example : (genA (appA iface [] [] modNs choice)).valid good = true ∧
    (genA (appA iface [] [] modNs choice)).valid noCur = false ∧
    (genA (appA iface [] [] modNs choice)).valid both = false ∧
    (genA (appA iface [] [] modNs choice)).valid longVer = false ∧
    (genA (appA iface [] [] modNs choice)).valid badData = false ∧
    (genA (appA iface [] [] modNs choice)).valid undeclared = false := iface_checks.2

end SpyneModel.Props.C06
