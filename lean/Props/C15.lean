/-
  C15 — deriving a model never changes another model; field order is deterministic.
  Property theorems only; every theorem is about the model instantiated with the facts regenerated from
  /repo (`Generated.facts15`), side conditions discharged by `decide`.

  Vocabulary (SpyneModel/Derive*.lean): a `Heap` of classes and `Attributes` records; `Op` = primitive call /
  customize (with child_attrs, child_attrs_all) / Array, Iterable / Mandatory / class statement / append_field /
  insert_field / XmlAttribute; `apply` runs one operation (the heap of a *raising* operation is the heap it
  reached); `runOps` a history; `obs1` = what is observable of one class (resolved public attributes,
  validation verdicts on the probe values, ordered field table, base, original, type name, namespace);
  `deepObs` = the deep, identity-free snapshot; `touched` = the classes an operation is entitled to change
  (append/insert: the class and the keys of its `_variants`; a class statement: the class it extends; everything
  else: nothing);
  `Inv` = the variants discipline (every class of the ComplexModel family has its own `_variants`, whose keys
  are exactly its customised variants).
-/
import Proofs.DeriveExact
import Proofs.DeriveWitness
import SpyneModel.Generated.Facts15
namespace SpyneModel.Props.C15
open SpyneModel.Derive SpyneModel.Generated

/-- the switches measured on /repo have their good values: Mandatory copies, every class - with or without an
    `Attributes` of its own - owns its `_variants`, a derived class gets a deep copy of `sqla_column_args`,
    `customize(prot=p)` merges into a copy of the protocol's `type_attrs`, only class statements register with the
    class they extend -/
theorem good_facts : GoodFacts facts15 := ⟨by decide, by decide, by decide, by decide, by decide, by decide⟩

instance : DeepCopy facts15 := good_facts.deepCopy

/-! ### histories keep the variants discipline -/

theorem discipline_initially : Inv (initHeap facts15) := inv_init facts15 (by decide)

/-- after any history of operations (returning or raising), from the initial pool -/
theorem discipline_always (fuel : Nat) (ops : List Op) : Inv (runOps facts15 fuel (initHeap facts15) ops) :=
  inv_runOps facts15 good_facts fuel ops _ discipline_initially

/-- the keys of a class's `_variants` are exactly the customised variants of that class - never those of its
    base class or of a subclass -/
theorem variants_are_the_customised (fuel : Nat) (ops : List Op) (c : Nat) (cl : Cls)
    (hc : (runOps facts15 fuel (initHeap facts15) ops).cls[c]? = some cl) (hk : cl.kind.isComplex = true) (v : Nat) :
    v ∈ variantsOf (runOps facts15 fuel (initHeap facts15) ops) c
      ↔ ∃ vc, (runOps facts15 fuel (initHeap facts15) ops).cls[v]? = some vc ∧ vc.kind.isComplex = true
          ∧ vc.orig = some c :=
  variants_exact _ (discipline_always fuel ops) c cl hc hk v

/-! ### frame -/

/-- FRAME (one step, records): an operation - returning or raising half-way - leaves the class record of every
    existing model outside `touched`, the public part of every existing `Attributes` class, and the
    family / `Attributes` / original of *every* existing model as they were -/
theorem frame_step (fuel : Nat) (h : Heap) (ih : Inv h) (op : Op) :
    Ext h.cls.length h.attrs.length (touched facts15 h op) h (apply facts15 fuel h op).heap :=
  frame_ext facts15 good_facts fuel h ih op

/-- FRAME (one step, observations): resolved attributes, verdicts, fields, base, original, type name and
    namespace of every existing model outside `touched` are unchanged -/
theorem frame_step_obs (fuel : Nat) (h : Heap) (ih : Inv h) (op : Op) (c : Nat) (hc : c < h.cls.length)
    (ht : c ∉ touched facts15 h op) :
    obs1 facts15 (apply facts15 fuel h op).heap c = obs1 facts15 h c :=
  frame_obs facts15 good_facts fuel h ih op c hc ht

/-- deriving operations are entitled to change nothing at all -/
theorem deriving_touches_nothing (h : Heap) (op : Op) (hop : op.derives = true) : touched facts15 h op = [] := by
  cases op <;> simp [touched, Op.derives] at hop ⊢
  decide

/-- a class statement is entitled to change one existing class only: the one it extends (whose `_subclasses` list
    gets the new class); customising that subclass later - customize, child attributes, Mandatory, Array - is a
    deriving operation and touches nothing (`deriving_touches_nothing`), so the base's `_subclasses` stay as they are -/
theorem class_statement_touches_base_only (h : Heap) (base : Option Nat) (name : String) (ns : Option String)
    (fields : List (String × Nat)) (perm : List Nat) (attrs : Option Kw) (mixins : List Nat) (asMixin : Bool) (x : Nat)
    (hx : x ∈ touched facts15 h (.subclass base name ns fields perm attrs mixins asMixin)) :
    ∃ bc, h.cls[base.getD facts15.complexRoot]? = some bc
      ∧ subclassExtends (base.getD facts15.complexRoot) bc = .ok (some x) := by
  simp only [touched] at hx
  cases hb : h.cls[base.getD facts15.complexRoot]? with
  | none => simp [hb] at hx
  | some bc =>
    simp only [hb] at hx
    cases hs : subclassExtends (base.getD facts15.complexRoot) bc with
    | error e => simp [hs] at hx
    | ok ext =>
      cases ext with
      | none => simp [hs] at hx
      | some e =>
        simp only [hs, List.mem_singleton] at hx
        subst hx
        exact ⟨bc, rfl, hs⟩

/-- append_field / insert_field are entitled to change the class and its own customised variants only -/
theorem evolving_touches_class_and_variants (fuel : Nat) (ops : List Op) (c : Nat) (name : String) (t x : Nat)
    (cl : Cls) (hc : (runOps facts15 fuel (initHeap facts15) ops).cls[c]? = some cl) (hk : cl.kind.isComplex = true)
    (hx : x ∈ touched facts15 (runOps facts15 fuel (initHeap facts15) ops) (.append c name t)) :
    x = c ∨ ∃ vc, (runOps facts15 fuel (initHeap facts15) ops).cls[x]? = some vc ∧ vc.kind.isComplex = true
      ∧ vc.orig = some c := by
  simp only [touched, List.mem_cons] at hx
  rcases hx with rfl | hx
  · left; rfl
  · right; exact (variants_are_the_customised fuel ops c cl hc hk x).mp hx

/-- FRAME (histories): for every history `ops0` from the initial pool, every continuation `ops` and every model
    existing after `ops0`: if no step of `ops` is entitled to change it, its observation at the end is the one it
    had - whatever was derived from it or from others, appended or inserted elsewhere, and whichever steps raised -/
theorem history_frame (fuel : Nat) (ops0 ops : List Op) (c : Nat)
    (hc : c < (runOps facts15 fuel (initHeap facts15) ops0).cls.length)
    (hu : untouched facts15 fuel c (runOps facts15 fuel (initHeap facts15) ops0) ops) :
    obs1 facts15 (runOps facts15 fuel (runOps facts15 fuel (initHeap facts15) ops0) ops) c
      = obs1 facts15 (runOps facts15 fuel (initHeap facts15) ops0) c :=
  SpyneModel.Derive.history_frame facts15 good_facts fuel ops _ (discipline_always fuel ops0) c hc hu

/-- DEEP FRAME: the deep snapshot (the model with everything it refers to: field types, base classes, wrapped
    types, recursively; flat field order included) is unchanged when the shallow observation of every model in
    a reference-closed set around it is unchanged -/
theorem deep_frame (h h' : Heap) (S : Nat → Prop)
    (hs : ∀ x, S x → obs1 facts15 h' x = obs1 facts15 h x)
    (hclosed : ∀ x o, S x → obs1 facts15 h x = some o → ∀ y, y ∈ succs o → S y)
    (fuel c : Nat) (hc : S c) : deepObs facts15 fuel h' c = deepObs facts15 fuel h c :=
  deepObs_congr facts15 h h' S hs hclosed fuel c hc

/-- the class returned by a deriving operation is a new one -/
theorem derive_returns_new (fuel : Nat) (h h' : Heap) (op : Op) (hop : op.derives = true) (id : Nat)
    (hr : apply facts15 fuel h op = .ok h' (some id)) : h.cls.length ≤ id :=
  derive_new_id facts15 (by decide) fuel h h' op hop id hr

/-! ### exactly the requested constraints -/

/-- calling / customising a primitive: each attribute of the returned class is the value written for it by the
    keyword loop (aliases resolved, see `normOne`; `nillable` re-initialised with the value in force), and every
    attribute the loop did not write resolves to what the source class resolves to -/
theorem primitive_customize_exact (fuel : Nat) (ops : List Op) (src : Nat) (kw : Kw) (h' : Heap) (id : Nat) (sc : Cls)
    (hsc : (runOps facts15 fuel (initHeap facts15) ops).cls[src]? = some sc)
    (hr : simpleCustomize facts15 src kw (runOps facts15 fuel (initHeap facts15) ops) = .ok h' id) (k : String) :
    attrOf h' id k
      = match kwLookup (newAttrRec facts15 (runOps facts15 fuel (initHeap facts15) ops) sc.attrs
          (if sc.kind == .number then numberKw facts15 (runOps facts15 fuel (initHeap facts15) ops) sc.attrs kw else kw)).own k with
        | some v => some v
        | none => attrOf (runOps facts15 fuel (initHeap facts15) ops) src k :=
  simpleCustomize_exact facts15 src kw _ h' id (discipline_always fuel ops) sc hsc hr k

/-- `customize` of a ComplexModel / Array class, with or without child_attrs / child_attrs_all: the class returned
    is new, of the same family, registered with the same original, and its attributes are exactly the keyword
    loop's writes on top of what the source class resolves to -/
theorem complex_customize_exact (fuel f : Nat) (ops : List Op) (src : Nat) (kw : Kw)
    (ca : Option (List (String × Kw))) (caa : Option Kw) (h' : Heap) (id : Nat) (sc : Cls)
    (hsc : (runOps facts15 fuel (initHeap facts15) ops).cls[src]? = some sc)
    (hr : custComplex facts15 (f + 1) src kw ca caa (runOps facts15 fuel (initHeap facts15) ops) = .ok h' id) :
    (runOps facts15 fuel (initHeap facts15) ops).cls.length ≤ id
      ∧ (∃ cl, h'.cls[id]? = some cl ∧ cl.kind = sc.kind ∧ cl.orig = some (sc.orig.getD src))
      ∧ ∀ k, attrOf h' id k
          = match kwLookup (newAttrRec facts15 (runOps facts15 fuel (initHeap facts15) ops) sc.attrs kw).own k with
            | some v => some v
            | none => attrOf (runOps facts15 fuel (initHeap facts15) ops) src k :=
  custComplex_exact facts15 f src kw ca caa _ h' id (discipline_always fuel ops) sc hsc hr

/-- container-valued attribute `sqla_column_args`: the derived class's column keywords are a dict of its own -
    the source's keywords plus `primary_key` (`pk`) / `autoincrement` / `onupdate` / `server_default` as requested.
    (That the source, its other derivatives and their users keep theirs is part of `frame_step_obs` /
    `history_frame`: `obs1` contains the resolved column keywords.) -/
theorem column_keywords_exact (src : Nat) (kw : Kw) (h h' : Heap) (id : Nat) (sc : Cls)
    (hsc : h.cls[src]? = some sc) (hr : simpleCustomize facts15 src kw h = .ok h' id) :
    (obs1 facts15 h' id).map (·.col)
      = some (some (applyCol (((colH h sc.attrs).map (·.2)).getD [])
          (colWrites (if sc.kind == .number then numberKw facts15 h sc.attrs kw else kw)))) :=
  simpleCustomize_col facts15 src kw h h' id sc hsc hr

/-- re-deriving a facet (`Unicode(pattern=A)(pattern=B)`, `Integer(ge=0)(ge=3)`, lengths, values ...): the verdict
    function of the derived type (validate_native / validate_string on all probe values) is the verdict function of
    the attributes the keyword loop wrote - the compiled regex `_pattern_re` follows `pattern` (`patRule = always`,
    by `decide`, see `pattern_recompiled`) - on top of the source's attributes -/
theorem derived_verdicts_exact (fuel : Nat) (ops : List Op) (src : Nat) (kw : Kw) (h' : Heap) (id : Nat) (sc : Cls)
    (hsc : (runOps facts15 fuel (initHeap facts15) ops).cls[src]? = some sc)
    (hr : simpleCustomize facts15 src kw (runOps facts15 fuel (initHeap facts15) ops) = .ok h' id) :
    ∃ cl, h'.cls[id]? = some cl ∧ verdicts h' cl = verdictsFn sc.kind sc.lo sc.hi (fun k =>
      match kwLookup (newAttrRec facts15 (runOps facts15 fuel (initHeap facts15) ops) sc.attrs
          (if sc.kind == .number then numberKw facts15 (runOps facts15 fuel (initHeap facts15) ops) sc.attrs kw else kw)).own k with
      | some v => some v
      | none => attrOf (runOps facts15 fuel (initHeap facts15) ops) src k) :=
  simpleCustomize_verdicts facts15 src kw _ h' id (discipline_always fuel ops) sc hsc hr

/-- whenever the keyword loop writes a pattern, the fresh `Attributes` holds the regex compiled from *that* pattern -/
theorem pattern_recompiled (h : Heap) (a : Nat) (kw : Kw) (v : AVal)
    (hp : kwLookup (normKw kw) "pattern" = some v) (hv : v ≠ .none) :
    kwLookup (newAttrRec facts15 h a kw).own "_pattern_re" = some v := by
  have hr : facts15.patRule = .always := by decide
  have hv' : (v == AVal.none) = false := by simpa using hv
  simp only [newAttrRec, hp, hr, hv', Bool.false_eq_true, if_false]
  simp [kwLookup]

/-- delayed child attributes, precedence: `append_field` and `insert_field` customise the new field first with the
    variant's `child_attrs_all`, then with the `child_attrs` entry given for that field name ... -/
theorem delayed_general_then_specific (fuel : Nat) (name : String) (t c idx : Nat) :
    appendImpl facts15 fuel name t c = (do
        let t2 ← (do
          let t1 ← delayedAll facts15 fuel c t
          delayedOne facts15 fuel c name t1 false)
        updCls c (fun cl => { cl with fields := odictSet cl.fields name t2 }))
    ∧ insertImpl facts15 fuel idx name t c = (do
        let t2 ← (do
          let t1 ← delayedAll facts15 fuel c t
          delayedOne facts15 fuel c name t1 true)
        updCls c (fun cl => { cl with fields := odictInsert cl.fields idx name t2 })) := by
  have h1 : facts15.delayAppend = .allFirst := by decide
  have h2 : facts15.delayInsert = .allFirst := by decide
  constructor
  · simp only [appendImpl, delayedBoth, h1]
  · simp only [insertImpl, delayedBoth, h2]

/-- ... so the specific entry beats the general one (as it does for fields that existed when the variant was made):
    after customising a primitive with `d` and the result with `e`, each attribute is `e`'s write, else `d`'s, else
    the source's -/
theorem specific_beats_general (fuel : Nat) (ops : List Op) (t : Nat) (d e : Kw) (h1 h2 : Heap) (t1 t2 : Nat) (tc : Cls)
    (htc : (runOps facts15 fuel (initHeap facts15) ops).cls[t]? = some tc)
    (r1 : simpleCustomize facts15 t d (runOps facts15 fuel (initHeap facts15) ops) = .ok h1 t1)
    (r2 : simpleCustomize facts15 t1 e h1 = .ok h2 t2) (k : String) :
    ∃ c1, h1.cls[t1]? = some c1 ∧ c1.kind = tc.kind ∧
      attrOf h2 t2 k =
        match kwLookup (newAttrRec facts15 h1 c1.attrs (if c1.kind == .number then numberKw facts15 h1 c1.attrs e else e)).own k with
        | some v => some v
        | none =>
          match kwLookup (newAttrRec facts15 (runOps facts15 fuel (initHeap facts15) ops) tc.attrs
              (if tc.kind == .number then numberKw facts15 (runOps facts15 fuel (initHeap facts15) ops) tc.attrs d else d)).own k with
          | some v => some v
          | none => attrOf (runOps facts15 fuel (initHeap facts15) ops) t k :=
  simpleCustomize_twice_exact facts15 t d e _ h1 h2 t1 t2 (discipline_always fuel ops) tc htc r1 r2 k

/-- `Mandatory(primitive)`: `min_occurs = 1`, `nillable = False`, and `min_len = 1` for Unicode -/
theorem mandatory_primitive_exact (fuel f : Nat) (ops : List Op) (src : Nat) (h' : Heap) (id : Nat) (sc : Cls)
    (hsc : (runOps facts15 fuel (initHeap facts15) ops).cls[src]? = some sc)
    (hk : sc.kind = .number ∨ sc.kind = .unicode ∨ sc.kind = .bytes ∨ sc.kind = .simple)
    (hr : mandatory facts15 (f + 2) src (runOps facts15 fuel (initHeap facts15) ops) = .ok h' id) :
    attrOf h' id "min_occurs" = some (.int 1) ∧ attrOf h' id "nillable" = some (.bool false)
      ∧ (sc.kind = .unicode → attrOf h' id "min_len" = some (.int 1)) :=
  mandatory_simple_exact facts15 (by decide) f src _ h' id (discipline_always fuel ops) sc hsc hk hr

/-- the writes of the keyword loop, latest keyword first -/
theorem keyword_loop_writes (kw : Kw) : normKw kw = (kw.reverse.map (fun p => normOne p.1 p.2)).flatten := by
  unfold normKw
  have : ∀ (l : Kw) (acc : Kw), l.foldl (fun acc p => normOne p.1 p.2 ++ acc) acc
      = (l.reverse.map (fun p => normOne p.1 p.2)).flatten ++ acc := by
    intro l
    induction l with
    | nil => intro acc; simp
    | cons p rest ih => intro acc; simp [List.foldl_cons, ih]
  simp [this kw []]

/-- customising a number keeps its `max_str_len` unless `total_digits` or `max_str_len` is requested -/
theorem number_keeps_max_str_len (h : Heap) (a : Nat) (kw : Kw)
    (h1 : kwLookup kw "max_str_len" = none) (h2 : kwLookup kw "total_digits" = none) :
    kwLookup (numberKw facts15 h a kw) "max_str_len" = none := by
  have hf : facts15.mslRule = .followsRequested := by decide
  simp only [numberKw, h1, h2, hf]
  exact kwLookup_odictErase kw _

/-! ### fields added afterwards reach every variant -/

/-- after a successful `append_field` the class has the field, and so has every model that was a customised
    variant of the class before the call -/
theorem append_reaches_all_variants (fuel : Nat) (ops : List Op) (c : Nat) (name : String) (t : Nat) (h' : Heap)
    (r : Option Nat)
    (hr : apply facts15 fuel (runOps facts15 fuel (initHeap facts15) ops) (.append c name t) = .ok h' r) :
    HasField name h' c ∧ ∀ v vc, (runOps facts15 fuel (initHeap facts15) ops).cls[v]? = some vc →
      vc.kind.isComplex = true → vc.orig = some c → HasField name h' v :=
  (run_evolveOp name _ (implHas_append facts15 fuel name t) (discipline_always fuel ops) c t).post hr

theorem insert_reaches_all_variants (fuel : Nat) (ops : List Op) (c idx : Nat) (name : String) (t : Nat) (h' : Heap)
    (r : Option Nat)
    (hr : apply facts15 fuel (runOps facts15 fuel (initHeap facts15) ops) (.insert c idx name t) = .ok h' r) :
    HasField name h' c ∧ ∀ v vc, (runOps facts15 fuel (initHeap facts15) ops).cls[v]? = some vc →
      vc.kind.isComplex = true → vc.orig = some c → HasField name h' v :=
  (run_evolveOp name _ (implHas_insert facts15 fuel idx name t) (discipline_always fuel ops) c t).post hr

/-! ### field order -/

/-- `append_field`: a new name goes to the end, an existing one keeps its place -/
theorem append_position (d : List (String × Nat)) (k : String) (v : Nat) :
    keysOf (odictSet d k v) = if k ∈ keysOf d then keysOf d else keysOf d ++ [k] := keysOf_odictSet d k v

/-- `insert_field(i, ...)`: the name is taken out if present and put at position `i` (clipped to the end) -/
theorem insert_position (d : List (String × Nat)) (i : Nat) (k : String) (v : Nat) :
    keysOf (odictInsert d i k v) = listInsertAt ((keysOf d).filter (fun x => !(x == k))) i k :=
  keysOf_odictInsert d i k v

/-- a field type with an `order` attribute is taken out of the declared sequence and inserted at that position
    (the documented way to deviate from the declaration order); without such field types the sequence is kept -/
theorem explicit_order_only (h : Heap) (fs : List (String × Nat)) (hn : ∀ p, p ∈ fs → orderOf h p.2 = none) :
    applyOrder h fs = fs := by
  unfold applyOrder
  have h1 : fs.filter (fun p => (orderOf h p.2).isSome) = [] := by
    apply List.filter_eq_nil_iff.mpr
    intro p hp
    simp [hn p hp]
  have h2 : fs.filter (fun p => (orderOf h p.2).isNone) = fs := by
    apply List.filter_eq_self.mpr
    intro p hp
    simp [hn p hp]
  rw [h1, h2]
  rfl

/-- `child_attrs_noexc`: `child_attrs_all` gets `exc=True`, the named entries get `exc=False` and take the place of
    the `child_attrs` entries of the same name; without it both dicts are used as given -/
theorem noexc_none (ca : Option (List (String × Kw))) (caa : Option Kw) : noexcPrep ca caa none = (ca, caa) := rfl

/-- a class statement lists the fields of its `__mixin__` bases first (in base order, each mixin's flat fields in
    their own order), then its own fields in the order written (those the mixins do not define); that order does not
    depend on how an unordered container would enumerate them (hash seed) -/
theorem class_statement_order (base : Option Nat) (name : String) (ns : Option String) (fields : List (String × Nat))
    (perm : List Nat) (attrs : Option Kw) (mixins : List Nat) (asMixin : Bool) (h h' : Heap) (id : Nat)
    (hn : (keysOf fields).Nodup) (hm : (keysOf (mixinFields h mixins)).Nodup)
    (hord : ∀ p, p ∈ prependMixins facts15 (mixinFields h mixins) (declaredFields facts15 perm fields) →
      orderOf h p.2 = none)
    (hr : subclassOp facts15 base name ns fields perm attrs mixins asMixin h = .ok h' id) :
    ∃ cl, h'.cls[id]? = some cl ∧ keysOf cl.fields
      = keysOf (mixinFields h mixins)
        ++ (keysOf fields).filter (fun k => !(keysOf (mixinFields h mixins)).contains k) := by
  obtain ⟨_, cl, h1, h2, _⟩ :=
    (run_subclassOp facts15 (by decide) (by decide) base name ns fields perm attrs mixins asMixin).post hr
  refine ⟨cl, h1, ?_⟩
  rw [h2, explicit_order_only h _ hord]
  have hmo : facts15.mixinOrder = .declared := by decide
  simp only [prependMixins, hmo, declaredFields_ordered facts15 (by decide)]
  rw [keysOf_prepend _ _ hm, keysOf_odictFromList fields hn]

theorem class_statement_seed_independent (op1 op2 : List Nat) (base : Option Nat) (name : String) (ns : Option String)
    (fields : List (String × Nat)) (attrs : Option Kw) (mixins : List Nat) (asMixin : Bool) (h : Heap) :
    subclassOp facts15 base name ns fields op1 attrs mixins asMixin h
      = subclassOp facts15 base name ns fields op2 attrs mixins asMixin h := by
  simp only [subclassOp, subclassRest, declaredFields_ordered facts15 (by decide)]

/-- `customize(prot=p)`: the protocol's `type_attrs` dict is what it was, after any operation -/
theorem protocol_defaults_untouched (fuel : Nat) (h : Heap) (ih : Inv h) (op : Op) :
    (apply facts15 fuel h op).heap.prots = h.prots := (frame_step fuel h ih op).prots

/-- flat type info (what every protocol and the schema generator iterate): parents first ... -/
theorem flat_parents_first (fuel : Nat) (h : Heap) (c e : Nat) (cl : Cls) (hc : h.cls[c]? = some cl)
    (he : cl.ext = some e) : flatKeysF fuel h e <+: flatKeysF (fuel + 1) h c := by
  rw [flatKeysF_succ fuel h c cl hc, he]
  exact mergeKeys_prefix _ _

/-- ... then the own fields the bases do not have, in `_type_info` order -/
theorem flat_then_own (fuel : Nat) (h : Heap) (c : Nat) (cl : Cls) (hc : h.cls[c]? = some cl)
    (hn : (keysOf cl.fields).Nodup) :
    flatKeysF (fuel + 1) h c
      = (match cl.ext with | some e => flatKeysF fuel h e | none => [])
        ++ (keysOf cl.fields).filter
            (fun k => !(match cl.ext with | some e => flatKeysF fuel h e | none => []).contains k) := by
  rw [flatKeysF_succ fuel h c cl hc]
  exact mergeKeys_nodup _ _ hn

/-! ### non-vacuity: a concrete history (pool slots 0.. are Integer, Unicode, Decimal, Integer32, ...) -/

-- The histories and what is asked of them stand in Proofs/DeriveWitness.lean: the facts about one history (or one group
-- of short ones) are checked there by one evaluation (`history_s`, `history_p`, `history_obs`, `history_fields`), since
-- what the kernel has worked out of a history it keeps within one declaration only; the examples quote its conjuncts.
example : s1.heap.cls.length = 13 ∧ s3.heap.cls.length = 15 ∧ s4.heap.cls.length = 20 := history_s.1
-- B's variants are B's, A's are A's
example : variantsOf s4.heap 12 = [14, 17] ∧ variantsOf s4.heap 13 = [15] := history_s.2.1
example : touched facts15 s4.heap (.append 13 "w" 1) = [13, 15] := history_s.2.2.1
-- the appended field reached B and its variant (there customised by the delayed child_attrs_all), not A's variant
example : (s5.heap.cls[13]?).map (fun c => keysOf c.fields) = some ["c", "w"]
    ∧ (s5.heap.cls[15]?).map (fun c => keysOf c.fields) = some ["c", "w"]
    ∧ (s5.heap.cls[14]?).map (fun c => keysOf c.fields) = some ["a", "b"] := history_s.2.2.2.1
example : flatKeys s5.heap 15 = ["a", "b", "c", "w"] := history_s.2.2.2.2.1
-- Mandatory(Array(Integer)) leaves the array's member alone and gives the new array a mandatory one
example : obs1 facts15 s7.heap 21 = obs1 facts15 s6.heap 21 := history_s.2.2.2.2.2.1
example : ((s7.heap.cls[23]?).bind (fun c => (c.fields.head?).map (fun p => attrOf s7.heap p.2 "min_occurs")))
    = some (some (.int 1)) := history_s.2.2.2.2.2.2.1
-- Integer32(ge=0) keeps the length guard of Integer32
example : attrOf s8.heap 25 "max_str_len" = attrOf s8.heap 3 "max_str_len" ∧ attrOf s8.heap 25 "ge" = some (.int 0) :=
  history_s.2.2.2.2.2.2.2.1
example : (obs1 facts15 b2.heap 12).map (·.subs) = some (some [13]) ∧ obs1 facts15 b5.heap 12 = obs1 facts15 b2.heap 12 :=
  history_obs.1
example : (n2.heap.cls[13]?).map (fun c => c.fields.map (fun p => (p.1, attrOf n2.heap p.2 "exc", attrOf n2.heap p.2 "min_occurs")))
    = some [("a", some (.bool false), some (.int 1)), ("b", some (.bool true), some (.int 2)), ("c", some (.bool true), some (.int 1))] :=
  history_fields.1
example : (o3.heap.cls[14]?).map (fun c => keysOf c.fields) = some ["y", "z", "x", "w"] := history_fields.2.1
example : obs1 facts15 a2.heap 12 = obs1 facts15 a1.heap 12 ∧ obs1 facts15 a2.heap 13 = obs1 facts15 a1.heap 13 := history_obs.2.1
example : (m4.heap.cls[15]?).map (fun c => keysOf c.fields) = some ["x", "y", "z", "c"]
    ∧ flatKeys m4.heap 15 = ["a", "x", "y", "z", "c"] := history_fields.2.2.1
example : ((d3.heap.cls[13]?).bind (fun c => (odictGet c.fields "later").map (fun t => attrOf d3.heap t "min_occurs")))
    = some (some (.int 2))
    ∧ ((d3.heap.cls[13]?).bind (fun c => (odictGet c.fields "a").map (fun t => attrOf d3.heap t "min_occurs")))
    = some (some (.int 1)) := history_fields.2.2.2
example : attrOf p2.heap 13 "_pattern_re" = some (.str "[0-9]+") ∧ attrOf p2.heap 12 "_pattern_re" = some (.str "[a-z]+") :=
  history_p.1
example : (p2.heap.cls[13]?).map (fun c => (verdicts p2.heap c).drop 15) =
    some [false, false, false, false, false, false, true, true, false] := history_p.2
example : (obs1 facts15 c3.heap 12).map (·.col) = some (some [])
    ∧ (obs1 facts15 c3.heap 13).map (·.col) = some (some [("primary_key", .bool true)])
    ∧ (obs1 facts15 c3.heap 14).map (·.col) = some (some [("autoincrement", .bool true)])
    ∧ (obs1 facts15 c3.heap 1).map (·.col) = some none := history_obs.2.2
example : untouched facts15 1000 12 s4.heap [.append 13 "w" 1, .array 0 none [] false false, .mandatory 21] :=
  ⟨history_s.2.2.2.2.2.2.2.2.1, history_s.2.2.2.2.2.2.2.2.2.1, history_s.2.2.2.2.2.2.2.2.2.2, trivial⟩

end SpyneModel.Props.C15
