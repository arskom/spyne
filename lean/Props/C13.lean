/-
  C13 — WSGI response protocol and request-size limit.
  Property theorems only. Every theorem is about the model `Wsgi.handle` instantiated with the facts
  regenerated from /repo (`Generated.facts13`); the side conditions on the facts are discharged by
  `decide`, so a theorem stops compiling when the code stops having the behaviour it needs.

  `handle facts13 cfg req stream abort : List Ev` is the trace of one request:
    cfg    — chunked / max_content_length / block_length, any values
    req    — ?wsdl or an rpc request: protocol family, CONTENT_LENGTH text (absent, empty, any text),
             length of the request document, what the complete document leads to (malformed, unknown
             method, validation error, each fault class raised by user code, success with a plain /
             generator / user-supplied lazy or sized out_string, serialisation failure), and transport-level
             listeners that replace the outgoing stream: `wsgi_return` (any new chunking, sized or lazy)
             and `wsgi_exception` (any new chunk list); a synchronous auxiliary method bound to the
             called one (ok / Fault / non-Fault in its user code / unserialisable response, with or
             without `process_exceptions`); response headers the user function sets (str / list / tuple)
    stream — an adversarial `wsgi.input`: the i-th read(n) returns min n aᵢ bytes, then EOF
    abort  — `none`: the server takes the whole body; `some k`: it stops after k chunks; either way it
             then calls close() on the iterable, unless `req.serverSkipsClose`
  All of these are universally quantified, without bounds, in every theorem below.
-/
import Proofs.Wsgi
import SpyneModel.Generated.Facts13
namespace SpyneModel.Props.C13
open SpyneModel SpyneModel.Wsgi SpyneModel.Generated

/-! ### the facts of /repo (T1) -/

/-- the fourteen behaviour switches of `Facts13.Good` measured on /repo have their good values: the context is
    finalised by the response iterable (rpc and ?wsdl), chunks are joined as bytes, a non-numeric CONTENT_LENGTH
    and an empty Soap11 body are faults, `next(g)` on a generator result is guarded, the
    `wsgi_return` / `wsgi_exception` events fire before the transport measures the outgoing stream, the auxiliary
    run after `start_response` is guarded against every exception (in `handle_rpc` and in `handle_error`),
    `_ResponseBody.close` takes the finalizer out before it runs it, `handle_error` turns a one-shot `out_string`
    (generator, other iterator) into a list before it sums the lengths, and the join of an unchunked response
    happens where a failure can still be answered with a fault -/
theorem facts_good : facts13.Good := by decide

/-- every status the transport can pick by itself is a three-digit HTTP status -/
theorem builtin_statuses_are_three_digit (fc : FaultClass) :
    (100 ≤ facts13.statusPlain fc ∧ facts13.statusPlain fc ≤ 599) ∧
    (100 ≤ facts13.statusSoap fc ∧ facts13.statusSoap fc ≤ 599) ∧
    (100 ≤ facts13.preRejectStatus ∧ facts13.preRejectStatus ≤ 599) ∧
    (100 ≤ facts13.okStatus ∧ facts13.okStatus ≤ 599) ∧
    (100 ≤ facts13.wsdlOkStatus ∧ facts13.wsdlOkStatus ≤ 599) ∧
    (100 ≤ facts13.wsdlUnavailableStatus ∧ facts13.wsdlUnavailableStatus ≤ 599) ∧
    (100 ≤ facts13.wsdlErrorStatus ∧ facts13.wsdlErrorStatus ≤ 599) := by
  cases fc <;> decide

/-- the request-too-long fault has a status of its own outside Soap11 (413) -/
theorem too_long_status : facts13.statusPlain .tooLong = 413 := by decide

/-! ### PEP 3333: start_response, body chunks, Content-Length -/

/-- no exception escapes the callable, whatever the request, configuration, stream and abort point -/
theorem never_crashes (cfg : Cfg) (req : Req) (stream : List Nat) (abort : Option Nat) :
    ∀ e ∈ handle facts13 cfg req stream abort, isCrash e = false := by
  obtain ⟨pre, o, h, _, _⟩ := handle_answered facts13 cfg req stream abort facts_good
  exact h.no_crash

/-- `start_response` is called exactly once -/
theorem start_response_exactly_once (cfg : Cfg) (req : Req) (stream : List Nat) (abort : Option Nat) :
    List.countP isStart (handle facts13 cfg req stream abort) = 1 := by
  obtain ⟨pre, o, h, _, _⟩ := handle_answered facts13 cfg req stream abort facts_good
  exact h.start_once

/-- ... and before any body chunk -/
theorem start_response_before_body (cfg : Cfg) (req : Req) (stream : List Nat) (abort : Option Nat) :
    noneBefore isChunk isStart (handle facts13 cfg req stream abort) = true := by
  obtain ⟨pre, o, h, _, _⟩ := handle_answered facts13 cfg req stream abort facts_good
  exact h.start_before_chunks

/-- the status is a three-digit code: it is one of the built-in ones (previous section) or one the
    user function set itself -/
theorem status_line (cfg : Cfg) (req : Req) (stream : List Nat) (abort : Option Nat)
    (hp : ∀ p ∈ req.presets, 100 ≤ p ∧ p ≤ 599)
    (s : Nat) (f : Option FaultClass) (c : Option Nat)
    (hm : Ev.startResponse s f c ∈ handle facts13 cfg req stream abort) : 100 ≤ s ∧ s ≤ 599 := by
  obtain ⟨pre, o, h, hr, hw⟩ := handle_answered facts13 cfg req stream abort facts_good
  rw [(h.start_of hm).1]
  cases hwk : req.wsdl with
  | some k =>
    rw [hw k hwk]
    have := builtin_statuses_are_three_digit .client
    cases k <;> simp only [wsdlOut, atServer] <;> omega
  | none =>
    obtain ⟨o', _, rfl, hs⟩ := hr hwk
    show 100 ≤ o'.status ∧ o'.status ≤ 599
    rcases hs.status with ⟨fc, h1⟩ | ⟨fc, h1⟩ | h1 | h1 | h1
    · rw [h1]; exact (builtin_statuses_are_three_digit fc).1
    · rw [h1]; exact (builtin_statuses_are_three_digit fc).2.1
    · rw [h1]; exact (builtin_statuses_are_three_digit .client).2.2.1
    · rw [h1]; exact (builtin_statuses_are_three_digit .client).2.2.2.1
    · exact hp _ h1

/-- all body chunks are bytes (the ?wsdl error answers included) -/
theorem body_chunks_are_bytes (cfg : Cfg) (req : Req) (stream : List Nat) (abort : Option Nat)
    (n : Nat) (b : Bool) (hm : Ev.chunk n b ∈ handle facts13 cfg req stream abort) : b = true := by
  obtain ⟨pre, o, h, hr, hw⟩ := handle_answered facts13 cfg req stream abort facts_good
  have hc := h.chunks_of hm
  cases hwk : req.wsdl with
  | some k =>
    rw [hw k hwk] at hc
    have hb : facts13.wsdlErrBytes = true := by decide
    cases k <;> simp [wsdlOut, atServer, hb] at hc <;> exact hc.2
  | none =>
    obtain ⟨o', _, rfl, hs⟩ := hr hwk
    exact (hs.wf facts_good).bytes _ hc

/-- a Content-Length header, when sent, equals the number of body bytes: the delivered bytes never
    exceed it, and reach it exactly when the server takes the whole body — for every request, including
    those whose `wsgi_return` / `wsgi_exception` listener replaced the outgoing stream -/
theorem content_length_exact (cfg : Cfg) (req : Req) (stream : List Nat) (abort : Option Nat)
    (s : Nat) (f : Option FaultClass) (n : Nat)
    (hm : Ev.startResponse s f (some n) ∈ handle facts13 cfg req stream abort) :
    bodyBytes (handle facts13 cfg req stream abort) ≤ n ∧
    (abort = none → bodyBytes (handle facts13 cfg req stream abort) = n) := by
  obtain ⟨pre, o, h, _, _⟩ := handle_answered facts13 cfg req stream abort facts_good
  exact h.content_length s f n hm

/-- what a `wsgi_return` listener put in place of the outgoing stream is what the transport joins,
    measures and sends -/
theorem rewritten_response_is_measured (cfg : Cfg) (req : Req) (r : Resp) (w : Rewrite)
    (h : req.onReturn = some w) :
    withReturnListener facts13 cfg req r = successOut facts13 cfg { r with chunks := w.chunks, sized := w.sized } := by
  have hb := facts_good.returnEventBeforeLength
  simp [withReturnListener, h, hb]

/-- what a `wsgi_exception` listener put in place of the fault document is what is measured and sent -/
theorem rewritten_fault_is_measured (req : Req) (preset : Option Nat) (fc : FaultClass) (w : List Nat)
    (h : req.onException = some w) :
    ∃ o, errorOut facts13 req preset fc = .out o ∧ o.cl = some (sum w) ∧ o.chunks = w.map (fun n => (n, true)) := by
  have hb := facts_good.errorEventBeforeLength
  exact ⟨_, rfl, by simp [errLen, errMeasured, h, hb], by simp [errBody, h]⟩

/-- the request of the witnesses that show why a fact matters: nothing to read, a sized answer of one chunk of five
    bytes, no listener, no auxiliary method -/
def fiveBytes : Req :=
  { wsdl := none, soapOut := false, soapIn := false, preReject := false, readsBody := false,
    contentLength := none, docLen := 0, faultLen := 9,
    intended := .success ⟨none, .notGen, false, .server, false, [5], true⟩, onReturn := none, onException := none,
    aux := .none, auxOnErrors := false, userHeaders := [],
    closeListener := .none, serverSkipsClose := false, faultBody := none, faultIter := .list }

/-- why the two event facts matter (any `F`): with `wsgi_return` fired after the length computation a
    listener that changes the size of the stream makes the announced length wrong -/
theorem return_event_after_length_breaks_content_length (F : Facts13)
    (hb : F.returnEventBeforeLength = false) (ht : F.closeTiming = .afterBody) (hj : F.joinKind = .bytes) :
    ∃ (cfg : Cfg) (req : Req) (n : Nat), Ev.startResponse F.okStatus none (some n) ∈ handle F cfg req [] none ∧
      bodyBytes (handle F cfg req [] none) ≠ n :=
  ⟨⟨false, 100, 7⟩,
   { fiveBytes with onReturn := some ⟨[2], true⟩ },
   5, by simp [fiveBytes, handle, process, intendedResult, afterUser, respond, withAux, withReturnListener, successOut, hb, ht, hj, finish,
     deliver, auxEvs, hdrEvs, hdrEvsFrom, sum, chunkEvs, taken, finalEvs, finalOnce, finalRaises, rpcFinal,
     Result.atServer, atServer, bodyBytes]⟩

/-- with `chunked=False` every rpc answer carries a Content-Length -/
theorem unchunked_sends_content_length (cfg : Cfg) (req : Req) (stream : List Nat) (abort : Option Nat)
    (hc : cfg.chunked = false) (hw : req.wsdl = none) :
    ∃ s f n, Ev.startResponse s f (some n) ∈ handle facts13 cfg req stream abort := by
  obtain ⟨pre, o, h, hr, _⟩ := handle_answered facts13 cfg req stream abort facts_good
  obtain ⟨o', _, rfl, hs⟩ := hr hw
  obtain ⟨n, hn⟩ := hs.hasCl hc
  refine ⟨o'.status, o'.fault, n, ?_⟩
  rw [h.eq]
  simp [answer, atServer, hn]

/-- a server that stops after `k` chunks is handed at most `k` chunks -/
theorem abort_respected (cfg : Cfg) (req : Req) (stream : List Nat) (k : Nat) :
    List.countP isChunk (handle facts13 cfg req stream (some k)) ≤ k := by
  obtain ⟨pre, o, h, _, _⟩ := handle_answered facts13 cfg req stream (some k) facts_good
  exact h.abort_respected

/-- "string headers": every `(name, value)` pair given to `start_response` that stems from a header the
    user function stored — as a string, a list or a tuple of strings — carries a native string
    (`_gen_http_headers` expands lists and tuples alike; Content-Type / Content-Length are strings by
    construction) -/
theorem headers_are_strings (cfg : Cfg) (req : Req) (stream : List Nat) (abort : Option Nat)
    (k : Nat) (b : Bool) (h : Ev.hdr k b ∈ handle facts13 cfg req stream abort) : b = true :=
  hdr_str facts13 cfg req stream abort (by decide) k b h

/-- a header with a tuple (or list) of n values reaches `start_response` as n string pairs -/
theorem multi_valued_headers_expand (k n : Nat) :
    hdrPairs facts13 k (.tuple n) = List.replicate n (.hdr k true) ∧
    hdrPairs facts13 k (.list n) = List.replicate n (.hdr k true) := by
  have hb : facts13.headerTuplesExpanded = true := by decide
  simp [hdrPairs, hb]

/-! ### auxiliary methods -/

/-- a synchronous auxiliary method runs at most once, after `start_response` and before the callable
    hands its iterable over; whatever it does — Fault, any other exception in its user code, a response
    that cannot be serialised — the theorems of this file hold unchanged (they quantify over `req.aux`):
    in particular `never_crashes`, `start_response_exactly_once`, `context_closed_once_after_body` -/
theorem aux_runs_between_start_response_and_handover (cfg : Cfg) (req : Req) (stream : List Nat)
    (abort : Option Nat) :
    List.countP isAux (handle facts13 cfg req stream abort) ≤ 1 ∧
    noneBefore isAux isStart (handle facts13 cfg req stream abort) = true ∧
    noneAfter isAux isReturned (handle facts13 cfg req stream abort) = true := by
  obtain ⟨pre, o, h, _, _⟩ := handle_answered facts13 cfg req stream abort facts_good
  exact h.aux_between

/-- why the guard facts matter (any `F`): with a guard that lets a non-Fault exception through, an
    auxiliary method whose response cannot be serialised makes the callable raise after
    `start_response`: nothing is handed over and the request context is never closed -/
theorem aux_guard_that_is_not_catch_all_breaks_the_response (F : Facts13) (hg : F.auxGuardOk = false)
    (hj : F.joinKind = .bytes) :
    ∃ (cfg : Cfg) (req : Req),
      handle F cfg req [] none = [.user, .startResponse F.okStatus none (some 5), .aux, .crash "TypeError"] :=
  ⟨⟨false, 100, 7⟩,
   { fiveBytes with aux := .serFail },
   by simp [fiveBytes, handle, process, intendedResult, afterUser, respond, withAux, withReturnListener, successOut, hg, hj, finish,
     deliver, auxEvs, hdrEvs, hdrEvsFrom, sum, Result.atServer, atServer]⟩

/-- a failure while the response is being built (a generator body failing after its first yield, an
    unserialisable value, a failing MTOM packaging) is answered through `handle_error` with the class of
    what was raised (a Fault keeps its class, anything else is a Server fault); the status chosen so far
    is dropped, the fault decides -/
theorem late_failure_is_a_fault_of_its_class (cfg : Cfg) (req : Req) (r : Resp)
    (hs : r.serializeFails = true) (hg : r.gen = .notGen ∨ r.gen = .yields) :
    afterUser facts13 cfg req r =
      withAux req req.auxOnErrors true (errorOut facts13 req none r.serFailClass) := by
  have h1 : facts13.lateErrorKeepsOkStatus = false := by decide
  have h2 := facts_good.auxGuardError
  rcases hg with hg | hg <;> simp [afterUser, respond, lateError, hs, hg, h1, h2]

/-- a value the *lazy* out protocol cannot write (JsonDocument & co. dump when their out_string is read):
    with `chunked=False` the stream is read — joined — where the failure can still be answered, for
    generator and ordinary methods alike: a Server fault through `handle_error`, never an exception out
    of the callable -/
theorem dump_failure_when_unchunked_is_a_fault (cfg : Cfg) (req : Req) (r : Resp)
    (hs : r.serializeFails = false) (hd : r.dumpFails = true) (hc : cfg.chunked = false) :
    respond facts13 cfg req r = withAux req req.auxOnErrors true (errorOut facts13 req none .server) := by
  have h1 : facts13.lateErrorKeepsOkStatus = false := by decide
  have h2 := facts_good.auxGuardError
  have h3 := facts_good.lateJoinGuard
  simp [respond, lateError, joinGuarded, hs, hd, hc, h1, h2, h3]

/-- why `lateJoinGuard` matters (any `F`): if only generator methods are joined in the guarded region, an
    ordinary method with such a value makes the callable raise before `start_response` -/
theorem unguarded_join_escapes (F : Facts13) (hg : F.lateJoinGuard = .generatorOnly) (cfg : Cfg) (req : Req) (r : Resp)
    (hs : r.serializeFails = false) (hd : r.dumpFails = true) (hc : cfg.chunked = false) (hn : r.gen = .notGen) :
    afterUser F cfg req r = .crash "TypeError" := by
  simp [afterUser, respond, joinGuarded, hs, hd, hc, hn, hg]

/-! ### the request-size limit -/

/-- at most `max_content_length` bytes are ever read from the input stream — for every
    CONTENT_LENGTH text, every block length and every behaviour of the stream -/
theorem bounded_read (cfg : Cfg) (req : Req) (stream : List Nat) (abort : Option Nat) :
    bytesGot (handle facts13 cfg req stream abort) ≤ cfg.maxLen := by
  rw [bytesGot_handle]
  unfold bodyReads
  split
  · exact Nat.zero_le _
  · exact (readBody_spec ..).bounded

/-- ... and never more than the declared length -/
theorem read_within_declared (cfg : Cfg) (req : Req) (stream : List Nat) (abort : Option Nat) (d : Int)
    (hd : declaredLength cfg req.contentLength = some d) :
    bytesGot (handle facts13 cfg req stream abort) ≤ d.toNat := by
  rw [bytesGot_handle]
  unfold bodyReads
  split
  · exact Nat.zero_le _
  · exact (readBody_spec ..).declared d hd

/-- every `read` asks for at most `block_length` bytes (and the stream cannot return more) -/
theorem reads_are_blockwise (cfg : Cfg) (req : Req) (stream : List Nat) (abort : Option Nat) (a g : Nat)
    (h : Ev.read a g ∈ handle facts13 cfg req stream abort) : a ≤ cfg.blockLen ∧ g ≤ a :=
  reads_ok facts13 cfg req stream abort a g h

/-- the reader stops with the stream (no busy loop, even with `block_length = 0`) -/
theorem reader_terminates (cfg : Cfg) (req : Req) (stream : List Nat) (abort : Option Nat) :
    List.countP isRead (handle facts13 cfg req stream abort) ≤ stream.length + 1 :=
  reads_le_stream facts13 cfg req stream abort

/-- the input is read before the user function runs and before `start_response` -/
theorem reads_precede_user_code_and_response (cfg : Cfg) (req : Req) (stream : List Nat) (abort : Option Nat) :
    noneAfter isRead (fun e => isUser e || isStart e) (handle facts13 cfg req stream abort) = true :=
  reads_first facts13 cfg req stream abort

/-- the request-too-long decision is taken on the declared length alone: the check inside the read
    loop (`bytes_to_read + bytes_read > max_content_length`) can never fire -/
theorem too_long_iff_declared_over_limit (cfg : Cfg) (cl : Option Text) (stream : List Nat) :
    (readBody cfg cl stream).2 = .tooLong ↔ ∃ d, declaredLength cfg cl = some d ∧ d > (cfg.maxLen : Int) :=
  (readBody_spec cfg cl stream).tooLong

/-
  FULL STATEMENT of the refusal clause (not provable, see the witness below):
    for a request whose protocol reads the body,
      (declared length > max_content_length  ∨  bytes the stream holds > max_content_length)
      → the answer is the request-too-long fault ∧ no user code runs.
  Proved (`_partial`): the first disjunct — a declared length over the limit. Missing: a body that is
  longer than the limit while CONTENT_LENGTH is absent. The reader then takes the first
  max_content_length bytes and processes them as if they were the request
  (`undeclared_overlong_body_is_truncated`); reported as known finding
  `toolong-not-refused:undeclared`.
-/
/-- a body declared longer than `max_content_length` is refused with the request-too-long fault:
    nothing is read, the user function is not entered, and the trace is exactly the fault answer -/
theorem too_long_refused_partial (cfg : Cfg) (req : Req) (stream : List Nat) (abort : Option Nat) (d : Int)
    (hw : req.wsdl = none) (hp : req.preReject = false) (hb : req.readsBody = true)
    (hd : declaredLength cfg req.contentLength = some d) (h : d > (cfg.maxLen : Int)) :
    handle facts13 cfg req stream abort =
      .startResponse (faultStatus facts13 req .tooLong) (some .tooLong) (some (sum (errMeasured req))) :: .returned ::
        (chunkEvs (taken abort ((errMeasured req).map (fun n => (n, true)))) ++ rpcFinal req.closeListener) := by
  have ht := facts_good.closeTiming
  have he := facts_good.errorEventBeforeLength
  have hf := facts_good.finalizeClearedFirst
  have hm := errBody_eq_measured facts13 req facts_good.errMat
  simp [handle, hw, process_declared_over facts13 cfg req stream d hp hb hd h, finish, errorOut, deliver, ht,
    finalEvs, finalOnce, errLen, he, hf, hm, hdrEvs, auxEvs, Result.atServer, atServer]

/-- consequence: no read, no user code -/
theorem too_long_reads_nothing_runs_nothing (cfg : Cfg) (req : Req) (stream : List Nat) (abort : Option Nat) (d : Int)
    (hw : req.wsdl = none) (hp : req.preReject = false) (hb : req.readsBody = true)
    (hd : declaredLength cfg req.contentLength = some d) (h : d > (cfg.maxLen : Int)) :
    ∀ e ∈ handle facts13 cfg req stream abort, isRead e = false ∧ isUser e = false := by
  intro e he
  simp only [handle, hw, process_declared_over facts13 cfg req stream d hp hb hd h] at he
  have := not_isPre (finish_late _ abort e (by simpa [hdrEvs, errorOut] using he))
  exact ⟨this.1, this.2.1⟩

/-- witness that the full refusal clause fails: no CONTENT_LENGTH, 15 bytes on the stream, a limit of
    10 bytes, a 10-byte document — the first 10 bytes are read and the user function runs -/
theorem undeclared_overlong_body_is_truncated :
    ∃ (cfg : Cfg) (req : Req) (stream : List Nat),
      req.contentLength = none ∧ req.readsBody = true ∧ sum stream > cfg.maxLen ∧
      Ev.user ∈ handle facts13 cfg req stream none ∧ bytesGot (handle facts13 cfg req stream none) = cfg.maxLen :=
  ⟨⟨true, 10, 8192⟩,
   { fiveBytes with readsBody := true, docLen := 10 }, [15], by decide⟩

/-- the user function is entered only for a document that calls it, at most once, and — when the
    protocol reads a body — only after the complete document has arrived within the limit -/
theorem user_code_needs_complete_document (cfg : Cfg) (req : Req) (stream : List Nat) (abort : Option Nat)
    (hw : req.wsdl = none) (hu : Ev.user ∈ handle facts13 cfg req stream abort) :
    ((∃ fc p, req.intended = .userFault fc p) ∨ (∃ r, req.intended = .success r)) ∧
    req.preReject = false ∧
    (req.readsBody = true →
      req.docLen ≤ bytesGot (handle facts13 cfg req stream abort) ∧
      ∀ d, declaredLength cfg req.contentLength = some d → d ≤ (cfg.maxLen : Int)) := by
  obtain ⟨h1, h2, h3⟩ := (user_once facts13 cfg req stream abort).2 hu
  refine ⟨h1, h2, fun hb => ?_⟩
  obtain ⟨_, hdoc, hdecl⟩ := h3 hb
  refine ⟨?_, hdecl⟩
  rw [bytesGot_handle]
  simpa [bodyReads, hw, h2, hb] using hdoc

theorem user_code_at_most_once (cfg : Cfg) (req : Req) (stream : List Nat) (abort : Option Nat) :
    List.countP isUser (handle facts13 cfg req stream abort) ≤ 1 :=
  (user_once facts13 cfg req stream abort).1

/-! ### the request context -/

/-- the request context is closed exactly once, not before the callable has returned its iterable
    and not before the last chunk the server takes — for every request (rpc answers, fault answers,
    ?wsdl in its three outcomes) and every abort point -/
theorem context_closed_once_after_body (cfg : Cfg) (req : Req) (stream : List Nat) (abort : Option Nat) :
    List.countP isClosed (handle facts13 cfg req stream abort) = 1 ∧
    noneAfter isChunk isClosed (handle facts13 cfg req stream abort) = true ∧
    noneBefore isClosed isReturned (handle facts13 cfg req stream abort) = true := by
  obtain ⟨pre, o, h, hr, hw⟩ := handle_answered facts13 cfg req stream abort facts_good
  apply h.closed_once
  cases hwk : req.wsdl with
  | some k =>
    rw [hw k hwk]
    have hb : facts13.wsdlErrClosed = true := by decide
    cases k <;> simp [wsdlOut, atServer, hb]
  | none =>
    obtain ⟨o', _, rfl, hs⟩ := hr hwk
    simp [atServer, (hs.wf facts_good).closes]

/-- the `wsgi_close` event of an rpc request fires exactly once, after the body, whatever the listeners
    on it do and however the server consumes the body; it is skipped only when a
    `method_context_closed` listener raised, which ends the finalizer before it gets there -/
theorem wsgi_close_once_after_body (cfg : Cfg) (req : Req) (stream : List Nat) (abort : Option Nat)
    (hw : req.wsdl = none) :
    List.countP isWsgiClose (handle facts13 cfg req stream abort) =
      (if req.closeListener = .ctxClosedRaises then 0 else 1) ∧
    noneAfter isChunk isWsgiClose (handle facts13 cfg req stream abort) = true := by
  obtain ⟨pre, o, h, hr, _⟩ := handle_answered facts13 cfg req stream abort facts_good
  obtain ⟨o', _, rfl, hs⟩ := hr hw
  exact h.wsgi_close_once (hs.wf facts_good).closes

/-- the exception of a raising `method_context_closed` / `wsgi_close` listener reaches the server at
    most once (out of `next()` at the end of the body or out of `close()`), and only after the context
    was closed: the finalizer is never run a second time -/
theorem listener_exception_surfaces_once (cfg : Cfg) (req : Req) (stream : List Nat) (abort : Option Nat) :
    List.countP isLraise (handle facts13 cfg req stream abort) ≤ 1 ∧
    noneBefore isLraise isClosed (handle facts13 cfg req stream abort) = true := by
  obtain ⟨pre, o, h, _, _⟩ := handle_answered facts13 cfg req stream abort facts_good
  exact h.lraise_once

/-- why `finalizeClearedFirst` matters (any `F`): if `_ResponseBody.close` clears the finalizer only after
    it returned, a raising listener makes the server's `close()` close the context a second time -/
theorem finalizer_not_cleared_first_closes_twice (F : Facts13) (hf : F.finalizeClearedFirst = false)
    (ht : F.closeTiming = .afterBody) (hj : F.joinKind = .bytes) (hr : F.returnEventBeforeLength = true) :
    ∃ (cfg : Cfg) (req : Req), List.countP isClosed (handle F cfg req [] none) = 2 :=
  ⟨⟨false, 100, 7⟩,
   { fiveBytes with closeListener := .ctxClosedRaises },
   by simp [fiveBytes, handle, process, intendedResult, afterUser, respond, withAux, withReturnListener, successOut, hf, ht, hj, hr, finish,
     deliver, auxEvs, hdrEvs, hdrEvsFrom, sum, Result.atServer, atServer, finalEvs, finalOnce, finalAgain, finalRaises,
     exhausted, rpcFinal, chunkEvs, taken, isClosed, List.countP_cons]⟩

/-- the fault body is turned into a list before it is measured: what `handle_error` measures is what it
    sends, for a list, a generator (JsonDocument) and any other one-shot iterator (JsonP's
    `itertools.chain`, a user-supplied `iter(...)` / `map`) -/
theorem fault_body_is_materialised (req : Req) : errBody facts13 req = errMeasured req :=
  errBody_eq_measured facts13 req facts_good.errMat

/-- why the materialisation facts matter (any `F`): summing the lengths of a one-shot iterator uses it
    up — the announced length is that of the fault document, the body is empty -/
theorem unmaterialised_fault_body_is_lost (F : Facts13) (hi : F.errMaterialisesIterator = false)
    (req : Req) (h1 : req.onException = none) (h2 : req.faultIter = .iterator) :
    errBody F req = [] ∧ errMeasured req = errBody0 req := by
  simp [errBody, errMeasured, errMaterialised, h1, h2, hi]

/-- `?wsdl`: the exact trace of the three outcomes, fully consumed -/
theorem wsdl_conformance (cfg : Cfg) (req : Req) (stream : List Nat) (len : Nat) :
    (req.wsdl = some (.ok len) → handle facts13 cfg req stream none =
      [.startResponse 200 none (some len), .returned, .chunk len true] ++ wsdlFinal req.closeListener) ∧
    (req.wsdl = some .unavailable → handle facts13 cfg req stream none =
      [.startResponse 404 none none, .returned, .chunk 13 true] ++ wsdlFinal req.closeListener) ∧
    (req.wsdl = some .buildError → handle facts13 cfg req stream none =
      [.startResponse 500 none none, .returned, .chunk 25 true] ++ wsdlFinal req.closeListener) := by
  refine ⟨?_, ?_, ?_⟩ <;> intro h <;>
    simp [handle, h, deliver, wsdlOut, atServer, facts13, chunkEvs, taken, finalEvs, finalOnce, auxEvs]

/-! ### non-vacuity: the hypotheses above are satisfiable and the model is not trivial -/

def exCfg : Cfg := ⟨true, 100, 7⟩
def exReq : Req :=
  { wsdl := none, soapOut := false, soapIn := false, preReject := false, readsBody := true,
    contentLength := some "20".toList, docLen := 20, faultLen := 30,
    intended := .success ⟨none, .yields, false, .server, false, [1, 2, 3], true⟩, onReturn := none, onException := none,
     aux := .none, auxOnErrors := false, userHeaders := [],
     closeListener := .none, serverSkipsClose := false, faultBody := none, faultIter := .list }

example : handle facts13 exCfg exReq [5, 100, 100, 100] (some 2) =
    [.read 7 5, .read 7 7, .read 7 7, .read 1 1, .user, .startResponse 200 none (some 6), .returned,
     .chunk 1 true, .chunk 2 true, .ctxClosed, .wsgiClose] := by decide +kernel

-- a declared length over the limit (hypotheses of `too_long_refused_partial`)
example : declaredLength exCfg (some "101".toList) = some 101 ∧ (101 : Int) > (exCfg.maxLen : Int) := by
  decide +kernel
example : handle facts13 exCfg { exReq with contentLength := some "101".toList } [200] none =
    [.startResponse 413 (some .tooLong) (some 30), .returned, .chunk 30 true, .ctxClosed, .wsgiClose] := by
  decide +kernel
-- a `wsgi_exception` listener that replaces the fault document by two chunks
example : handle facts13 exCfg { exReq with contentLength := some "101".toList, onException := some [4, 3] } [200] none =
    [.startResponse 413 (some .tooLong) (some 7), .returned, .chunk 4 true, .chunk 3 true, .ctxClosed, .wsgiClose] := by
  decide +kernel
-- a `wsgi_return` listener that replaces a 6-byte, 3-chunk stream by one of 2 bytes (hypothesis of
-- `rewritten_response_is_measured`), chunked and not
example : handle facts13 exCfg { exReq with onReturn := some ⟨[2], true⟩ } [100, 100, 100] none =
    [.read 7 7, .read 7 7, .read 6 6, .user, .startResponse 200 none (some 2), .returned, .chunk 2 true,
     .ctxClosed, .wsgiClose] := by decide +kernel
example : handle facts13 ⟨false, 100, 7⟩ { exReq with onReturn := some ⟨[1, 1], false⟩ } [100, 100, 100] none =
    [.read 7 7, .read 7 7, .read 6 6, .user, .startResponse 200 none (some 2), .returned, .chunk 2 true,
     .ctxClosed, .wsgiClose] := by decide +kernel
-- an auxiliary method whose response cannot be serialised, and user-set headers (str, tuple of 2, empty list)
example : handle facts13 exCfg { exReq with aux := .serFail, userHeaders := [.str, .tuple 2, .list 0] } [100, 100, 100] (some 1) =
    [.read 7 7, .read 7 7, .read 6 6, .user, .hdr 0 true, .hdr 1 true, .hdr 1 true,
     .startResponse 200 none (some 6), .aux, .returned, .chunk 1 true, .ctxClosed, .wsgiClose] := by decide +kernel
-- on the error path the auxiliary method runs only with process_exceptions
example : handle facts13 exCfg { exReq with intended := .userFault .client none, aux := .serFail, auxOnErrors := true } [100, 100, 100] none =
    [.read 7 7, .read 7 7, .read 6 6, .user, .startResponse 400 (some .client) (some 30), .aux, .returned, .chunk 30 true,
     .ctxClosed, .wsgiClose] := by decide +kernel
example : Ev.aux ∉ handle facts13 exCfg { exReq with intended := .userFault .client none, aux := .ok } [100, 100, 100] none := by
  decide +kernel
-- a `wsgi_close` listener that raises: the server sees it once, the context is closed once
example : handle facts13 exCfg { exReq with closeListener := .wsgiCloseRaises } [100, 100, 100] none =
    [.read 7 7, .read 7 7, .read 6 6, .user, .startResponse 200 none (some 6), .returned, .chunk 1 true, .chunk 2 true,
     .chunk 3 true, .ctxClosed, .wsgiClose, .lraise] := by decide +kernel
-- a JsonP-like fault document (4 chunks in a one-shot iterator) is sent whole
example : handle facts13 exCfg { exReq with intended := .validationError, faultBody := some [2, 1, 60, 2], faultIter := .iterator }
      [100, 100, 100] none =
    [.read 7 7, .read 7 7, .read 6 6, .startResponse 400 (some .client) (some 65), .returned, .chunk 2 true, .chunk 1 true,
     .chunk 60 true, .chunk 2 true, .ctxClosed, .wsgiClose] := by decide +kernel
-- a `before_deserialize` handler that raises something that is not a Fault: a Server fault, no user code
example : handle facts13 exCfg { exReq with intended := .inputHandlerFails } [100, 100, 100] none =
    [.read 7 7, .read 7 7, .read 6 6, .startResponse 500 (some .server) (some 30), .returned, .chunk 30 true,
     .ctxClosed, .wsgiClose] := by decide +kernel
-- a Fault raised by a generator body after its first yield keeps its class (hypotheses of
-- `late_failure_is_a_fault_of_its_class`)
example : handle facts13 exCfg { exReq with intended := .success ⟨none, .yields, true, .notFound, false, [1], false⟩ } [100, 100, 100] none =
    [.read 7 7, .read 7 7, .read 6 6, .user, .startResponse 404 (some .notFound) (some 30), .returned, .chunk 30 true,
     .ctxClosed, .wsgiClose] := by decide +kernel
-- a value the lazy out protocol cannot write, ordinary method, unchunked: a Server fault (the 201 the user chose is dropped)
example : handle facts13 ⟨false, 100, 7⟩ { exReq with intended := .success ⟨some 201, .notGen, false, .server, true, [], false⟩ }
      [100, 100, 100] none =
    [.read 7 7, .read 7 7, .read 6 6, .user, .startResponse 500 (some .server) (some 30), .returned, .chunk 30 true,
     .ctxClosed, .wsgiClose] := by decide +kernel
-- ... chunked: the failure surfaces in the server's hands, after start_response; the context is still closed once
example : handle facts13 exCfg { exReq with intended := .success ⟨some 201, .notGen, false, .server, true, [], false⟩ }
      [100, 100, 100] none =
    [.read 7 7, .read 7 7, .read 6 6, .user, .startResponse 201 none none, .returned, .ctxClosed, .wsgiClose] := by
  decide +kernel
-- a non-numeric CONTENT_LENGTH is a Client fault
example : handle facts13 exCfg { exReq with contentLength := some "abc".toList } [200] none =
    [.startResponse 400 (some .client) (some 30), .returned, .chunk 30 true, .ctxClosed, .wsgiClose] := by
  decide +kernel
-- the user function runs (hypothesis of `user_code_needs_complete_document`)
example : Ev.user ∈ handle facts13 exCfg exReq [7, 7, 6] none := by decide +kernel
-- user-chosen statuses in range (hypothesis of `status_line`)
example : ∀ p ∈ ({ exReq with intended := .userFault .client (some 418) } : Req).presets, 100 ≤ p ∧ p ≤ 599 := by
  decide
-- unchunked, rpc (hypotheses of `unchunked_sends_content_length`)
example : handle facts13 ⟨false, 100, 7⟩ exReq [100, 100, 100] none =
    [.read 7 7, .read 7 7, .read 6 6, .user, .startResponse 200 none (some 6), .returned, .chunk 6 true,
     .ctxClosed, .wsgiClose] := by decide +kernel
-- an aborted generator body
example : handle facts13 exCfg { exReq with intended := .success ⟨some 201, .notGen, false, .server, false, [1, 2, 3], false⟩ } [9, 9, 9] (some 0) =
    [.read 7 7, .read 7 7, .read 6 6, .user, .startResponse 201 none none, .returned, .ctxClosed, .wsgiClose] := by
  decide +kernel

end SpyneModel.Props.C13
