/-
  The regenerated C08 facts have their good values (kernel-checked by `decide` on every run), hence
  the leaf laws hold for the current /repo. Imported by the codec property files.
-/
import Proofs.LeafGood
import SpyneModel.Generated.Facts08
namespace SpyneModel.Props
open SpyneModel SpyneModel.Generated

theorem facts08_good : facts08.Good where
  offset := by decide
  frac := by decide
  dur := by decide
  bool := by decide
  -- none of the leaf laws uses `anchored`; as a field of `Good` it makes this file fail to check on a tree whose time
  -- patterns lack the end anchor (D24: `12:00:00xyz` accepted)
  anchored := by decide
  range := by decide
  msl := fun k => by cases k <;> decide

theorem leafLaws08 : LeafLaws facts08 := leafLaws_good facts08 facts08_good

end SpyneModel.Props
