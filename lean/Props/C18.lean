/-
  C18 — calling a method through NullServer behaves like calling it over the wire.
  Property theorems only. Every theorem is about the model instantiated with the facts
  regenerated from /repo (`Generated.facts18`); the decisions of the anchored code that a theorem
  depends on are side conditions discharged by `decide`, so a theorem stops compiling when /repo
  stops making that decision.

  Quantifiers: every signature `s : Sig` (body style, argument names, return declaration), every
  program `impl : List Val → Result` (an arbitrary function of the received arguments: returns,
  returns `Ignored`, yields, raises a `Fault`, raises anything else), every call `(pos, kw)`,
  every value transfer `τ` (decode ∘ encode of a protocol, C01/C02's subject), no bound anywhere.
-/
import Proofs.Null
import Proofs.NullSeq
import Proofs.NullExt
import SpyneModel.Generated.Facts18
namespace SpyneModel.Props.C18
open SpyneModel.Null SpyneModel.Generated

/-! ### NullServer ≈ wire, per protocol

`wireViewP P` is the only normalisation: an `Ignored` handed to the direct caller is compared with
the empty reply, a generator with the sequence of its items, and — only on a protocol that writes a
missing member-less object as the empty element (`XmlDocument._bare_response`, measured fact
`bareNone`) and only for a bare/out_bare method declared to return such a class — `None` with the
empty instance of that class (`bare_none_view` below says exactly when). -/

theorem null_eq_wire_xml (τ : Val → Val) (s : Sig) (impl : List Val → Result) (pos : List Val)
    (kw : List (String × Val)) (hprog : ProgramOkOn τ s impl (nullRecv facts18 s pos kw))
    (hkw : KwOk facts18 kw) (hcall : CallOk τ s pos kw) :
    wireViewP facts18.xml s (nullCall facts18 s impl pos kw) = wireCall facts18 facts18.xml τ s impl pos kw :=
  null_eq_wire facts18 (by decide) facts18.xml (by decide) τ s impl pos kw hprog hkw hcall

theorem null_eq_wire_soap (τ : Val → Val) (s : Sig) (impl : List Val → Result) (pos : List Val)
    (kw : List (String × Val)) (hprog : ProgramOkOn τ s impl (nullRecv facts18 s pos kw))
    (hkw : KwOk facts18 kw) (hcall : CallOk τ s pos kw) :
    wireViewP facts18.soap s (nullCall facts18 s impl pos kw) = wireCall facts18 facts18.soap τ s impl pos kw :=
  null_eq_wire facts18 (by decide) facts18.soap (by decide) τ s impl pos kw hprog hkw hcall

theorem null_eq_wire_json (τ : Val → Val) (s : Sig) (impl : List Val → Result) (pos : List Val)
    (kw : List (String × Val)) (hprog : ProgramOkOn τ s impl (nullRecv facts18 s pos kw))
    (hkw : KwOk facts18 kw) (hcall : CallOk τ s pos kw) :
    wireViewP facts18.json s (nullCall facts18 s impl pos kw) = wireCall facts18 facts18.json τ s impl pos kw :=
  null_eq_wire facts18 (by decide) facts18.json (by decide) τ s impl pos kw hprog hkw hcall

/-! ### the user function is called with the same arguments -/

theorem args_received_xml (τ : Val → Val) (s : Sig) (pos : List Val) (kw : List (String × Val))
    (hkw : KwOk facts18 kw) (hcall : CallOk τ s pos kw) :
    nullRecv facts18 s pos kw = wireRecvOf facts18.xml τ s pos kw :=
  recv_agree facts18 facts18.xml (by decide) τ s pos kw hkw hcall

theorem args_received_soap (τ : Val → Val) (s : Sig) (pos : List Val) (kw : List (String × Val))
    (hkw : KwOk facts18 kw) (hcall : CallOk τ s pos kw) :
    nullRecv facts18 s pos kw = wireRecvOf facts18.soap τ s pos kw :=
  recv_agree facts18 facts18.soap (by decide) τ s pos kw hkw hcall

theorem args_received_json (τ : Val → Val) (s : Sig) (pos : List Val) (kw : List (String × Val))
    (hkw : KwOk facts18 kw) (hcall : CallOk τ s pos kw) :
    nullRecv facts18 s pos kw = wireRecvOf facts18.json τ s pos kw :=
  recv_agree facts18 facts18.json (by decide) τ s pos kw hkw hcall

/-! ### keyword and positional invocation are equivalent -/

/-- the first arguments positionally, any of the others by keyword (`p` selects which; only
    `None`s may be left out) = all of them positionally. No hypothesis on the values: a keyword
    `None` is either skipped or written over a `None`. -/
theorem kw_eq_pos (s : Sig) (impl : List Val → Result) (K1 K2 : List String)
    (hk : s.inKeys = some (K1 ++ K2)) (hnd : (K1 ++ K2).Nodup) (A1 A2 : List Val)
    (p : String × Val → Bool) (hp : ∀ q, p q = false → q.2.isNone = true)
    (h1 : A1.length = K1.length) (h2 : A2.length = K2.length) :
    nullCall facts18 s impl A1 ((K2.zip A2).filter p) = nullCall facts18 s impl (A1 ++ A2) [] :=
  nullCall_kw_eq_pos facts18 s impl K1 K2 hk hnd A1 A2 p hp h1 h2

/-- a keyword that is not an argument name changes nothing -/
theorem kw_unknown_ignored (keys : List String) (pos : List Val) (kw : List (String × Val))
    (k : String) (v : Val) (hk : k ∉ keys) :
    packArgs facts18 keys pos ((k, v) :: kw) = packArgs facts18 keys pos kw :=
  packArgs_unknown_kw facts18 keys pos kw k v hk

/-- The asymmetry of `NullServer`, stated, not hidden: while `if val is not None` is in
    `_FunctionCall.__call__` a keyword argument that is `None` lets the positional value stand
    (Python binding and the wire would pass the `None`); this is why `KwOk` is a hypothesis of
    `null_eq_wire_*`. -/
theorem kw_none_keeps_positional (h : facts18.kwNoneSkipped = true) (keys : List String)
    (pos : List Val) (kw : List (String × Val)) (k : String) (hk : ∀ q ∈ kw, q.1 ≠ k) :
    packArgs facts18 keys pos ((k, .none) :: kw) = packArgs facts18 keys pos kw :=
  packArgs_kw_none facts18 h keys pos kw k hk

/-! ### Ignored, faults, generators, nothing declared -/

/-- an `Ignored` return is delivered to the direct caller but sent as empty over the wire
    (`None`, or one `None` per declared return value), whichever of the three protocols -/
theorem ignored_direct_vs_wire (P : ProtoCfg)
    (hP : P = facts18.xml ∨ P = facts18.soap ∨ P = facts18.json) (τ : Val → Val) (s : Sig)
    (impl : List Val → Result) (keys : List String) (hk : s.inKeys = some keys) (pos : List Val)
    (kw : List (String × Val)) (hlen : pos.length ≤ keys.length) (x : Val)
    (himpl : ∀ recv, impl recv = .value (.ignored x)) :
    nullCall facts18 s impl pos kw = .ok (.ignored x) ∧
    wireCall facts18 P τ s impl pos kw = .ok (viewVal P s (emptyReply s)) :=
  Null.ignored_direct_vs_wire facts18 (by decide) P (.of_mem (by decide) hP) τ s impl keys hk pos kw hlen x
    himpl

/-- a raised `Fault` reaches both callers as the same fault — code, string, actor and detail
    (`c : Flt`) —, any other exception reaches both as a `Server` fault (for every protocol
    configuration, no side condition; that the members of the fault survive a given protocol
    configuration is watched by T3 on every configuration, cf. C09) -/
theorem fault_direct_and_wire (P : ProtoCfg) (τ : Val → Val) (s : Sig) (impl : List Val → Result)
    (keys : List String) (hk : s.inKeys = some keys) (pos : List Val) (kw : List (String × Val))
    (hlen : pos.length ≤ keys.length) (c : Flt)
    (himpl : ∀ recv, impl recv = .fault c ∨ (impl recv = .error ∧ c = "Server")) :
    nullCall facts18 s impl pos kw = .fault c ∧ wireCall facts18 P τ s impl pos kw = .fault c :=
  fault_both facts18 P τ s impl keys hk pos kw hlen c himpl

/-- the direct caller gets the generator, the wire client the sequence of its items -/
theorem generator_direct_vs_wire (P : ProtoCfg)
    (hP : P = facts18.xml ∨ P = facts18.soap ∨ P = facts18.json) (τ : Val → Val) (s : Sig)
    (impl : List Val → Result) (keys : List String) (hk : s.inKeys = some keys) (pos : List Val)
    (kw : List (String × Val)) (hlen : pos.length ≤ keys.length) (xs : List Val)
    (hnr : s.noReturn = false) (h1 : ¬ (s.style = .wrapped ∧ 2 ≤ s.outLen))
    (himpl : ∀ recv, impl recv = .value (.gen xs)) (hτ : τ (.seq xs) = .seq xs) :
    nullCall facts18 s impl pos kw = .ok (.gen xs) ∧
    wireCall facts18 P τ s impl pos kw = .ok (.seq xs) :=
  generator_result facts18 (by decide) P (.of_mem (by decide) hP) τ s impl keys hk pos kw hlen xs hnr h1
    himpl hτ

/-- when nothing is declared to come back the direct caller gets `None` (or the `Ignored`),
    whatever the function returns and whatever the body style -/
theorem undeclared_return_dropped (s : Sig) (hnr : s.noReturn = true) (impl : List Val → Result)
    (pos : List Val) (kw : List (String × Val)) (v : Val)
    (h : nullCall facts18 s impl pos kw = .ok v) : v = .none ∨ v.isIgnored = true :=
  no_return_is_none facts18 (by decide) s hnr impl pos kw v h

/-- a conformant call through `NullServer` ends in a value or a `Fault`, never in another
    exception class -/
theorem null_never_crashes (τ : Val → Val) (s : Sig) (impl : List Val → Result)
    (keys : List String) (hk : s.inKeys = some keys) (pos : List Val) (kw : List (String × Val))
    (hlen : pos.length ≤ keys.length) (hprog : ProgramOk τ s impl) (e : String) :
    nullCall facts18 s impl pos kw ≠ .exc e :=
  null_total facts18 (by decide) s impl keys hk pos kw hlen τ hprog e

/-- what `viewVal` (the part of `wireViewP` that depends on the protocol) does: nothing, except that
    for a method that is not wrapped and is declared to return a class without members, on a
    protocol with `bareNone = emptyInstance`, the wire client gets an empty instance of that class
    where the direct caller gets `None`. A member-less instance carries no information but its
    presence; on such a protocol presence cannot be transmitted. In particular the EMPTY styles
    without a declared return (`returns = none`) and every wrapped method are untouched, and a
    protocol with `bareNone = nil` (dict documents) is untouched altogether. -/
theorem bare_none_view (P : ProtoCfg) (s : Sig) (v : Val) :
    viewVal P s v = v ∨
    (∃ cls, P.bareNone = .emptyInstance ∧ s.style ≠ .wrapped ∧ s.returns = .one (.complex cls []) ∧
      v = .none ∧ viewVal P s v = .obj cls []) :=
  viewVal_cases P s v

/-! ### auxiliary companions and kept function objects -/

/-- The caller gets the primary method's result: auxiliary methods bound to the same public name
    run (`aux_args_received`), their results and errors are discarded — whatever they are, however
    many there are. -/
theorem null_result_is_primary (s : Sig) (impl : List Val → Result) (auxs : List Aux)
    (kept : Option (List Val)) (pos : List Val) (kw : List (String × Val)) :
    nullCallFrom facts18 s impl auxs kept pos kw = nullCall facts18 s impl pos kw :=
  nullCallFrom_good facts18 (by decide) s impl auxs kept pos kw

/-- A `_FunctionCall` object carries no argument state between calls: on one kept object
    (`f = server.service.m`) the i-th call's result, and what the function receives in it, depend
    on that call's own arguments only — for every history, every initial state. -/
theorem null_call_history_free (s : Sig) (impl : List Val → Result) (auxs : List Aux)
    (kept : Option (List Val)) (cs : List Call) :
    callSeq facts18 s impl auxs kept cs = (cs.map fun c => nullCall facts18 s impl c.1 c.2) ∧
    recvSeq facts18 s kept cs = (cs.map fun c => nullRecv facts18 s c.1 c.2) :=
  ⟨callSeq_history_free facts18 (by decide) s impl auxs kept cs,
   recvSeq_history_free facts18 (by decide) s kept cs⟩

/-- NullServer ≈ wire, extended: any auxiliary companions, any state of a kept object, whichever
    of the three protocols -/
theorem null_eq_wire_aux (P : ProtoCfg)
    (hP : P = facts18.xml ∨ P = facts18.soap ∨ P = facts18.json) (τ : Val → Val) (s : Sig)
    (impl : List Val → Result) (auxs : List Aux) (kept : Option (List Val)) (pos : List Val)
    (kw : List (String × Val)) (hprog : ProgramOkOn τ s impl (nullRecv facts18 s pos kw))
    (hkw : KwOk facts18 kw) (hcall : CallOk τ s pos kw) :
    wireViewP P s (nullCallFrom facts18 s impl auxs kept pos kw)
      = wireCallAux facts18 P τ s impl auxs pos kw :=
  nullFrom_eq_wireAux facts18 (by decide) (by decide) P (.of_mem (by decide) hP) τ s impl auxs kept pos kw
    hprog hkw hcall

/-- the auxiliary functions run in the same cases (not when the primary method failed) and with
    the same arguments on both paths -/
theorem aux_args_received (P : ProtoCfg)
    (hP : P = facts18.xml ∨ P = facts18.soap ∨ P = facts18.json) (τ : Val → Val) (s : Sig)
    (impl : List Val → Result) (auxs : List Aux) (kept : Option (List Val)) (pos : List Val)
    (kw : List (String × Val)) (hprog : ProgramOkOn τ s impl (nullRecv facts18 s pos kw))
    (hkw : KwOk facts18 kw) (hcall : CallOk τ s pos kw) (haux : ∀ a ∈ auxs, CallOk τ a.1 pos kw) :
    nullAuxRecv facts18 s impl auxs kept pos kw = wireAuxRecv facts18 P τ s impl auxs pos kw :=
  auxRecv_agree facts18 (by decide) (by decide) P (.of_mem (by decide) hP) τ s impl auxs kept pos kw
    hprog hkw hcall haux

/-- `_cb_sync` run for every context: the caller gets the auxiliary method's result -/
theorem last_context_breaks_null (F : Facts18) (h : F.auxResult = .lastContext) (s : Sig)
    (impl : List Val → Result) (a : Aux) (kept : Option (List Val)) (pos : List Val)
    (kw : List (String × Val)) (v : Val)
    (hp : ctxResult F s impl (nullRecvFrom F s kept pos kw) = .ok v) :
    nullCallFrom F s impl [a] kept pos kw = ctxResult F a.1 a.2 (nullRecv F a.1 pos kw) := by
  simp [nullCallFrom, h, hp, lastOf]

/-! ### the string mode, member methods -/

/-- `NullServer(app, ostr=True)`: the string it returns decodes to exactly what the wire client
    gets — for every signature, program and conformant call, Ignored included (sent as empty) -/
theorem ostr_eq_wire (P : ProtoCfg)
    (hP : P = facts18.xml ∨ P = facts18.soap ∨ P = facts18.json) (τ : Val → Val) (s : Sig)
    (impl : List Val → Result) (pos : List Val) (kw : List (String × Val))
    (hprog : ProgramOkOn τ s impl (nullRecv facts18 s pos kw)) (hkw : KwOk facts18 kw)
    (hcall : CallOk τ s pos kw) :
    nullOstr facts18 P τ s impl pos kw = wireCall facts18 P τ s impl pos kw :=
  nullOstr_eq_wire facts18 (by decide) (by decide) P (.of_mem (by decide) hP) τ s impl pos kw hprog hkw hcall

/-- the string mode without the replacement of `Ignored` (pinned tree): a TypeError instead of
    the empty reply -/
theorem ostr_serialized_breaks_null (F : Facts18) (h : F.ostrIgnored = .serialized) (P : ProtoCfg)
    (τ : Val → Val) (s : Sig) (impl : List Val → Result) (keys : List String)
    (hk : s.inKeys = some keys) (pos : List Val) (kw : List (String × Val))
    (hlen : pos.length ≤ keys.length) (x : Val) (himpl : ∀ recv, impl recv = .value (.ignored x))
    (hcb : ∃ v, cbSync F s (wrapOut F s (.ignored x)) = .ok v) :
    nullOstr F P τ s impl pos kw = .exc "TypeError" := by
  have hnl : ¬ keys.length < pos.length := by omega
  obtain ⟨v, hv⟩ := hcb
  simp only [nullOstr, nullRecv, hk, packArgs, hnl, if_false, Res.bind, process, himpl, hv, h]
  have : outHasIgnored (wrapOut F s (.ignored x)) = true := by
    unfold wrapOut; split <;> rfl
  simp [this]

/-- member methods (`@mrpc`): `call_wrapper` respawns `self` from the first argument and calls the
    function with it; that is a transformation of the program shared by both paths, so NullServer
    agrees with the wire for member methods of every class, with or without `_default_on_null` -/
theorem member_eq_wire (P : ProtoCfg)
    (hP : P = facts18.xml ∨ P = facts18.soap ∨ P = facts18.json) (τ : Val → Val) (s : Sig)
    (m : Option Member) (impl : List Val → Result) (pos : List Val) (kw : List (String × Val))
    (hprog : ProgramOk τ s impl) (hkw : KwOk facts18 kw) (hcall : CallOk τ s pos kw) :
    wireViewP P s (nullCall facts18 s (memberImpl m impl) pos kw)
      = wireCall facts18 P τ s (memberImpl m impl) pos kw :=
  null_eq_wire facts18 (by decide) P (.of_mem (by decide) hP) τ s (memberImpl m impl) pos kw
    ((memberImpl_ok τ s m impl hprog).on _) hkw hcall

/-- the instance is what the caller passed; a missing one is a Client.ResourceNotFound fault, or a
    fresh instance with `_default_on_null` -/
theorem member_respawn (m : Member) (x : Val) (rest : List Val) :
    respawn m (x :: rest) =
      (if x.isNone then
         (if m.defaultOnNull then .ok (.obj m.cls (m.fields.map fun f => (f, Val.none)) :: rest)
          else .fault "Client.ResourceNotFound")
       else .ok (x :: rest)) := rfl

/-- how the decorator reads `_body_style` / `_soap_body_style`: the latter only counts when the
    former is given -/
theorem body_style_reading (sb : Option String) (b : String) :
    validateBodyStyle none sb = some .wrapped ∧
    validateBodyStyle (some b) none =
      (if b = "wrapped" then some .wrapped else if b = "bare" then some .bare
       else if b = "out_bare" then some .outBare else none) :=
  ⟨validateBodyStyle_default sb, validateBodyStyle_plain b⟩

/-! ### body styles -/

/-- `is_out_bare()` holds exactly for the methods decorated with a body style other than wrapped -/
theorem is_out_bare_iff (s : Sig) : facts18.isOutBare s.bodyStyle = true ↔ s.style ≠ .wrapped :=
  isOutBare_iff facts18 (by decide) s

/-- the decorator's table: empty input turns `bare`/`out_bare` into EMPTY or EMPTY_OUT_BARE -/
theorem body_style_table (s : Sig) :
    s.bodyStyle =
      (if s.style = .wrapped then .wrapped
       else if s.inEmptyComplex then (if s.outEmptyComplex then .empty else .emptyOutBare)
       else if s.style = .outBare then .outBare else .bare) := by
  unfold Sig.bodyStyle
  cases s.style <;> simp

/-! ### each measured decision matters (what breaks when a fact flips) -/

/-- a protocol that serialises the whole `ctx.out_object` list for the non-wrapped body styles
    (XmlDocument in the pinned tree) answers every such call with a Server fault -/
theorem whole_list_breaks_wire (P : ProtoCfg) (hP : P.bareOut = .wholeList) (τ : Val → Val) (s : Sig)
    (hst : s.style ≠ .wrapped) (out : Val) : respond P τ s out = .fault "Server" := by
  have hbs : s.bodyStyle ≠ .wrapped := fun h => hst ((bodyStyle_wrapped_iff s).1 h)
  simp [respond, respondCore, hbs, hP, Res.map]

/-- replacing a lone `Ignored` by `()` (pinned tree) makes a protocol that indexes
    `ctx.out_object` fail for two or more declared return values -/
theorem empty_tuple_breaks_wire (F : Facts18) (hF : F.ignMany = .emptyTuple) (P : ProtoCfg)
    (hP : P.shortOut = .indexError) (τ : Val → Val) (s : Sig) (hst : s.style = .wrapped)
    (hn : 1 ≤ s.outLen) (x : Val) :
    respond P τ s (ignoredOnWire F s (.ignored x)) = .fault "Server" := by
  have hbs := bodyStyle_of_wrapped hst
  simp only [ignoredOnWire, hF, respond, respondCore, hbs, if_true]
  match h : s.outLen, hn with
  | n + 1, _ => simp [takeOut, hP, Res.bind, Res.map]

/-- testing `is_out_bare()` first (pinned tree) hands an undeclared return value to the caller -/
theorem out_bare_first_breaks_null (F : Facts18) (hF : F.cbOrder = .outBareFirst) (s : Sig)
    (hob : F.isOutBare s.bodyStyle = true) (r : Val) (hr : r.isIgnored = false) :
    cbSync F s (.seq [r]) = .ok r := by
  rw [cbSync_seq_plain F s r [] hr]
  simp [hF, hob, first]

/-- looking the argument of a bare method up under its class name (dict documents in the pinned
    tree) loses it: the function is called with an empty list -/
theorem class_name_breaks_wire (P : ProtoCfg) (hP : P.bareIn = .className) (τ : Val → Val) (s : Sig)
    (hbs : s.bodyStyle = .bare) (keys : List String) (sent : List Val) :
    wireRecv P τ s keys sent = [.seq []] := by
  simp [wireRecv, hbs, hP]

/-- rendering a missing object as an empty one (dict documents in the pinned tree) hands the wire
    client an instance where the direct caller gets `None` -/
theorem empty_object_breaks_wire (P : ProtoCfg) (hP : P.noneSingle = .emptyObject) (s : Sig)
    (cls : String) (fs : List String) (hr : s.returns = .one (.complex cls fs)) (rest : List Val) :
    unwrapWrapped P s 1 (Val.none :: rest) = .obj cls (fs.map fun f => (f, Val.none)) := by
  simp [unwrapWrapped, singleAs, hP, hr]

/-- a declared return type is handed to the direct caller as it is — in particular an instance of
    a class WITHOUT members (a plain acknowledgement object), in every body style: only the
    response wrapper the decorator synthesises means "nothing comes back" -/
theorem declared_return_delivered (s : Sig) (k : RetKind) (hk : s.returns = .one k) (r : Val)
    (hr : r.isIgnored = false) : cbSync facts18 s (wrapOut facts18 s r) = .ok r :=
  cbSync_declared_one facts18 (by decide) s k hk r hr

/-- `_is_empty_wrapper` without its `_wrapper` test: a bare/out_bare method that returns an instance
    of a member-less class hands `None` to the direct caller (the wire sends an empty object) -/
theorem members_only_breaks_null (F : Facts18) (hc : F.cbOrder = .noReturnFirst)
    (hw : F.ewWrapper = false) (s : Sig) (k : RetKind) (hst : s.style ≠ .wrapped)
    (hk : s.returns = .one k) (h0 : k.complexFields = some 0) (r : Val) (hr : r.isIgnored = false) :
    cbSync F s (.seq [r]) = .ok .none := by
  rw [cbSync_seq_plain F s r [] hr]
  have : isEmptyWrapper F s = true := by
    unfold isEmptyWrapper Sig.outMembers
    cases hs : s.style <;> simp_all
  simp [hc, this]

/-- `_is_empty_wrapper` without its member count: every wrapped method returns `None` -/
theorem wrapper_only_breaks_null (F : Facts18) (hc : F.cbOrder = .noReturnFirst)
    (hm : F.ewMembers = false) (s : Sig) (hst : s.style = .wrapped) (r : Val)
    (hr : r.isIgnored = false) : cbSync F s (.seq [r]) = .ok .none := by
  rw [cbSync_seq_plain F s r [] hr]
  have : isEmptyWrapper F s = true := by
    simp [isEmptyWrapper, Sig.outMembers, Sig.outIsWrapper, hst, hm]
  simp [hc, this]

/-! ### non-vacuity: concrete signatures, programs and calls that meet the hypotheses -/

section examples

/-- `@srpc(Integer, Unicode, _returns=[Integer, Unicode])  def f(a, b): return a, b` -/
private def sW : Sig := ⟨.wrapped, ["a", "b"], none, .many 2⟩
private def echo2 : List Val → Result
  | [a, b] => .value (.seq [a, b])
  | _ => .error
/-- `@srpc(P, _returns=P, _body_style='bare')  def g(p): return p` with `P(a, b)` -/
private def sB : Sig := ⟨.bare, ["p"], some ("P", ["a", "b"]), .one (.complex "P" ["a", "b"])⟩
private def echo1 : List Val → Result
  | [p] => .value p
  | _ => .error
/-- `@srpc(_body_style='bare')  def h(): return 'junk'` -/
private def sE : Sig := ⟨.bare, [], none, .none⟩

example : sW.decorates = true ∧ sB.decorates = true ∧ sE.decorates = true := by decide
example : sW.bodyStyle = .wrapped ∧ sB.bodyStyle = .bare ∧ sE.bodyStyle = .empty := by decide

example : KwOk facts18 [("b", .str "x")] := Or.inr (by simp [Val.isNone])
example : CallOk id sW [.int 1] [("b", .str "x")] :=
  ⟨by intro keys h; cases h; decide, by intro v hv; simp at hv; subst hv; rfl,
   by intro p hp; simp at hp; subst hp; rfl⟩

/-- the echo program conforms for arguments that survive the protocol: `ProgramOk` is satisfiable
    by a program whose result depends on its arguments -/
example : ResultOk id sW (.seq [.int 1, .str "x"]) :=
  Or.inr ⟨rfl, by
    rw [if_pos (by decide)]
    exact ⟨_, rfl, rfl, by intro v hv; simp at hv; rcases hv with h | h <;> subst h <;> exact ⟨rfl, rfl⟩⟩⟩

/-- the main theorem applies to an argument-dependent program and a mixed positional/keyword
    call: all its hypotheses are met -/
example : wireViewP facts18.xml sW (nullCall facts18 sW echo2 [.int 1] [("b", .str "x")])
    = wireCall facts18 facts18.xml id sW echo2 [.int 1] [("b", .str "x")] :=
  null_eq_wire_xml id sW echo2 [.int 1] [("b", .str "x")]
    (by
      intro args r hrecv hi
      have : args = [.int 1, .str "x"] := by
        have h : nullRecv facts18 sW [.int 1] [("b", .str "x")] = .ok [.int 1, .str "x"] := rfl
        rw [h] at hrecv; cases hrecv; rfl
      subst this
      have : r = .seq [.int 1, .str "x"] := by cases hi; rfl
      subst this
      exact Or.inr ⟨rfl, by
        rw [if_pos (by decide)]
        exact ⟨_, rfl, rfl, by intro v hv; simp at hv; rcases hv with h | h <;> subst h <;> exact ⟨rfl, rfl⟩⟩⟩)
    (Or.inr (by simp [Val.isNone]))
    ⟨by intro keys h; cases h; decide, by intro v hv; simp at hv; subst hv; rfl,
     by intro p hp; simp at hp; subst hp; rfl⟩

/-- `kw_eq_pos` instantiated: `f(1, b='x')` = `f(1, 'x')` -/
example : nullCall facts18 sW echo2 [.int 1] ((["b"].zip [.str "x"]).filter fun _ => true)
    = nullCall facts18 sW echo2 ([.int 1] ++ [.str "x"]) [] :=
  kw_eq_pos sW echo2 ["a"] ["b"] rfl (by decide) [.int 1] [.str "x"] (fun _ => true) (by simp) rfl rfl

example : nullCall facts18 sW echo2 [.int 1] [("b", .str "x")] = .ok (.seq [.int 1, .str "x"]) := rfl
example : wireCall facts18 facts18.json id sW echo2 [.int 1] [("b", .str "x")]
    = .ok (.seq [.int 1, .str "x"]) := rfl
example : nullCall facts18 sW echo2 [] [("b", .str "x"), ("a", .int 1)]
    = nullCall facts18 sW echo2 [.int 1, .str "x"] [] := rfl
/-- bare with a complex argument passed field-wise -/
example : nullCall facts18 sB echo1 [.int 5] [("b", .str "q")]
    = .ok (.obj "P" [("a", .int 5), ("b", .str "q")]) := rfl
example : wireCall facts18 facts18.xml id sB echo1 [.int 5] [("b", .str "q")]
    = .ok (.obj "P" [("a", .int 5), ("b", .str "q")]) := rfl
/-- `@srpc(Integer, _returns=Ack, _body_style='out_bare')` and `@srpc(_returns=Ack, _body_style='bare')`
    with `class Ack(ComplexModel): pass`: the instance reaches both callers; `None` stays `None` -/
example : let s : Sig := ⟨.outBare, ["n"], none, .one (.complex "Ack" [])⟩
    s.bodyStyle = .outBare ∧ s.noReturn = false ∧
    nullCall facts18 s (fun _ => .value (.obj "Ack" [])) [.int 1] [] = .ok (.obj "Ack" []) ∧
    wireCall facts18 facts18.json id s (fun _ => .value (.obj "Ack" [])) [.int 1] [] = .ok (.obj "Ack" []) ∧
    nullCall facts18 s (fun _ => .value .none) [.int 0] [] = .ok .none := ⟨rfl, rfl, rfl, rfl, rfl⟩
example : let s : Sig := ⟨.bare, [], none, .one (.complex "Ack" [])⟩
    s.bodyStyle = .empty ∧
    nullCall facts18 s (fun _ => .value (.obj "Ack" [])) [] [] = .ok (.obj "Ack" []) ∧
    wireCall facts18 facts18.xml id s (fun _ => .value (.obj "Ack" [])) [] [] = .ok (.obj "Ack" []) :=
  ⟨rfl, rfl, rfl⟩
/-- `None` where a member-less class is declared, not wrapped: `None` to the direct caller; over a
    protocol that writes the empty element an empty instance, over one that writes null `None`;
    nothing declared (EMPTY style): `None` on both, whatever the protocol writes -/
example : let s : Sig := ⟨.outBare, ["n"], none, .one (.complex "Ack" [])⟩
    let X : ProtoCfg := { facts18.xml with bareNone := .emptyInstance }
    let J : ProtoCfg := { facts18.json with bareNone := .nil }
    nullCall facts18 s (fun _ => .value .none) [.int 0] [] = .ok .none ∧
    wireCall facts18 X id s (fun _ => .value .none) [.int 0] [] = .ok (.obj "Ack" []) ∧
    wireCall facts18 J id s (fun _ => .value .none) [.int 0] [] = .ok .none ∧
    wireCall facts18 X id ⟨.bare, [], none, .none⟩ (fun _ => .value .none) [] [] = .ok .none :=
  ⟨rfl, rfl, rfl, rfl⟩

/-- the seeded defect in the model: with `ewWrapper := false` the direct caller loses the instance -/
example : let F := { facts18 with ewWrapper := false }
    nullCall F ⟨.outBare, ["n"], none, .one (.complex "Ack" [])⟩ (fun _ => .value (.obj "Ack" [])) [.int 1] []
      = .ok .none := rfl

/-- an auxiliary companion that returns something else, one that raises: the primary's result -/
example : nullCallFrom facts18 sW echo2
    [(sW, fun _ => .value (.seq [.int 0, .str "aux"])), (sW, fun _ => .fault "Client.Aux")]
    none [.int 1, .str "x"] [] = .ok (.seq [.int 1, .str "x"]) := rfl
/-- the seeded defect in the model: `_cb_sync` for every context hands out the aux result -/
example : nullCallFrom { facts18 with auxResult := .lastContext } sW echo2
    [(sW, fun _ => .value (.seq [.int 0, .str "aux"]))] none [.int 1, .str "x"] []
    = .ok (.seq [.int 0, .str "aux"]) := rfl
/-- `f = server.service.fmt; f('a', 8); f('b')`: the second call sees `None`; with shared slots
    (the seeded defect) it would see the 8 of the first call -/
example : let fmt : Sig := ⟨.wrapped, ["s", "w"], none, .many 2⟩
    callSeq facts18 fmt echo2 [] none [([.str "a", .int 8], []), ([.str "b"], [])]
      = [.ok (.seq [.str "a", .int 8]), .ok (.seq [.str "b", .none])] ∧
    callSeq { facts18 with slotsPerCall := false } fmt echo2 [] none
        [([.str "a", .int 8], []), ([.str "b"], [])]
      = [.ok (.seq [.str "a", .int 8]), .ok (.seq [.str "b", .int 8])] := ⟨rfl, rfl⟩

/-- string mode, Ignored with two declared values: the empty reply; on the pinned tree a TypeError -/
example : nullOstr facts18 facts18.xml id sW (fun _ => .value (.ignored (.int 7))) [] []
    = .ok (.seq [.none, .none]) ∧
    nullOstr { facts18 with ostrIgnored := .serialized } facts18.xml id sW
      (fun _ => .value (.ignored (.int 7))) [] [] = .exc "TypeError" := ⟨rfl, rfl⟩
/-- `class M: @mrpc(Integer, _returns=…) def pair(self, ctx, n)`: `server.service['M.pair'](M(a=5), 3)`,
    and the same without the instance -/
example : let sM : Sig := ⟨.wrapped, ["self", "n"], none, .many 2⟩
    let m : Member := ⟨"M", ["a"], false, true⟩
    nullCall facts18 sM (memberImpl (some m) echo2) [.obj "M" [("a", .int 5)], .int 3] []
      = .ok (.seq [.obj "M" [("a", .int 5)], .int 3]) ∧
    nullCall facts18 sM (memberImpl (some m) echo2) [.none, .int 3] [] = .fault "Client.ResourceNotFound" ∧
    wireCall facts18 facts18.json id sM (memberImpl (some m) echo2) [.none, .int 3] []
      = .fault "Client.ResourceNotFound" ∧
    nullCall facts18 sM (memberImpl (some { m with defaultOnNull := true }) echo2) [.none, .int 3] []
      = .ok (.seq [.obj "M" [("a", .none)], .int 3]) ∧
    nullCall facts18 sM (memberImpl (some { m with whenOk := false }) echo2) [.obj "M" [("a", .int 5)], .int 3] []
      = .fault "Client.InvalidInput" := ⟨rfl, rfl, rfl, rfl, rfl⟩
example : validateBodyStyle (some "wrapped") (some "rpc") = some .bare ∧
    validateBodyStyle (some "out_bare") (some "document") = some .wrapped ∧
    validateBodyStyle none (some "rpc") = some .wrapped ∧
    validateBodyStyle (some "Bare") none = none ∧ validateBodyStyle (some "bare") (some "x") = none := by decide +kernel

/-- a fault with a detail and no actor: the same record on both paths -/
example : let f : Flt := { code := "Client.OutOfStock", str := some "not enough items",
                           detail := .obj "dict" [("item", .str "nail")] }
    nullCall facts18 sW (fun _ => .fault f) [] [] = .fault f ∧
    wireCall facts18 facts18.json id sW (fun _ => .fault f) [] [] = .fault f := ⟨rfl, rfl⟩

/-- Ignored with two declared return values -/
example : nullCall facts18 sW (fun _ => .value (.ignored (.int 7))) [] [] = .ok (.ignored (.int 7)) ∧
    wireCall facts18 facts18.xml id sW (fun _ => .value (.ignored (.int 7))) [] []
      = .ok (.seq [.none, .none]) := ⟨rfl, rfl⟩
/-- nothing declared, something returned -/
example : nullCall facts18 sE (fun _ => .value (.str "junk")) [] [] = .ok .none := rfl
/-- the stated asymmetry is real (whenever `if val is not None` is in `_FunctionCall.__call__`) -/
example : let F := { facts18 with kwNoneSkipped := true }
    nullCall F sW echo2 [.int 1, .str "x"] [("a", .none)] = .ok (.seq [.int 1, .str "x"]) ∧
    wireCall F F.soap id sW echo2 [.int 1, .str "x"] [("a", .none)]
      = .ok (.seq [.none, .str "x"]) := ⟨rfl, rfl⟩

end examples

end SpyneModel.Props.C18
