/-
  C01 — XML/SOAP wire fidelity: sent values reach the function, results reach the client.
  Property theorems only, about the model `SpyneModel.Xml` / `SpyneModel.Soap` instantiated with the
  facts regenerated from /repo (`facts08`, `factsXml`, `factsSoap`).

  Reading guide. `encode cfg I ns name t v` is `XmlDocument.to_parent` (what is put on the wire for a
  message / value `v` of declared type `t`), `decode cfg I t e` is `XmlDocument.from_element`.
  `conformsOne t v` is the shared specification (Types.lean). `normOne t v` applies exactly the three
  identifications of the statement (absent optional = None is built into the value representation;
  empty unwrapped sequence = None; empty byte string = None). Hypotheses: `tyWf t` (member names are
  unique, plain identifiers; enumeration members are non-empty; occurrence bounds consistent),
  `ifaceWf I` (class names / keys unique in the interface), `fitsV` (every integer literal fits
  `max_str_len(Integer)` = 1024 characters), `parseXsiType` (the protocol default).
  The same theorem instantiated at the out-message type is "the response decodes to the value the
  function returned" (the decoder is the one the Spyne client runs).
-/
import Proofs.XmlServer
import Proofs.XmlRoundtrip
import Props.C01_ext
namespace SpyneModel.Props.C01
open SpyneModel SpyneModel.Xml SpyneModel.Generated

/-- the measured nil rule reads `xsi:nil="true"` as nil -/
theorem nil_true_is_nil : isNil factsXml [(xsiNilKey, "true".toList)] = true := isNil_true (by decide)

/-- documents that denote a value with an explicit `xsi:nil="false"` / `"0"` are not read as null
    (switch `nilRule`) -/
theorem nil_false_carries_value (rest : List (Text × Text)) :
    isNil factsXml ((xsiNilKey, "false".toList) :: rest) = false ∧
    isNil factsXml ((xsiNilKey, "0".toList) :: rest) = false :=
  ⟨(isNil_xsdBoolean (by decide) rest).1, (isNil_xsdBoolean (by decide) rest).2.1⟩

/-- validators None and lxml: every conformant value survives the wire, for every type, every
    polymorphism setting. (`lxml` validation itself is libxml2, an oracle: C06.) -/
theorem xml_roundtrip (cfg : Cfg) (hv : cfg.validator ≠ .soft) (hP : cfg.parseXsiType = true)
    (I : Iface) (hI : ifaceWf I = true) (ns name : Text) (t : Ty) (ht : tyWf t = true)
    (v : Val) (hc : conformsOne t v = true) (hf : fitsV facts08 v = true) :
    ∃ e, encode facts08 cfg I ns name t v = [e] ∧
      decode facts08 factsXml cfg I t e = .ok (normOne t v) :=
  one_rt_conforms (C01ext.rtCtx cfg hP I hI) ns name t ht v (by rw [Cfg.soft_eq_false hv, okOneX_eq]; exact hc) hf

/-- validator soft: the same for every value that conforms with an empty byte string counting as
    None (`okOneX I false true`: `conformsOne` plus "an empty byte string only where None is
    allowed", see `soft_sendable_conforms`) — the soft validator does not refuse what it should
    accept. Needs the repaired `unicode_from_element` (switch `emptyStringText`). -/
theorem xml_roundtrip_soft (cfg : Cfg) (hv : cfg.validator = .soft) (hP : cfg.parseXsiType = true)
    (I : Iface) (hI : ifaceWf I = true) (ns name : Text) (t : Ty) (ht : tyWf t = true)
    (v : Val) (hc : okOneX I false true t v = true) (hf : fitsV facts08 v = true) :
    ∃ e, encode facts08 cfg I ns name t v = [e] ∧
      decode facts08 factsXml cfg I t e = .ok (normOne t v) :=
  one_rt_conforms (C01ext.rtCtx cfg hP I hI) ns name t ht v (by rw [Cfg.soft_eq_true hv]; exact hc) hf

/-- what "sendable under soft validation" adds to the specification: nothing but the empty-bytes clause -/
theorem soft_sendable_conforms (I : Iface) (t : Ty) (v : Val) (h : okOneX I false true t v = true) :
    conformsOne t v = true := by
  rw [← okOneX_eq I]; exact okOneX_mono I (by simp) (by simp) t v h

/-- XmlDocument server (generate_contexts + get_in_object): a request for method `name` with
    conformant arguments `args` (a value of the in-message class `t`) is dispatched to `name` and the
    function receives exactly `normOne t args`; no fault, one call. -/
theorem server_request_fidelity_xml (cfg : Cfg) (hv : cfg.validator ≠ .soft) (hP : cfg.parseXsiType = true)
    (I : Iface) (hI : ifaceWf I = true) (ms : Soap.Methods) (name : Text) (t : Ty) (ht : tyWf t = true)
    (hm : ms.lookup (clark I.tns name) = some t)
    (args : Val) (hc : conformsOne t args = true) (hf : fitsV facts08 args = true) :
    ∃ e, encode facts08 cfg I I.tns name t args = [e] ∧
      Soap.xmlServerDecode facts08 factsXml cfg I ms e = .ok (clark I.tns name, normOne t args) :=
  xmlServerDecode_rt facts08 factsXml cfg I ms hm (xml_roundtrip cfg hv hP I hI I.tns name t ht args hc hf)

/-- Soap11 / Soap12 server: the same through Envelope/Body -/
theorem server_request_fidelity_soap (cfg : Cfg) (hv : cfg.validator ≠ .soft) (hP : cfg.parseXsiType = true)
    (I : Iface) (hI : ifaceWf I = true) (ver : Soap.Version) (ms : Soap.Methods) (name : Text) (t : Ty)
    (ht : tyWf t = true) (hm : ms.lookup (clark I.tns name) = some t)
    (hnf : ¬ (I.tns = Soap.envNs ver ∧ name = "Fault".toList))
    (args : Val) (hc : conformsOne t args = true) (hf : fitsV facts08 args = true) :
    ∃ e, encode facts08 cfg I I.tns name t args = [e] ∧
      Soap.soapServerDecode facts08 factsXml factsSoap cfg I ver ms (Soap.envelope ver [e]) =
        .ok (clark I.tns name, normOne t args) :=
  soapServerDecode_rt facts08 factsXml factsSoap cfg I ver ms none hm hnf
    (xml_roundtrip cfg hv hP I hI I.tns name t ht args hc hf)

/-- same two server theorems under soft validation -/
theorem server_request_fidelity_soft (cfg : Cfg) (hv : cfg.validator = .soft) (hP : cfg.parseXsiType = true)
    (I : Iface) (hI : ifaceWf I = true) (ver : Soap.Version) (ms : Soap.Methods) (name : Text) (t : Ty)
    (ht : tyWf t = true) (hm : ms.lookup (clark I.tns name) = some t)
    (hnf : ¬ (I.tns = Soap.envNs ver ∧ name = "Fault".toList))
    (args : Val) (hc : okOneX I false true t args = true) (hf : fitsV facts08 args = true) :
    ∃ e, encode facts08 cfg I I.tns name t args = [e] ∧
      Soap.xmlServerDecode facts08 factsXml cfg I ms e = .ok (clark I.tns name, normOne t args) ∧
      Soap.soapServerDecode facts08 factsXml factsSoap cfg I ver ms (Soap.envelope ver [e]) =
        .ok (clark I.tns name, normOne t args) := by
  obtain ⟨e, he, hd⟩ := xml_roundtrip_soft cfg hv hP I hI I.tns name t ht args hc hf
  exact ⟨e, he, (xmlServerDecode_request facts08 factsXml cfg I ms he hm).trans (congrArg _ hd),
    (soapServerDecode_request facts08 factsXml factsSoap cfg I ver ms none he hm hnf).trans (congrArg _ hd)⟩

/-! ### the identifications on instances: an empty byte string and an empty unwrapped sequence arrive as None,
    non-empty bytes and strings as they are. That they are the only changes is read off `norm` / `normOne`
    (SpyneModel/Xml.lean), whose other cases are the identity or the recursion into members and items. -/

theorem norm_bytes : normOne (.prim (.bytes .base64) {}) (.bytes []) = .none := by rfl
theorem norm_empty_repeated (t : Ty) (h : t.occ.repeated = true) : norm t (.list []) = .none := by
  simp [norm, h]
theorem norm_nonempty_bytes (e : BinEnc) (o : Occ) (b : Nat) (bs : List Nat) :
    normOne (.prim (.bytes e) o) (.bytes (b :: bs)) = .bytes (b :: bs) := by simp [normOne]
theorem norm_leaf_str (p : PrimTy) (o : Occ) (s : Text) : normOne (.prim p o) (.str s) = .str s := by
  simp [normOne]

/-! ### non-vacuity -/

def exInner : Ty := .obj "Inner".toList "urn:x".toList none
  [("x".toList, .prim (.integer .i8 {}) {}), ("s".toList, .prim (.unicode 0 none none []) { nillable := false, minOccurs := 1 })] {}
def exOuter : Ty := .obj "Outer".toList "urn:x".toList none
  [("i".toList, exInner), ("l".toList, .arr "integer".toList (.prim (.integer .unbounded {}) {}) {}),
   ("r".toList, .prim (.integer .unbounded {}) { maxOccurs := some 3 }), ("b".toList, .prim (.bytes .base64) {})] {}
def exVal : Val := .obj "Outer".toList
  [("i".toList, .obj "Inner".toList [("x".toList, .int (-128)), ("s".toList, .str [])]),
   ("l".toList, .list [.int 1, .none]), ("r".toList, .list []), ("b".toList, .bytes [])]

example : tyWf exOuter = true := by decide +kernel
example : conformsOne exOuter exVal = true := by rw [← okOneX_eq { classes := [] }]; decide +kernel
example : okOneX { classes := [] } false true exOuter exVal = true := by decide +kernel
example : ifaceWf { classes := [] } = true := by decide +kernel
example : normOne exOuter exVal = .obj "Outer".toList
  [("i".toList, .obj "Inner".toList [("x".toList, .int (-128)), ("s".toList, .str [])]),
   ("l".toList, .list [.int 1, .none]), ("r".toList, .none), ("b".toList, .none)] := by rfl

end SpyneModel.Props.C01
