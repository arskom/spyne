-- GENERATED: axiom audit for Props/C09*.lean
import Props.C09
#print axioms SpyneModel.Props.C09.code_join_split
#print axioms SpyneModel.Props.C09.code_split_join
#print axioms SpyneModel.Props.C09.status_dedicated
#print axioms SpyneModel.Props.C09.status_client_iff
#print axioms SpyneModel.Props.C09.status_otherwise_500
#print axioms SpyneModel.Props.C09.status_soap_500
#print axioms SpyneModel.Props.C09.detail_xml_roundtrip
#print axioms SpyneModel.Props.C09.detail_xml_normal_form
#print axioms SpyneModel.Props.C09.detail_xml_exact
#print axioms SpyneModel.Props.C09.detail_doc_roundtrip
#print axioms SpyneModel.Props.C09.fault_roundtrip_xml
#print axioms SpyneModel.Props.C09.fault_text_always_carriable
#print axioms SpyneModel.Props.C09.fault_roundtrip_soap11
#print axioms SpyneModel.Props.C09.fault_roundtrip_soap12
#print axioms SpyneModel.Props.C09.fault_roundtrip_dict
#print axioms SpyneModel.Props.C09.fault_roundtrip_msgpackrpc
#print axioms SpyneModel.Props.C09.fault_roundtrip_httprpc_partial
#print axioms SpyneModel.Props.C09.ctor_code_is_declared_partial
#print axioms SpyneModel.Props.C09.ctor_code_default
#print axioms SpyneModel.Props.C09.funnel_fault_intact
#print axioms SpyneModel.Props.C09.no_return_on_fault
#print axioms SpyneModel.Props.C09.fault_response
#print axioms SpyneModel.Props.C09.fault_arrives
#print axioms SpyneModel.Props.C09.status_preset_respected
#print axioms SpyneModel.Props.C09.fault_response_generator
#print axioms SpyneModel.Props.C09.listeners_in_try
#print axioms SpyneModel.Props.C09.funnel_listener_fault_intact
#print axioms SpyneModel.Props.C09.fault_response_listener
#print axioms SpyneModel.Props.C09.swapped_protocol_as_if_configured
#print axioms SpyneModel.Props.C09.fault_response_swapped
#print axioms SpyneModel.Props.C09.no_swap
#print axioms SpyneModel.Props.C09.aux_does_not_interfere
#print axioms SpyneModel.Props.C09.no_leak
#print axioms SpyneModel.Props.C09.other_is_internal_error
#print axioms SpyneModel.Props.C09.other_from_listener_is_internal_error
#print axioms SpyneModel.Props.C09.internal_error_decodes
#print axioms SpyneModel.Props.C09.client11_sees
#print axioms SpyneModel.Props.C09.client12_sees_partial
